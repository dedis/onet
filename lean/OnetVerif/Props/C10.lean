import OnetVerif.Model.C10
import OnetVerif.Proofs.C09Router
import OnetVerif.Shapes
import OnetVerif.Proofs.C09Pause
import OnetVerif.Proofs.C10Router
import OnetVerif.Proofs.C10Server
/-! Property C10 — closing a server is clean and safe under concurrent traffic.  One section per transition system of
the model: its invariant (here, or in `Proofs/C10Server.lean`, which also defines `LoopPc.alive`), then the property
theorems, witnesses and non-vacuity examples. -/
namespace C10

/-! ### the router: invariant of every schedule -/

/-- what holds of every connection in every reachable state -/
structure Good (fixed flag stopped : Bool) (c : Conn) : Prop where
  /-- a receive loop exists only after a successful launch -/
  a  : c.setup ≠ .ok → c.h = .none
  /-- a receive loop that is past its deferred `c.Close()` has closed the connection -/
  b  : c.h = .removing ∨ c.h = .gone → c.isOpen = false
  /-- an open connection is always somebody's: its set-up goroutine has still to register it,
  or it is listed while `Stop` has not run, or its receive loop is alive -/
  k  : fixed = true → c.isOpen = true →
        c.setup = .greeting ∨ c.setup = .pending ∨ (flag = false ∧ c.inTable = true) ∨ c.h.live = true
  /-- once the flag is set every listed connection is closed -/
  l  : flag = true → c.inTable = true → c.isOpen = false
  /-- a live receive loop's connection is listed -/
  lt : c.h.live = true → c.inTable = true
  /-- once a `Stop` has returned there is no live receive loop -/
  j  : stopped = true → c.h.live = false
  r  : c.setup = .registered → c.inTable = true

structure Inv (fixed : Bool) (s : St) : Prop where
  conns : ∀ c ∈ s.conns, Good fixed s.flag s.stopped c
  sf    : s.stopped = true → s.flag = true
  /-- a `Stop` that is in or past `wg.Wait()` has set the flag -/
  pf    : ∀ p ∈ s.stops, p ≠ .crit → s.flag = true
  nl    : s.stops ≠ [] → s.listening = false
  ss    : s.stopped = true → s.stops ≠ []

namespace Good
variable {f fl st : Bool} {c : Conn}

theorem launched (g : Good f fl st c) (hh : c.h ≠ .none) : c.setup = .ok :=
  Decidable.byContradiction fun hne => hh (g.a hne)

theorem idle (hh : c.h = .none)
    (hk : f = true → c.isOpen = true →
      c.setup = .greeting ∨ c.setup = .pending ∨ (fl = false ∧ c.inTable = true) ∨ c.h.live = true)
    (hl : fl = true → c.inTable = true → c.isOpen = false) (hr : c.setup = .registered → c.inTable = true) :
    Good f fl st c where
  a _ := hh
  b hb := by rw [hh] at hb; rcases hb with h | h <;> cases h
  k := hk
  l := hl
  lt hl := by rw [hh] at hl; cases hl
  j _ := by rw [hh]; rfl
  r := hr

theorem close (g : Good f fl st c) (fl' : Bool) : Good f fl' st { c with isOpen := false } :=
  { g with b := fun _ => rfl, k := fun _ ho => (nomatch ho), l := fun _ _ => rfl }

theorem relive (g : Good f fl st c) (hl : c.h.live = true) {h' : Handler} (hl' : h'.live = true) (ib : List Nat) :
    Good f fl st { c with h := h', inbox := ib } :=
  have hok : c.setup = .ok := g.launched fun hn => by rw [hn] at hl; cases hl
  { g with a := fun hne => absurd hok hne
           b := fun hb => by rcases hb with h | h <;> cases (h : h' = _) <;> cases hl'
           k := fun _ _ => .inr (.inr (.inr hl'))
           lt := fun _ => g.lt hl
           j := fun hs => (nomatch (g.j hs).symm.trans hl) }

/-- `hsf`: a `Stop` that has returned has set the flag, so nothing is launched after it -/
theorem move {i : Nat} {a : Act} {c' : Conn} (g : Good f fl st c) (hsf : st = true → fl = true)
    (hm : Move f fl i c a c') : Good f fl st c' := by
  cases hm with
  | identity ok hg =>
    have hn : c.h = .none := g.a (by rw [hg]; nofun)
    cases ok
    · exact .idle hn (fun _ ho => nomatch ho) (fun _ _ => rfl) nofun
    · exact .idle hn (fun _ _ => .inr (.inl rfl)) g.l nofun
  | register hg =>
    have hn : c.h = .none := g.a (by rw [hg]; nofun)
    cases fl
    · exact .idle hn (fun _ _ => .inr (.inr (.inl ⟨rfl, rfl⟩))) nofun fun _ => rfl
    · refine .idle hn (fun hf ho => ?_) (fun _ ht => ?_) nofun
      · cases hf
        cases (Bool.and_false _).symm.trans ho
      · show (c.isOpen && !f) = false
        rw [g.l rfl ht]; rfl
  | launch hg =>
    have hn : c.h = .none := g.a (by rw [hg]; nofun)
    have ht : c.inTable = true := g.r hg
    cases fl
    · exact ⟨fun hne => absurd rfl hne, fun hb => (by rcases hb with h | h <;> cases h),
        fun _ _ => .inr (.inr (.inr rfl)), nofun, fun _ => ht, fun hs => (nomatch hsf hs), nofun⟩
    · exact .idle hn (fun _ ho => nomatch (g.l rfl ht).symm.trans ho) g.l nofun
  | peerSend m _ => exact { g with }
  | peerClose _ => exact g.close fl
  | recvErr hh _ => exact g.relive (by rw [hh]; rfl) rfl _
  | recvMsg m rest hh _ _ => exact g.relive (by rw [hh]; rfl) rfl _
  | check x hh =>
    have hl : c.h.live = true := by rw [hh]; rfl
    cases fl
    · cases x
      · exact g.relive hl rfl _
      · exact g.relive hl rfl _
    · exact g.relive hl rfl _
  | hclose hh =>
    have hok := g.launched (by rw [hh]; nofun)
    exact { g with a := fun hne => absurd hok hne, b := fun _ => rfl, k := fun _ ho => (nomatch ho),
                   l := fun _ _ => rfl, lt := nofun, j := fun _ => rfl }
  | hremove hh =>
    have hok := g.launched (by rw [hh]; nofun)
    have hcl : c.isOpen = false := g.b (.inl hh)
    exact ⟨fun hne => absurd hok hne, fun _ => hcl, fun _ ho => (nomatch hcl.symm.trans ho), nofun, nofun,
      fun _ => rfl, fun hr => (nomatch hok.symm.trans hr)⟩

theorem stopCrit (g : Good f fl st c) : Good f true st (if c.inTable then { c with isOpen := false } else c) := by
  by_cases ht : c.inTable = true
  · rw [if_pos ht]; exact g.close true
  · rw [if_neg ht]
    refine { g with k := fun hf ho => ?_, l := fun _ ht' => absurd ht' ht }
    rcases g.k hf ho with h | h | h | h
    · exact .inl h
    · exact .inr (.inl h)
    · exact absurd h.2 ht
    · exact .inr (.inr (.inr h))

end Good

theorem mem_set_stop {l : List StopPc} {j : Nat} {a p : StopPc} (h : p ∈ l.set j a) : p = a ∨ p ∈ l :=
  (List.mem_or_eq_of_mem_set h).symm

/-- **every action preserves the invariant** -/
theorem inv_step {f : Bool} {s s' : St} {a : Act} (h : Inv f s) (hs : step f s a = some s') : Inv f s' := by
  cases Step.of_step hs with
  | dial =>
    refine { h with conns := List.forall_mem_concat h.conns ?_ }
    exact .idle rfl (fun _ _ => .inr (.inl rfl)) nofun nofun
  | incoming =>
    refine { h with conns := List.forall_mem_concat h.conns ?_ }
    exact .idle rfl (fun _ _ => .inl rfl) nofun nofun
  | move hc hm =>
    exact { h with conns := List.forall_mem_set h.conns ((h.conns _ (List.mem_of_getElem? hc)).move h.sf hm) }
  | dispatch hc hh =>
    refine { h with conns := List.forall_mem_set h.conns ?_ }
    exact (h.conns _ (List.mem_of_getElem? hc)).relive (by rw [hh]; rfl) rfl _
  | stopBegin =>
    refine { h with pf := fun p hp hne => ?_, nl := fun _ => rfl, ss := fun _ => List.concat_ne_nil _ _ }
    rcases List.mem_append.mp hp with hp | hp
    · exact h.pf p hp hne
    · exact absurd (List.mem_singleton.mp hp) hne
  | stopCrit hj =>
    have hne : s.stops ≠ [] := List.ne_nil_of_mem (List.mem_of_getElem? hj)
    refine ⟨fun x hx => ?_, fun _ => rfl, fun _ _ _ => rfl, fun _ => h.nl hne,
      fun _ => mt (List.set_eq_nil_iff _ _).mp hne⟩
    obtain ⟨c, hc, rfl⟩ := List.mem_map.mp hx
    exact (h.conns c hc).stopCrit
  | stopWait hj hlive =>
    have hne : s.stops ≠ [] := List.ne_nil_of_mem (List.mem_of_getElem? hj)
    have hflag : s.flag = true := h.pf .wait (List.mem_of_getElem? hj) nofun
    exact ⟨fun c hc => { h.conns c hc with j := fun _ => by simpa using List.any_eq_false.mp hlive c hc },
      fun _ => hflag, fun _ _ _ => hflag, fun _ => h.nl hne, fun _ => mt (List.set_eq_nil_iff _ _).mp hne⟩

theorem inv_run (f : Bool) (acts : List Act) : Inv f (run f {} acts) :=
  (run_skips f).inv (fun _ _ _ => inv_step) acts {}
    ⟨fun _ hc => (nomatch hc), nofun, fun _ hp => (nomatch hp), fun h => absurd rfl h, nofun⟩

/-! ### the theorems about the router -/

theorem no_dispatch {f : Bool} {s : St} (h : Inv f s) (hst : s.stopped = true) (i : Nat) :
    step f s (.dispatch i) = none := by
  cases hd : step f s (.dispatch i) with
  | none => rfl
  | some s' =>
    cases Step.of_step hd with
    | move _ hm => cases hm
    | dispatch hc hh =>
      have := (h.conns _ (List.mem_of_getElem? hc)).j hst
      rw [hh] at this; cases this

theorem stopped_step {f : Bool} {s s' : St} {a : Act} (h : Inv f s) (hst : s.stopped = true)
    (hs : step f s a = some s') : s'.stopped = true ∧ s'.log = s.log := by
  cases Step.of_step hs with
  | dispatch => cases (no_dispatch h hst _).symm.trans hs
  | stopWait => exact ⟨rfl, rfl⟩
  | _ => exact ⟨hst, rfl⟩

/-- **no dispatch after close**: for every schedule, with unboundedly many connections, once a
`Stop` call has returned no receive loop is alive, no `dispatch` action is enabled, and whatever
happens afterwards — late connections, messages still arriving, further sends, further `Stop`s —
the list of dispatched messages stays what it was when `Stop` returned. -/
theorem c10_no_dispatch_after_close (fixed : Bool) (acts : List Act) :
    let s := run fixed {} acts
    s.stopped = true →
      (∀ c ∈ s.conns, c.h.live = false) ∧
      (∀ i, step fixed s (.dispatch i) = none) ∧
      (∀ more, (run fixed s more).log = s.log ∧ (run fixed s more).stopped = true) := by
  intro s hst
  have hinv : Inv fixed s := inv_run fixed acts
  refine ⟨fun c hc => (hinv.conns c hc).j hst, no_dispatch hinv hst, fun more => ?_⟩
  have := (run_skips fixed).inv (P := fun t => Inv fixed t ∧ t.stopped = true ∧ t.log = s.log)
    (fun t t' a ⟨hi, ht, hl⟩ hs => ⟨inv_step hi hs, (stopped_step hi ht hs).1, (stopped_step hi ht hs).2.trans hl⟩)
    more s ⟨hinv, hst, rfl⟩
  exact ⟨this.2.2, this.2.1⟩

/-- **all closed**: on the current code, for every schedule: when a `Stop` has returned and
every goroutine of the router has come to rest, every connection ever opened or accepted —
before, while or after `Stop` ran — is closed. -/
theorem c10_all_closed (acts : List Act) :
    let s := run true {} acts
    s.stopped = true → quiescent s = true → ∀ c ∈ s.conns, c.isOpen = false := by
  intro s hst hq c hc
  have hinv : Inv true s := inv_run true acts
  have g := hinv.conns c hc
  have hflag := hinv.sf hst
  simp only [quiescent, Bool.and_eq_true, List.all_eq_true] at hq
  have hq1 := hq.1 c hc
  simp only [Bool.or_eq_true, beq_iff_eq] at hq1
  have hsetup : c.setup = .ok ∨ c.setup = .err := hq1.1
  have hloop : c.h = .none ∨ c.h = .gone := hq1.2
  cases ho : c.isOpen with
  | false => rfl
  | true =>
    -- an open connection has an owner (`Good.k`); at rest, with the flag set, none of the four is possible
    exfalso
    rcases g.k rfl ho with h1 | h1 | h1 | h1
    · rcases hsetup with h2 | h2 <;> simp [h1] at h2
    · rcases hsetup with h2 | h2 <;> simp [h1] at h2
    · simp [hflag] at h1
    · rcases hloop with h2 | h2 <;> simp [h2, Handler.live] at h1

/-- the code before commit d76eafc: a connection whose registration is refused because `Stop` has
run is left open for ever (`Send` after `Stop`: dial, stop, refused) — the probed leak -/
theorem c10_all_closed_needed_the_fix :
    let s := run false {} [.dial, .stopBegin, .stopCrit 0, .stopWait 0, .register 0]
    s.stopped = true ∧ quiescent s = true ∧ (s.conns.map (·.isOpen)) = [true] := by
  decide

/-- steps the set-up goroutine of a connection still has to take -/
def Setup.rank : Setup → Nat
  | .greeting => 3 | .pending => 2 | .registered => 1 | .ok => 0 | .err => 0

/-- steps a receive loop has still to take once the closed flag is set -/
def Handler.rank : Handler → Nat
  | .disp _ => 5 | .recv => 4 | .got _ => 3 | .closing => 2 | .removing => 1 | .gone => 0 | .none => 0

/-- **racing operations fail cleanly**: in every reachable state, whatever `Stop` is doing,
(1) a set-up goroutine (a `Send` that has to connect, an incoming connection) that is not
finished can always take its next step — it is never stuck — and that step brings it strictly
closer to its end, which is `ok` or `err` (`Setup.rank = 0`);
(2) the wait group is never misused: when `launchHandleRoutine` adds to it, no `Stop` is in or
past `wg.Wait()`;
(3) a `Stop` that waits is never stuck either: either `wg.Wait()` can return, or some receive
loop can take a step, and under the closed flag every step of a receive loop brings it strictly
closer to its end. -/
theorem c10_racing_ops_fail_cleanly (fixed : Bool) (acts : List Act) :
    let s := run fixed {} acts
    (∀ i c, s.conns[i]? = some c →
      (c.setup = .greeting → ∀ ok, ∃ s', step fixed s (.identity i ok) = some s' ∧
          ∃ c', s'.conns[i]? = some c' ∧ c'.setup.rank < c.setup.rank) ∧
      (c.setup = .pending → ∃ s', step fixed s (.register i) = some s' ∧
          ∃ c', s'.conns[i]? = some c' ∧ c'.setup.rank < c.setup.rank) ∧
      (c.setup = .registered → ∃ s', step fixed s (.launch i) = some s' ∧
          ∃ c', s'.conns[i]? = some c' ∧ c'.setup.rank < c.setup.rank ∧
            (c'.setup = .ok → ∀ p ∈ s.stops, p = .crit))) ∧
    (∀ j, s.stops[j]? = some .wait →
      (∃ s', step fixed s (.stopWait j) = some s') ∨
      (∃ i c, s.conns[i]? = some c ∧ c.h.live = true ∧
        ∃ a, (a = .recv i ∨ a = .check i ∨ a = .dispatch i ∨ a = .hclose i) ∧
          ∃ s', step fixed s a = some s' ∧ ∃ c', s'.conns[i]? = some c' ∧ c'.h.rank < c.h.rank)) := by
  intro s
  have hinv : Inv fixed s := inv_run fixed acts
  have hset : ∀ {i : Nat} {c : Conn} (c' : Conn), s.conns[i]? = some c → (s.setConn i c').conns[i]? = some c' :=
    fun _ hc => List.getElem?_set_self_of_some hc
  constructor
  · intro i c hc
    refine ⟨fun hg ok => ⟨_, (Step.move hc (.identity ok hg)).to_step, _, hset _ hc, ?_⟩,
      fun hg => ⟨_, (Step.move hc (.register hg)).to_step, _, hset _ hc, ?_⟩,
      fun hg => ⟨_, (Step.move hc (.launch hg)).to_step, _, hset _ hc, ?_⟩⟩
    · cases ok <;> simp [hg, Setup.rank]
    · cases s.flag <;> simp [hg, Setup.rank]
    · cases hfl : s.flag
      · refine ⟨by simp [hg, Setup.rank], fun _ p hp => ?_⟩
        -- a `Stop` in or past `wg.Wait()` would have set the flag
        exact Decidable.byContradiction fun hne => by cases hfl.symm.trans (hinv.pf p hp hne)
      · exact ⟨by simp [hg, Setup.rank], nofun⟩
  · intro j hj
    have hflag : s.flag = true := hinv.pf .wait (List.mem_of_getElem? hj) nofun
    cases hl : anyLive s.conns with
    | false => exact .inl ⟨_, (Step.stopWait hj hl).to_step⟩
    | true =>
      right
      obtain ⟨c, hcm, hlive⟩ := List.any_eq_true.mp hl
      obtain ⟨i, hc⟩ := List.getElem?_of_mem hcm
      have g := hinv.conns c hcm
      -- the loop's connection is listed, so `Stop` has closed it: `Receive` fails
      have hclosed : c.isOpen = false := g.l hflag (g.lt hlive)
      refine ⟨i, c, hc, hlive, ?_⟩
      cases hh : c.h with
      | none | removing | gone => rw [hh] at hlive; cases hlive
      | recv =>
        exact ⟨.recv i, .inl rfl, _, (Step.move hc (.recvErr hh hclosed)).to_step, _, hset _ hc, Nat.le_refl _⟩
      | got x =>
        refine ⟨.check i, .inr (.inl rfl), _, (Step.move hc (.check x hh)).to_step, _, hset _ hc, ?_⟩
        rw [hflag]; exact Nat.le_refl _
      | disp m =>
        exact ⟨.dispatch i, .inr (.inr (.inl rfl)), _, (Step.dispatch hc hh).to_step, _,
          hset { c with h := .recv } hc, Nat.le_refl _⟩
      | closing =>
        exact ⟨.hclose i, .inr (.inr (.inr rfl)), _, (Step.move hc (.hclose hh)).to_step, _, hset _ hc, Nat.le_refl _⟩

theorem Inv.stop_again {fixed : Bool} {s : St} (hinv : Inv fixed s) (hst : s.stopped = true) :
    run fixed s [.stopBegin, .stopCrit s.stops.length, .stopWait s.stops.length]
      = { s with stops := s.stops ++ [.returned] } := by
  have hflag := hinv.sf hst
  have hlisten : s.listening = false := hinv.nl (hinv.ss hst)
  have hmap : s.conns.map (fun c => if c.inTable then { c with isOpen := false } else c) = s.conns := by
    conv => rhs; rw [← List.map_id s.conns]
    apply List.map_congr_left
    intro c hc
    by_cases ht : c.inTable = true
    · -- the flag is set and `c` is listed, so `c` is closed already: closing it writes the value it has
      have hclosed : c.isOpen = false := (hinv.conns c hc).l hflag ht
      show (if c.inTable = true then { c with isOpen := false } else c) = c
      rw [if_pos ht, ← hclosed]
    · simp [ht]
  have hnl : anyLive s.conns = false := by
    simp only [anyLive, List.any_eq_false]
    intro c hc
    simpa using (hinv.conns c hc).j hst
  obtain ⟨flag, listening, conns, stops, log, stopped⟩ := s
  simp only at hst hflag hlisten hmap hnl
  subst hst hflag hlisten
  have h1 : (stops ++ [StopPc.crit])[stops.length]? = some .crit := by simp
  have h2 : ((stops ++ [StopPc.crit]).set stops.length StopPc.wait)[stops.length]? = some .wait := by
    simp
  -- the three steps on the record: `stopCrit` finds the `.crit` just appended (`h1`) and closes nothing that is open
  -- (`hmap`), `stopWait` finds `.wait` (`h2`) and no live loop (`hnl`); left is `(l ++ [x]).set l.length y = l ++ [y]`
  simp only [run, step, h1, if_true, hmap, h2, hnl, Bool.not_false, Bool.and_true, decide_true]
  simp

/-- **idempotent**: when a `Stop` has returned, a further `Stop` that finds everything at rest
runs through without waiting, panics nowhere and changes nothing: no connection, no flag, no
dispatched message — only its own record is added. -/
theorem c10_idempotent (fixed : Bool) (acts : List Act) :
    let s := run fixed {} acts
    s.stopped = true →
      run fixed s [.stopBegin, .stopCrit s.stops.length, .stopWait s.stops.length]
        = { s with stops := s.stops ++ [.returned] } := by
  intro s hst
  exact (inv_run fixed acts).stop_again hst

/-- a schedule with traffic: one outgoing and one incoming connection, messages dispatched, then
`Stop` racing with a delivery in flight; everything ends closed and at rest -/
example :
    let s := run true {} [.dial, .incoming, .identity 1 true, .register 0, .register 1, .launch 0, .launch 1,
      .peerSend 0 7, .peerSend 1 8, .recv 0, .check 0, .dispatch 0, .recv 1, .check 1,
      .stopBegin, .stopCrit 0, .dispatch 1, .recv 0, .recv 1, .check 0, .check 1,
      .hclose 0, .hclose 1, .hremove 0, .hremove 1, .stopWait 0]
    s.stopped = true ∧ quiescent s = true ∧ s.log = [(0, 7), (1, 8)] ∧ s.conns.map (·.isOpen) = [false, false] := by
  decide

/-- a `Send` that connects after `Stop`: refused, and (now) closed -/
example :
    let s := run true {} [.stopBegin, .stopCrit 0, .stopWait 0, .dial, .register 0]
    s.stopped = true ∧ quiescent s = true ∧ s.conns.map (fun c => (c.setup, c.isOpen)) = [(.err, false)] := by
  decide

/-! ### the overlay -/

structure OvGood (closed : Bool) (x : Inst) : Prop where
  /-- listed instances have been through the critical section and their reader runs -/
  ld : x.listed = true → x.decided = true
  bl : x.bound = true → x.listed = true
  /-- decided and not listed — refused because closed, or finished — means: reader stopped -/
  dr : x.decided = true → x.listed = false → x.reader = false
  cl : closed = true → x.listed = false

theorem OvGood.unlisted (closed : Bool) (x : Inst) :
    OvGood closed { x with listed := false, reader := false, bound := false } :=
  ⟨nofun, nofun, fun _ _ => rfl, fun _ => rfl⟩

theorem ovRun_skips : Sched.Skips ovStep ovRun :=
  ⟨fun _ => rfl, fun o a as => by rw [ovRun]; cases ovStep o a <;> rfl⟩

theorem ov_inv_step {o o' : Ov} {a : OvAct} (h : ∀ x ∈ o.insts, OvGood o.closed x)
    (hs : ovStep o a = some o') : ∀ x ∈ o'.insts, OvGood o'.closed x := by
  cases a with
  | create =>
    cases hs
    exact List.forall_mem_concat h ⟨nofun, nofun, nofun, fun _ => rfl⟩
  | decide i =>
    simp only [ovStep] at hs
    split at hs
    · rename_i x hx
      have g := h x (List.mem_of_getElem? hx)
      split at hs
      · cases hs
      · cases hs
        refine List.forall_mem_set h ?_
        cases hc : o.closed
        · exact ⟨fun _ => rfl, fun _ => rfl, nofun, nofun⟩
        · exact ⟨fun _ => rfl, g.bl, fun _ _ => rfl, fun _ => g.cl hc⟩
    · cases hs
  | bind i =>
    simp only [ovStep] at hs
    split at hs
    · rename_i x hx
      have g := h x (List.mem_of_getElem? hx)
      obtain ⟨hg, hs⟩ := Option.ite_none_right_eq_some.mp hs
      cases hs
      rw [Bool.and_eq_true] at hg
      exact List.forall_mem_set h { g with bl := fun _ => hg.1 }
    · cases hs
  | done i =>
    simp only [ovStep] at hs
    split at hs
    · rename_i x hx
      obtain ⟨_, hs⟩ := Option.ite_none_right_eq_some.mp hs
      cases hs
      exact List.forall_mem_set h (.unlisted _ x)
    · cases hs
  | close =>
    cases hs
    intro y hy
    obtain ⟨x, hx, rfl⟩ := List.mem_map.mp hy
    have g := h x hx
    by_cases hl : x.listed = true
    · rw [if_pos hl]; exact .unlisted _ x
    · rw [if_neg hl]; exact { g with cl := fun _ => Bool.eq_false_iff.mpr hl }

theorem ov_closed_step {o o' : Ov} {a : OvAct} (hs : ovStep o a = some o') (hc : o.closed = true) : o'.closed = true := by
  revert hs
  -- only `close` writes `closed`, and sets it
  fun_cases ovStep o a <;> rintro ⟨⟩ <;> first | exact hc | rfl

theorem ov_inv_run (acts : List OvAct) : ∀ x ∈ (ovRun {} acts).insts, OvGood (ovRun {} acts).closed x :=
  ovRun_skips.inv (P := fun o => ∀ x ∈ o.insts, OvGood o.closed x)
    (fun _ _ _ => ov_inv_step) acts {} nofun

/-- **no instance after close**: for every interleaving of instance creations (local protocol
starts, instances created for incoming messages), bindings, `Done`s and `Overlay.Close`, with
unboundedly many instances: once `Close` has been through, and for ever after, no instance is
listed, none has a protocol bound to it, `RegisterProtocolInstance` is refused for every
instance, and every instance whose creation has completed — whether it began before or after
`Close` — has no reader goroutine any more. -/
theorem c10_no_instance_after_close (acts : List OvAct) :
    let o := ovRun {} acts
    o.closed = true →
      (∀ x ∈ o.insts, x.listed = false ∧ x.bound = false ∧ (x.decided = true → x.reader = false)) ∧
      (∀ i, ovStep o (.bind i) = none) ∧
      (∀ more, (ovRun o more).closed = true) := by
  intro o hc
  have hinv := ov_inv_run acts
  have hall : ∀ x ∈ o.insts, x.listed = false ∧ x.bound = false ∧ (x.decided = true → x.reader = false) := by
    intro x hx
    obtain ⟨g1, g2, g3, g4⟩ := hinv x hx
    have hl := g4 hc
    refine ⟨hl, ?_, fun hd => g3 hd hl⟩
    cases hb : x.bound with
    | false => rfl
    | true => simp [g2 hb] at hl
  refine ⟨hall, ?_, fun more => (ovRun_skips.inv (P := fun o => (∀ x ∈ o.insts, OvGood o.closed x) ∧ o.closed = true)
    (fun _ _ _ h hs => ⟨ov_inv_step h.1 hs, ov_closed_step hs h.2⟩) more o ⟨hinv, hc⟩).2⟩
  intro i
  simp only [ovStep]
  cases hi : o.insts[i]? with
  | none => rfl
  | some x => simp [(hall x (List.mem_of_getElem? hi)).1]

/-- before commit 2493f6e the overlay had no closed state: an instance created after `Close` was
listed and kept its reader — in this model: `decide` without the `closed` test.  The witness is
what the probe did on the real code: close, then start. -/
theorem c10_start_after_close_is_refused :
    ovRun {} [.close, .create, .decide 0, .bind 0] =
      { closed := true, insts := [{ decided := true, listed := false, reader := false, bound := false }] } := by
  decide

/-! ### the tree store -/

def cleanerRank : Cleaner → Nat
  | .armed _ => 2 | .fired => 1 | .done => 0

def closeRank : ClosePc → Nat
  | .idle => 3 | .locked => 2 | .waiting => 1 | .returned => 0

theorem tsMeasure_eq (t : Ts) : tsMeasure t = (t.cleaners.map cleanerRank).sum + closeRank t.close := rfl

/-- every step of a cleaner or of `Close` uses up the measure; arming does not add to it once
the store is closed -/
theorem ts_step_measure {u : Bool} {t t' : Ts} {a : TsAct} (hs : tsStep u t a = some t') :
    (a ≠ .arm → tsMeasure t' < tsMeasure t) ∧ (t.closed = true → tsMeasure t' ≤ tsMeasure t) := by
  have of_lt : tsMeasure t' < tsMeasure t →
      (a ≠ .arm → tsMeasure t' < tsMeasure t) ∧ (t.closed = true → tsMeasure t' ≤ tsMeasure t) :=
    fun h => ⟨fun _ => h, fun _ => Nat.le_of_lt h⟩
  cases a with
  | arm =>
    refine ⟨fun h => absurd rfl h, fun hc => ?_⟩
    simp only [tsStep, hc, if_true] at hs
    split at hs <;> cases hs
    exact Nat.le_refl _
  | fire i =>
    simp only [tsStep] at hs
    split at hs
    · rename_i hi; cases hs
      exact of_lt (Nat.add_lt_add_right (List.sum_map_set_lt cleanerRank (b := .fired) hi (Nat.le_refl 2)) _)
    · cases hs
  | cleanup i =>
    simp only [tsStep] at hs
    split at hs
    · cases hs
    · split at hs
      · rename_i hi; cases hs
        exact of_lt (Nat.add_lt_add_right (List.sum_map_set_lt cleanerRank (b := .done) hi (Nat.le_refl 1)) _)
      · cases hs
  | cancel i =>
    simp only [tsStep] at hs
    split at hs
    · rename_i hi; cases hs
      exact of_lt (Nat.add_lt_add_right (List.sum_map_set_lt cleanerRank hi (by decide)) _)
    · cases hs
  | lock =>
    obtain ⟨hg, hs⟩ := Option.ite_none_right_eq_some.mp hs
    cases hs
    refine of_lt ?_
    -- closing the cancel channels changes no cleaner's rank
    rw [tsMeasure_eq, tsMeasure_eq, hg, List.map_map,
      List.map_congr_left (g := cleanerRank) fun c _ => by cases c <;> rfl]
    exact Nat.add_lt_add_left (Nat.le_refl 3) _
  | unlock =>
    obtain ⟨hg, hs⟩ := Option.ite_none_right_eq_some.mp hs
    cases hs
    rw [Bool.and_eq_true, decide_eq_true_eq] at hg
    exact of_lt (Nat.add_lt_add_left (show closeRank .waiting < closeRank t.close by rw [hg.1]; decide) _)
  | wait =>
    obtain ⟨hg, hs⟩ := Option.ite_none_right_eq_some.mp hs
    cases hs
    simp only [Bool.and_eq_true, Bool.or_eq_true, decide_eq_true_eq] at hg
    refine of_lt (Nat.add_lt_add_left (show closeRank .returned < closeRank t.close from ?_) _)
    rcases hg.1 with h | h
    · rw [h]; decide
    · rw [h.1]; decide

/-- **`Close` of the tree store terminates** (current order: unlock, then wait — commit 148f173):
in every state in which `Close` has started and not returned, `Close` or one of the cleaning
goroutines can take a step — whatever timers have fired meanwhile, with any number of cleaners —
and every such step uses up a measure that nothing increases after `Close` has taken the lock. So
`Close`, and with it `Overlay.Close` and `Server.Close`, returns after at most `tsMeasure` steps. -/
theorem c10_close_terminates (acts : List TsAct) :
    let t := tsRun true {} acts
    ((t.close = .locked ∨ t.close = .waiting) →
      (∃ t', tsStep true t .unlock = some t') ∨ (∃ t', tsStep true t .wait = some t') ∨
      (∃ i t', tsStep true t (.fire i) = some t') ∨ (∃ i t', tsStep true t (.cleanup i) = some t')) ∧
    (∀ a t', tsStep true t a = some t' →
      (a ≠ .arm → tsMeasure t' < tsMeasure t) ∧ (t.closed = true → tsMeasure t' ≤ tsMeasure t)) := by
  intro t
  refine ⟨?_, fun a t' hs => ts_step_measure hs⟩
  intro hc
  rcases hc with hc | hc
  · left; exact ⟨{ t with close := .waiting }, by simp [tsStep, hc]⟩
  · cases hall : t.cleaners.all (· == .done) with
    | true => right; left; exact ⟨{ t with close := .returned }, by simp [tsStep, hc, hall]⟩
    | false =>
      right; right
      simp only [List.all_eq_false] at hall
      obtain ⟨c, hcm, hnd⟩ := hall
      obtain ⟨i, hci⟩ := List.getElem?_of_mem hcm
      cases c with
      | armed b => left; exact ⟨i, { t with cleaners := t.cleaners.set i .fired }, by simp [tsStep, hci]⟩
      | fired => right; exact ⟨i, { t with cleaners := t.cleaners.set i .done }, by simp [tsStep, hci, hc]⟩
      | done => simp at hnd

/-- the order before the fix (wait while holding the lock): a cleaner whose timer fires just
before `Close` takes the lock can never take it; `Close` waits for that cleaner for ever.  No
action is enabled — the probed hang (`onet_c10_treestorage_close_hang_probe_test.go`). -/
theorem c10_treestore_old_order_deadlocks :
    let t := tsRun false {} [.arm, .fire 0, .lock]
    t.close = .locked ∧ t.cleaners = [.fired] ∧
    tsStep false t .unlock = none ∧ tsStep false t .wait = none ∧ tsStep false t (.cleanup 0) = none ∧
    tsStep false t (.cancel 0) = none ∧ tsStep false t (.fire 0) = none := by
  decide

/-- the tree store: two cleaners, one timer fires while `Close` holds the lock — it still ends -/
example : (tsRun true {} [.arm, .arm, .fire 0, .lock, .unlock, .cleanup 0, .cancel 1, .wait]).close = .returned := by
  decide

/-! ### `Server.Close` as a whole -/

/-- closing twice: the second `Server.Close` finds every part closed, changes nothing, cannot
panic (there is no such outcome), and at worst returns the error of the already removed file -/
theorem c10_server_close_idempotent (s : Srv) :
    (serverClose (serverClose s).1).1 = (serverClose s).1 ∧
    (serverClose s).1 = { started := false, routerUp := false, wsStarted := false, ovClosed := true,
                          tsClosed := true, dbOpen := false, dbFile := false } := by
  simp [serverClose]


/-- **a delivery in flight that uses the database after `Close` fails cleanly**: whatever state the
server is in, a `Save` / `Load` completes or is refused with an error; after `Server.Close` — once or
repeatedly — it is refused; it never panics -/
theorem c10_db_use_after_close_fails_cleanly (s : Srv) :
    dbUse false s ≠ .panic ∧ dbUse false (serverClose s).1 = .err ∧
    dbUse false (serverClose (serverClose s).1).1 = .err := by
  cases s with
  | mk a b c d e f g => cases f <;> simp [dbUse, serverClose]

/-- the variant that drops the handle after closing it: the late use dereferences nil -/
theorem c10_db_handle_must_stay :
    dbUse true (serverClose { started := true, routerUp := true, wsStarted := true, ovClosed := false,
                              tsClosed := false, dbOpen := true, dbFile := true }).1 = .panic := by
  decide

/-- **a delivery that arrives after `Close` reaches no user code**: whatever routine hands a peer
message to `TransmitMsg` once the server is closed — `Router.Stop` does not wait for the hand-over
of parked messages — no constructor runs and no `Dispatch` routine is started, bound to a service
or not; on a running server whatever is started is also listed (so that it will be shut down) -/
theorem c10_late_hand_over_reaches_no_user_code (serviceBound closed : Bool) :
    (closed = true → lateHandOver true closed serviceBound = ⟨false, false, false⟩) ∧
    ((lateHandOver true closed serviceBound).dispatching = true →
      (lateHandOver true closed serviceBound).registered = true) := by
  cases serviceBound <;> cases closed <;> decide

/-- the variant that tests `server.Closed()` only on the path of service-bound protocols: a protocol
that is not bound to a service is constructed on the closed node and its `Dispatch` is started,
listed nowhere -/
theorem c10_closed_test_must_come_first :
    lateHandOver false true false = ⟨true, true, false⟩ := by decide

/-! ### `Server.Start` / `Server.Close`: the token on `closeitChannel` -/

/-- **any number of concurrent `Server.Close` calls get past the hand-shake with `Start`, and exactly
one of them performs it**: for every interleaving of one `Start` and unboundedly many `Close` calls
(the code as it is: the server's mutex is held from the test of `IsStarted` to its reset),
(1) no `Close` call is ever stuck: one that waits for the mutex can take it, or its holder — blocked
in the send — is served by `Start` (which reaches its receive by itself); one that is sending is
served; (2) every step of `Start` and of a `Close` call uses up `hsMeasure`, which only a new call
increases; (3) `Start` takes at most one token: the flag is reset under the same mutex, so no second
call ever sends. -/
theorem c10_close_handshake_terminates (acts : List HsAct) :
    let s := hsRun true {} acts
    (∀ j, s.closers[j]? = some .want →
      (∃ s', hsStep true s (.closeLock j) = some s') ∨
      (∃ k, s.lock = some k ∧ ((∃ s', hsStep true s .startWait = some s') ∨
        (∃ s', hsStep true s (.handshake k) = some s') ∨ (∃ s', hsStep true s (.closeUnlock k) = some s')))) ∧
    (∀ j, s.closers[j]? = some .sending →
      (∃ s', hsStep true s .startWait = some s') ∨ (∃ s', hsStep true s (.handshake j) = some s')) ∧
    (∀ j, s.closers[j]? = some .unlock → ∃ s', hsStep true s (.closeUnlock j) = some s') ∧
    (∀ j, s.closers[j]? = some .rest → ∃ s', hsStep true s (.closeRest j) = some s') ∧
    (∀ a s', hsStep true s a = some s' → a ≠ .closeCall → hsMeasure s' < hsMeasure s) ∧
    s.shutdowns ≤ 1 ∧ (s.shutdowns = 1 ↔ s.start = .returned) ∧
    (∀ j k : Nat, s.closers[j]? = some ClPc.sending → s.closers[k]? = some ClPc.sending → j = k) := by
  intro s
  have hinv : HsInv s := hs_inv_run acts
  have sending : ∀ j, s.closers[j]? = some .sending →
      (∃ s', hsStep true s .startWait = some s') ∨ (∃ s', hsStep true s (.handshake j) = some s') := by
    intro j hj
    rcases hinv.st (hinv.snd _ (List.mem_of_getElem? hj) rfl) with h | h
    · left; exact Option.isSome_iff_exists.mp (by simp [hsStep, h])
    · right; exact Option.isSome_iff_exists.mp (by simp [hsStep, hj, h])
  refine ⟨?_, sending, ?_, ?_, fun a s' hs ha => hs_step_measure hs ha, hinv.shutdowns.1, hinv.shutdowns.2, ?_⟩
  · intro j hj
    cases hl : s.lock with
    | none =>
      left
      have he : (hsStep true s (.closeLock j)).isSome = true := by
        simp only [hsStep, hj, hl, and_self, if_true]
        split
        · rfl
        · rfl
      exact Option.isSome_iff_exists.mp he
    | some k =>
      right
      refine ⟨k, rfl, ?_⟩
      obtain ⟨p, hp, hh⟩ := (hinv.lock k).mp hl
      cases p with
      | sending => exact (sending k hp).imp_right .inl
      | unlock => exact .inr (.inr (Option.isSome_iff_exists.mp (by simp [hsStep, hp])))
      | _ => cases hh
  · intro j hj; exact Option.isSome_iff_exists.mp (by simp [hsStep, hj])
  · intro j hj; exact Option.isSome_iff_exists.mp (by simp [hsStep, hj])
  · intro j k hj hk
    exact Option.some.inj ((hinv.lock.eq_some hj rfl).symm.trans (hinv.lock.eq_some hk rfl))

/-- the variant that releases the mutex between reading `IsStarted` and sending: two overlapping
`Close` calls both see the flag set and both send; `Start` takes one token and returns; the second
call is blocked in its send for ever — no action of the system can serve it -/
theorem c10_close_handshake_needs_the_lock :
    let s := hsRun false {} [.startCall, .startFlag, .startWait, .closeCall, .closeCall,
                             .closeLock 0, .closeLock 1, .handshake 0, .closeUnlock 0, .closeRest 0]
    s.closers = [.returned, .sending] ∧ s.start = .returned ∧
    hsStep false s (.handshake 1) = none ∧ hsStep false s .startWait = none ∧
    hsStep false s .startCall = none ∧ hsStep false s .startFlag = none := by
  decide


/-- the hand-shake with traffic: `Start` is waiting, three `Close` calls overlap; the first to take the
mutex sends, `Start` returns, the others find the flag reset; all return, one shutdown -/
example :
    let s := hsRun true {} [.startCall, .startFlag, .closeCall, .closeCall, .closeLock 1, .closeLock 0,
      .handshake 1, .startWait, .closeCall, .closeLock 2, .handshake 1, .closeLock 0, .closeUnlock 1,
      .closeLock 0, .closeLock 2, .closeRest 0, .closeRest 1, .closeRest 2]
    s.closers = [.returned, .returned, .returned] ∧ s.shutdowns = 1 ∧ s.start = .returned ∧ s.lock = none := by
  decide

/-! ### the client side: `WebSocket.start` / `WebSocket.stop` -/

/-- **`WebSocket.stop` always comes back**: for every interleaving of the websocket's `start` and
unboundedly many `stop` calls, (1) a `stop` that waits for the mutex can take it, or its holder can
move: `start` (inside its critical section) releases it, another `stop` (blocked in `<-startstop`)
is served by `start`, which is blocked in its send at that moment; (2) a `stop` that has shut the
server down and waits for the token is served; (3) every step of `start` and of a `stop` uses up
`wsMeasure`, which only a new call increases. -/
theorem c10_ws_stop_terminates (acts : List WsAct) :
    let s := wsRun {} acts
    (∀ j, s.stops[j]? = some .want →
      (∃ s', wsStep s (.stopLock j) = some s') ∨
      (s.lock = some .start ∧ ∃ s', wsStep s .startUnlock = some s') ∨
      (∃ k, s.lock = some (.stop k) ∧ ∃ s', wsStep s (.handshake k) = some s')) ∧
    (∀ j, s.stops[j]? = some .shutting → ∃ s', wsStep s (.handshake j) = some s') ∧
    (∀ a s', wsStep s a = some s' → a ≠ .stopCall → wsMeasure s' < wsMeasure s) := by
  intro s
  have hinv : WsInv s := ws_inv_run acts
  have shut : ∀ j, s.stops[j]? = some .shutting → ∃ s', wsStep s (.handshake j) = some s' := by
    intro j hj
    exact Option.isSome_iff_exists.mp (by simp [wsStep, hj, (hinv.shutting hj).2])
  refine ⟨?_, shut, fun a s' hs ha => ws_step_measure hs ha⟩
  intro j hj
  cases hl : s.lock with
  | none =>
    left
    have he : (wsStep s (.stopLock j)).isSome = true := by
      simp only [wsStep, hj, hl, and_self, if_true]
      split
      · rfl
      · rfl
    exact Option.isSome_iff_exists.mp he
  | some hd =>
    right
    cases hd with
    | start =>
      left
      exact ⟨rfl, Option.isSome_iff_exists.mp (by simp [wsStep, hinv.lk1.mp hl])⟩
    | stop k =>
      right
      exact ⟨k, rfl, shut k (hinv.holder hl)⟩

/-- **the client-side port is given back**: in every reachable state the HTTP server's goroutine
holds the port only while the websocket counts as started and no `stop` is inside its critical
section; so once `start` has returned — which is what a `stop` that found the websocket started
brings about before it returns — the port is free, `started` is reset and the mutex is free. -/
theorem c10_ws_port_released (acts : List WsAct) :
    let s := wsRun {} acts
    (s.serving = true → s.started = true ∧ (s.start = .locked ∨ s.start = .sending)) ∧
    (s.start = .returned → s.serving = false ∧ s.started = false ∧ s.lock = none) ∧
    (∀ j : Nat, s.stops[j]? = some WsStopPc.shutting → s.serving = false) := by
  intro s
  have hinv : WsInv s := ws_inv_run acts
  refine ⟨fun hv => ⟨(hinv.sv hv).1, hinv.st.mp (hinv.sv hv).1⟩, ?_, ?_⟩
  · intro hr
    have hst : s.started = false := Bool.eq_false_iff.mpr fun h => by
      rcases hinv.st.mp h with e | e <;> cases hr.symm.trans e
    refine ⟨Bool.eq_false_iff.mpr fun h => Bool.eq_false_iff.mp hst (hinv.sv h).1, hst, ?_⟩
    cases hl : s.lock with
    | none => rfl
    | some hd =>
      cases hd with
      | start => cases hr.symm.trans (hinv.lk1.mp hl)
      | stop k => cases hr.symm.trans (hinv.shutting (hinv.holder hl)).2
  · intro j hj
    exact Bool.eq_false_iff.mpr fun h => by
      cases (stopHolder_eq_some.mpr (hinv.shutting hj).1).symm.trans (hinv.sv h).2

/-- **a further `stop` changes nothing**: once `start` has returned, every later `stop` takes the
free mutex, finds `started` reset and returns; no second `Shutdown`, no wait for a token that nobody
sends. -/
theorem c10_ws_stop_idempotent (acts : List WsAct) :
    let s := wsRun {} acts
    s.start = .returned → ∀ j, s.stops[j]? = some .want →
      wsStep s (.stopLock j) = some { s with stops := s.stops.set j .returned } := by
  intro s hr j hj
  have h := (c10_ws_port_released acts).2.1 hr
  have hl : s.lock = none := h.2.2
  have hst : s.started = false := h.2.1
  simp [wsStep, hj, hl, hst]

/-- outside the property's quantifier (a `Close` that overtakes `Start`): a `stop` that runs before the
websocket's `start` finds nothing to stop and returns; the `start` that follows opens the port and
blocks for a token no finished `stop` will take — only a new `stop` call ends it -/
theorem c10_ws_stop_before_start_leaves_port :
    let s := wsRun {} [.stopCall, .stopLock 0, .startLock, .startUnlock]
    s.stops = [.returned] ∧ s.serving = true ∧ s.start = .sending ∧
    wsStep s (.handshake 0) = none ∧ wsStep s (.stopLock 0) = none := by
  decide

/-- non-vacuity: the usual life — `start`, then two overlapping `stop` calls — ends with the port
free, `start` returned, one `Shutdown` -/
example :
    let s := wsRun {} [.startLock, .stopCall, .stopLock 0, .startUnlock, .stopCall, .stopLock 1, .stopLock 0,
                       .handshake 1, .handshake 0, .stopLock 0]
    s.stops = [.returned, .returned] ∧ s.serving = false ∧ s.start = .returned ∧ s.shutdowns = 1 ∧
    s.lock = none := by decide


/-! ### the connection table with several connections per peer -/

def TblRefines (l l' : List C09.Conn) : Prop := (l.map (·.id)).Nodup ∧ ∀ x, x ∈ l ↔ x ∈ l'

theorem tbl_step_refines {l l' : List C09.Conn} (h : TblRefines l l') (a : TblAct) :
    TblRefines (tblStep false l a) (tblSpecStep l' a) := by
  obtain ⟨hn, hm⟩ := h
  cases a with
  | register i p =>
    -- both sides test whether the id is taken, and the two lists have the same members
    have hany : l.any (·.id == i) = l'.any (·.id == i) :=
      Bool.eq_iff_iff.mpr (by simp only [List.any_eq_true, hm])
    simp only [tblStep, tblSpecStep, ← hany]
    cases h : l.any (·.id == i)
    · -- the id is free: both append the new connection; the ids stay distinct because an entry of `l`
      -- with the id `i` would make the test `h` true
      simp only [Bool.false_eq_true, if_false]
      refine ⟨?_, fun x => by simp [hm x]⟩
      rw [List.map_append, List.nodup_append]
      refine ⟨hn, by simp, ?_⟩
      intro a ha b hb hab
      simp only [List.map_cons, List.map_nil, List.mem_singleton] at hb
      obtain ⟨y, hy, hyi⟩ := List.mem_map.mp ha
      have : l.any (·.id == i) = true := List.any_eq_true.mpr ⟨y, hy, by simp [hyi, hab, hb]⟩
      cases h.symm.trans this
    · -- the id is taken: neither side changes
      simp only [if_true]
      exact ⟨hn, hm⟩
  | remove i =>
    simp only [tblStep, tblSpecStep, Bool.false_and, Bool.false_eq_true, if_false]
    cases hf : l.find? (·.id == i) with
    | none =>
      refine ⟨hn, fun x => ?_⟩
      have hnone := List.find?_eq_none.mp hf
      simp only [List.mem_filter, ← hm x]
      exact ⟨fun hx => ⟨hx, by simpa using hnone x hx⟩, fun h => h.1⟩
    | some c =>
      have hc : c ∈ l := List.mem_of_find?_eq_some hf
      have hci : c.id = i := by simpa using List.find?_some hf
      refine ⟨C09.removeSwap_nodup l c hc hn, fun x => ?_⟩
      rw [C09.mem_removeSwap l c hc hn x, List.mem_filter, ← hm x, hci]
      simp

/-- **the table lists exactly the connections that live** (refinement to a set with insert and
erase): after any sequence of registrations and removals — any number of connections per peer, in any
order — a connection is in the table iff it was registered and not removed since; in particular the
loop of `Router.Stop` over the table closes every connection whose receive loop `Stop` then waits
for. -/
theorem c10_table_lists_exactly_the_live (acts : List TblAct) :
    ((tblRun false [] acts).map (·.id)).Nodup ∧
    ∀ x, x ∈ tblRun false [] acts ↔ x ∈ tblSpecRun [] acts := by
  suffices h : ∀ l l', TblRefines l l' → TblRefines (tblRun false l acts) (tblSpecRun l' acts) from
    h [] [] ⟨.nil, fun _ => .rfl⟩
  induction acts with
  | nil => exact fun _ _ h => h
  | cons a as ih => exact fun _ _ h => ih _ _ (tbl_step_refines h a)

/-- the variant that deletes the peer's entry when one connection remains: two connections with
one peer, the first ends — the table is empty although the second lives; `Stop` closes nothing and
waits for that connection's receive loop -/
theorem c10_table_must_keep_the_last_entry :
    tblRun true [] [.register 0 1, .register 1 1, .remove 0] = [] ∧
    tblSpecRun [] [.register 0 1, .register 1 1, .remove 0] = [{ id := 1, peer := 1, alive := true }] := by
  decide

/-- non-vacuity: three connections with one peer and one with another; the first and the third of
the peer end — its second one and the other peer's are listed -/
example : (tblRun false [] [.register 0 1, .register 1 1, .register 2 2, .register 3 1, .remove 0, .remove 3]).map (·.id) = [2, 1] := by
  decide

/-! ### the listeners -/

/-- a `Stop` call that holds the lock can go on, or the accept loop it waits for can, and each step
of the loop brings the loop closer to its end -/
def LnHolderMoves (s : Ln) (k : Nat) : Prop :=
  (∃ s', lnStep s (.quitShake k) = some s') ∨ (∃ s', lnStep s (.stopFinish k) = some s') ∨
  (∃ s', lnStep s .acceptErr = some s' ∧ s'.loop.rank < s.loop.rank) ∨
  (∃ s', lnStep s .checkQuit = some s' ∧ s'.loop.rank < s.loop.rank)

/-- **`TCPListener.Stop` terminates, under any interleaving with `Listen`, incoming connections and
further `Stop` calls**: in every reachable state (1) a `Stop` call that wants the lock can take it, or
the call that holds it can move; (2) a call that waits for the accept loop is answered: the loop is
alive, the socket and `quit` are closed, so `Accept` fails, the `select` sees `quit` closed, and the
loop sends on `quitListener` — three steps, each enabled, after which the hand-shake is; (3) a call
past the hand-shake finishes; (4) `close(t.quit)` never meets a closed channel (it would panic):
whenever the lock is free the channel is open. -/
theorem c10_listener_stop_terminates (acts : List LnAct) :
    let s := lnRun {} acts
    (∀ j : Nat, s.stops[j]? = some LnStopPc.want →
      (∃ s', lnStep s (.stopLock j) = some s') ∨ (∃ k, s.lock = some k ∧ LnHolderMoves s k)) ∧
    (∀ j : Nat, s.stops[j]? = some LnStopPc.waiting → LnHolderMoves s j) ∧
    (∀ j : Nat, s.stops[j]? = some LnStopPc.finishing → ∃ s', lnStep s (.stopFinish j) = some s') ∧
    (∀ j s', lnStep s (.stopLock j) = some s' → s.quitClosed = false) := by
  intro s
  have hinv : LnInv s := ln_inv_run acts
  have waiting : ∀ j : Nat, s.stops[j]? = some LnStopPc.waiting → LnHolderMoves s j := by
    intro j hj
    have hal : s.loop.alive = true := hinv.sync _ (List.mem_of_getElem? hj) rfl
    have hq : s.quitClosed = true := hinv.qc.trans (congrArg Option.isSome (hinv.lock.eq_some hj rfl))
    cases hl : s.loop with
    | none | returned => rw [hl] at hal; cases hal
    | accepting =>
      right; right; left
      exact ⟨{ s with loop := .gotErr }, by simp [lnStep, hl], by simp [hl, LoopPc.rank]⟩
    | gotErr =>
      right; right; right
      exact ⟨{ s with loop := .sendQuit }, by simp [lnStep, hl, hq], by simp [hl, LoopPc.rank]⟩
    | sendQuit => left; exact Option.isSome_iff_exists.mp (by simp [lnStep, hj, hl])
  have finishing : ∀ j : Nat, s.stops[j]? = some LnStopPc.finishing → ∃ s', lnStep s (.stopFinish j) = some s' := by
    intro j hj; exact Option.isSome_iff_exists.mp (by simp [lnStep, hj])
  refine ⟨?_, waiting, finishing, ?_⟩
  · intro j hj
    cases hl : s.lock with
    | none => left; exact Option.isSome_iff_exists.mp (by simp [lnStep, hj, hl])
    | some k =>
      right
      refine ⟨k, rfl, ?_⟩
      obtain ⟨p, hp, hh⟩ := (hinv.lock k).mp hl
      cases p with
      | waiting => exact waiting k hp
      | finishing => exact .inr (.inl (finishing k hp))
      | _ => cases hh
  · intro j s' hs
    exact hinv.qc.trans (congrArg Option.isSome (Option.ite_none_right_eq_some.mp hs).1.2)

/-- **after `Stop` the listener hands out nothing**: once a `Stop` call has returned the socket is
closed, the accept loop has ended, `listening` is false and `closed` is true; `accept` is disabled and
stays so whatever follows (late `Listen`, further `Stop`s): the number of connections handed to the
callback never moves again -/
theorem c10_listener_no_accept_after_stop (acts : List LnAct) :
    let s := lnRun {} acts
    s.stopped = true →
      s.sockOpen = false ∧ s.listening = false ∧ s.closed = true ∧ s.loop.alive = false ∧
      lnStep s .accept = none ∧
      (∀ more, (lnRun s more).handed = s.handed ∧ (lnRun s more).stopped = true) := by
  intro s hst
  have hinv : LnInv s := ln_inv_run acts
  have h9 := hinv.stp hst
  refine ⟨h9.2.1, h9.2.2.2, h9.1, h9.2.2.1, by simp [lnStep, h9.2.1], ?_⟩
  intro more
  have := lnRun_skips.inv (P := fun t => LnInv t ∧ t.stopped = true ∧ t.handed = s.handed)
    (fun t t' a ⟨hi, ht, hh⟩ hs =>
      ⟨ln_inv_step hi hs, (ln_stopped_step hi ht hs).1, (ln_stopped_step hi ht hs).2.trans hh⟩)
    more s ⟨hinv, hst, rfl⟩
  exact ⟨this.2.2, this.2.1⟩

/-- **`Stop` is idempotent**: after a `Stop` has returned, a further one (finding the lock free)
takes the lock, closes the fresh `quit` channel and the already closed socket, does not wait — nobody
listens — and leaves every field as it was -/
theorem c10_listener_stop_idempotent (acts : List LnAct) :
    let s := lnRun {} acts
    s.stopped = true → s.lock = none →
      lnRun s [.stopCall, .stopLock s.stops.length, .stopFinish s.stops.length]
        = { s with stops := s.stops ++ [.returned] } := by
  intro s hst hl
  have hinv : LnInv s := ln_inv_run acts
  have h9 := hinv.stp hst
  have hq : s.quitClosed = false := hinv.qc.trans (congrArg Option.isSome hl)
  obtain ⟨lock, listening, closed, quitClosed, sockOpen, loop, stops, handed, stopped⟩ := s
  simp only at hst hl h9 hq
  obtain ⟨hc, hso, _, hli⟩ := h9
  subst hst hl hc hso hli hq
  have e1 : (stops ++ [LnStopPc.want])[stops.length]? = some .want := by simp
  have e2 : ((stops ++ [LnStopPc.want]).set stops.length LnStopPc.finishing)[stops.length]? = some .finishing := by simp
  -- the three steps on the record of a stopped listener with the lock free: `stopLock` finds the `.want` just appended
  -- (`e1`) and, nobody listening, goes to `.finishing` without waiting; `stopFinish` finds that (`e2`), resets `quit`
  -- and gives the lock back; left is `(l ++ [x]).set l.length y = l ++ [y]`
  simp only [lnRun, lnStep, e1, and_self, if_true, Bool.false_eq_true, if_false, e2]
  simp

/-! the in-memory listener: every operation is one critical section -/

/-- **the in-memory listener**: in every reachable state `Stop` ends with nobody listening and no
`Listen` call blocked, a further `Stop` changes nothing, and no connection is handed to the callback
any more -/
theorem c10_local_listener_stop (acts : List LlAct) :
    let t := llStep (llRun {} acts) .stop
    t.listening = false ∧ t.blocked = 0 ∧ llStep t .stop = t ∧ llStep t .connect = t := by
  intro t
  have hinv := ll_inv_run {} (by simp) acts
  have ⟨hl, hb⟩ : t.listening = false ∧ t.blocked = 0 := by
    simp only [t, llStep]; split
    · exact ⟨rfl, rfl⟩
    · rename_i h
      have hl := Bool.not_eq_true _ ▸ h
      exact ⟨hl, hinv hl⟩
  exact ⟨hl, hb, by simp [llStep, hl], by simp [llStep, hl]⟩

/-- **an `Accept` error does not end the listener**: as long as nobody stops it, after any number of
failed `Accept` calls (out of file descriptors, aborted connections) the loop is back in `Accept`,
the state is what it was, and the next connection is handed to the callback -/
theorem c10_listener_survives_accept_errors (s : Ln) (k : Nat)
    (hl : s.loop = .accepting) (hq : s.quitClosed = false) :
    lnRun s (List.replicate k [LnAct.acceptErr, .checkQuit]).flatten = s ∧
    (s.sockOpen = true → ∃ s', lnStep s .accept = some s' ∧ s'.handed = s.handed + 1) := by
  have one : ∀ rest, lnRun s (LnAct.acceptErr :: .checkQuit :: rest) = lnRun s rest := by
    intro rest
    cases s with
    | mk lock listening closed quitClosed sockOpen loop stops handed stopped =>
      simp only at hl hq
      subst hl hq
      simp [lnRun, lnStep]
  constructor
  · induction k with
    | zero => simp [lnRun]
    | succ n ih =>
      rw [List.replicate_succ, List.flatten_cons]
      simp only [List.cons_append, List.nil_append]
      rw [one]; exact ih
  · intro ho
    exact ⟨{ s with handed := s.handed + 1 }, by simp [lnStep, hl, ho], rfl⟩

/-- the variant that returns from `listen` on such an error: one failed `Accept`, later a `Stop` —
the call holds `listeningLock`, waits on `quitListener`, and no action of the system can ever serve
it: `Router.Stop` and `Server.Close` hang -/
theorem c10_listener_accept_error_must_not_end_the_loop :
    let s := lnRunReturnOnErr {} [.listen, .acceptErr, .checkQuit, .stopCall, .stopLock 0]
    s.stops = [.waiting] ∧ s.loop = .returned ∧ s.listening = true ∧ s.lock = some 0 ∧
    lnStepReturnOnErr s (.quitShake 0) = none ∧ lnStepReturnOnErr s (.stopFinish 0) = none ∧
    lnStepReturnOnErr s .acceptErr = none ∧ lnStepReturnOnErr s .checkQuit = none ∧
    lnStepReturnOnErr s .listen = none := by
  decide

/-- the listener: a connection is accepted, two `Stop`s overlap with it, the loop leaves through the
hand-shake, the second `Stop` does not wait; a late `Listen` returns at once -/
example :
    let s := lnRun {} [.listen, .accept, .stopCall, .stopCall, .stopLock 1, .accept, .stopLock 0, .acceptErr,
      .checkQuit, .quitShake 1, .stopFinish 1, .stopLock 0, .stopFinish 0, .accept]
    s.stops = [.returned, .returned] ∧ s.handed = 1 ∧ s.loop = .returned ∧ s.listening = false ∧
    s.closed = true ∧ s.quitClosed = false ∧ s.lock = none := by
  decide

example : (lnRun {} [.stopCall, .stopLock 0, .stopFinish 0, .listen]).loop = .returned := by decide


/-! ### the pause gate -/

/-- **liveness at the gate**: once `Unpause` has run — `Router.Stop` begins with it — every loop that stands at
the gate can return (its wake-up is enabled), whatever happened before; so `Stop`'s `wg.Wait` never waits for
a loop that is stuck there. -/
theorem c10_stop_is_not_held_at_the_pause_gate (acts : List C09.GateAct) (i : Nat) (ch : Nat) :
    let s := C09.gateRun true (C09.gateRun true {} acts) [.unpause]
    s.loops[i]? = some (.wait ch) → (C09.gateStep true s (.wake i)).isSome = true := by
  intro s hl
  have hinv : C09.GateInv s := C09.gate_inv_run _ (C09.gate_inv_run {} C09.gate_inv_init acts) [.unpause]
  have hp : s.paused = none := by
    simp only [s, C09.gateRun, C09.gateStep]
    cases hg : (C09.gateRun true {} acts).paused with
    | none => exact hg
    | some ch => rfl
  have := (hinv _ (List.mem_of_getElem? hl)).1 ch rfl
  rcases this with hc | hq
  · have hm : ch ∈ s.closedCh := List.contains_iff_mem.mp hc
    simp [C09.gateStep, hl, hm]
  · rw [hp] at hq; cases hq

/-- witness for the code before the repair: loop 0 is woken by the first `Unpause`; a second `Pause` makes
channel 1 and loop 1 reads it; then loop 0 writes `r.paused = nil`.  Loop 1 now waits on a channel that is not
closed and that no `Unpause` (no `Stop`) will close: its wake-up stays disabled after one more `Unpause`.
Probed against the real router: `notes/probes/onet_c09_pause_gate_stop_hang_probe_test.go.txt`. -/
theorem c10_woken_loop_must_not_reset_the_gate :
    let s := C09.gateRun false {} [.launch, .launch, .pause, .received 0, .unpause, .wake 0, .pause, .received 1,
      .reset 0, .unpause]
    s.loops[1]? = some (.wait 1) ∧ C09.GatePc.stranded s (.wait 1) = true ∧ C09.gateStep false s (.wake 1) = none ∧
    -- the same schedule on the repaired code (`reset` is not enabled there): loop 1 can return
    (let t := C09.gateRun true {} [.launch, .launch, .pause, .received 0, .unpause, .wake 0, .pause, .received 1,
      .reset 0, .unpause]
     (C09.gateStep true t (.wake 1)).isSome = true) := by
  decide



/-! ### overlapping `Close` calls -/

/-- what a `Close` call releases with the step that brings it to rank `k` -/
def releasedAt (s : Cc) : Nat → Prop
  | 4 => s.closedFlag = true
  | 3 => s.deliveries = 0
  | 2 => s.wsBound = false
  | 1 => s.ovClosed = true
  | 0 => s.dbOpen = false
  | _ => True

/-- how far a `Close` call has come says what is released already -/
def CcGood (s : Cc) (pc : CcPc) : Prop := ∀ k, pc.rank ≤ k → releasedAt s k

theorem releasedAt_of_ge (s : Cc) : ∀ {k : Nat}, 5 ≤ k → releasedAt s k
  | _ + 5, _ => trivial

namespace CcGood
variable {s s' : Cc} {pc pc' : CcPc}

theorem mono (g : CcGood s pc) (hf : s.closedFlag = true → s'.closedFlag = true)
    (hd : s.deliveries = 0 → s'.deliveries = 0) (hw : s.wsBound = false → s'.wsBound = false)
    (ho : s.ovClosed = true → s'.ovClosed = true) (hb : s.dbOpen = false → s'.dbOpen = false) : CcGood s' pc :=
  fun k hk => match k, g k hk with
    | 0, h => hb h | 1, h => ho h | 2, h => hw h | 3, h => hd h | 4, h => hf h | _ + 5, _ => trivial

theorem next (g : CcGood s pc) (hr : pc.rank = pc'.rank + 1) (new : releasedAt s pc'.rank) : CcGood s pc' :=
  fun k hk => (Nat.eq_or_lt_of_le hk).elim (fun e => e ▸ new) fun hlt => g k (hr ▸ hlt)

end CcGood

theorem ccRun_skips (b : Bool) : Sched.Skips (ccStep b) (ccRun b) :=
  ⟨fun _ => rfl, fun s a as => by rw [ccRun]; cases ccStep b s a <;> rfl⟩

theorem cc_inv_step {s s' : Cc} {a : CcAct} (h : ∀ pc ∈ s.closers, CcGood s pc)
    (hs : ccStep false s a = some s') : ∀ pc ∈ s'.closers, CcGood s' pc := by
  cases a with
  | deliver =>
    simp only [ccStep] at hs
    split at hs
    · cases hs
    · rename_i hc
      cases hs
      -- the router is open, so every call is still before `Router.Stop`
      exact fun pc hpc k hk => releasedAt_of_ge _ (Nat.lt_of_not_le fun h4 => hc (h pc hpc 4 (Nat.le_trans hk h4)))
  | finish =>
    obtain ⟨_, hs⟩ := Option.ite_none_right_eq_some.mp hs
    cases hs
    exact fun pc hpc => (h pc hpc).mono id (fun h0 => by show s.deliveries - 1 = 0; rw [h0]) id id id
  | closeCall =>
    cases hs
    exact List.forall_mem_concat h fun k hk => releasedAt_of_ge _ hk
  | go j =>
    have go : ∀ {pc pc' : CcPc} {s' : Cc}, s.closers[j]? = some pc → s'.closers = s.closers.set j pc' →
        (∀ p, CcGood s p → CcGood s' p) → pc.rank = pc'.rank + 1 → releasedAt s' pc'.rank →
        ∀ p ∈ s'.closers, CcGood s' p := fun hl hc up hr new => by
      rw [hc]
      exact List.forall_mem_set (fun p hp => up p (h p hp)) ((up _ (h _ (List.mem_of_getElem? hl))).next hr new)
    simp only [ccStep, Bool.false_eq_true, false_and, if_false] at hs
    -- one case per pc of call `j`; `mono` takes the flag, the deliveries, the port, the overlay and the database in this
    -- order: `fun _ => rfl` at the one the step writes
    split at hs
    · -- `start → waiting`: the closed flag
      rename_i hl
      cases hs
      exact go hl rfl (fun _ g => g.mono (fun _ => rfl) id id id id) rfl rfl
    · -- `waiting → ws`: needs no delivery in flight (`hd`), writes nothing
      rename_i hl
      obtain ⟨hd, hs⟩ := Option.ite_none_right_eq_some.mp hs
      cases hs
      exact go hl rfl (fun _ g => g.mono id id id id id) rfl hd
    · -- `ws → ov`: the port
      rename_i hl
      cases hs
      exact go hl rfl (fun _ g => g.mono id id (fun _ => rfl) id id) rfl rfl
    · -- `ov → db`: the overlay
      rename_i hl
      cases hs
      exact go hl rfl (fun _ g => g.mono id id id (fun _ => rfl) id) rfl rfl
    · -- `db → returned`: the database
      rename_i hl
      cases hs
      exact go hl rfl (fun _ g => g.mono id id id id (fun _ => rfl)) rfl rfl
    · -- `returned`: no step
      cases hs

theorem cc_inv_run (acts : List CcAct) : ∀ pc ∈ (ccRun false {} acts).closers, CcGood (ccRun false {} acts) pc :=
  (ccRun_skips false).inv (P := fun s => ∀ pc ∈ s.closers, CcGood s pc) (fun _ _ _ => cc_inv_step) acts {}
    fun _ h => nomatch h

/-- **when ANY `Close` call returns, the server is closed**: for every number of overlapping `Close` calls, every
number of deliveries in flight and every interleaving — a call that has returned has seen the router closed, every
delivery over, the client-side port released, the overlay closed and the database closed.  Falsified by any way out of
`Close` that does not run (or wait for) the whole sequence — e.g. a return on `Router.Closed()`, which only says that
some `Close` has begun (`c10_closed_flag_is_not_closed`). -/
theorem c10_any_close_return_means_closed (acts : List CcAct) :
    CcPc.returned ∈ (ccRun false {} acts).closers → (ccRun false {} acts).released = true := by
  intro hm
  have hg := cc_inv_run acts _ hm
  generalize ccRun false {} acts = s at hg ⊢
  have h4 : s.closedFlag = true := hg 4 (by decide)
  have h3 : s.deliveries = 0 := hg 3 (by decide)
  have h2 : s.wsBound = false := hg 2 (by decide)
  have h1 : s.ovClosed = true := hg 1 (by decide)
  have h0 : s.dbOpen = false := hg 0 (by decide)
  simp [Cc.released, h0, h1, h2, h3, h4]

/-- **liveness**: once no delivery is in flight every `Close` call that has not returned can take its next step, and
each step brings it closer to its return; while deliveries are in flight a processor's return is enabled.  So
overlapping `Close` calls all return as soon as the processors do (they do not wait for each other). -/
theorem c10_overlapping_closes_progress (s : Cc) (j : Nat) (pc : CcPc) (hl : s.closers[j]? = some pc)
    (hr : pc ≠ .returned) :
    (0 < s.deliveries → (ccStep false s .finish).isSome = true) ∧
    (s.deliveries = 0 → ∃ s' pc', ccStep false s (.go j) = some s' ∧ s'.closers[j]? = some pc' ∧ pc'.rank < pc.rank) := by
  have hset : ∀ pc' : CcPc, (s.closers.set j pc')[j]? = some pc' :=
    fun _ => List.getElem?_set_self_of_some hl
  refine ⟨fun hd => by simp only [ccStep, hd, if_true]; rfl, fun hd => ?_⟩
  cases pc with
  | returned => exact absurd rfl hr
  | start =>
    exact ⟨{ s with closedFlag := true, closers := s.closers.set j .waiting }, .waiting,
      by simp only [ccStep, hl, Bool.false_eq_true, false_and, if_false], hset _, by decide⟩
  | waiting =>
    exact ⟨{ s with closers := s.closers.set j .ws }, .ws, by simp only [ccStep, hl, hd, if_true], hset _, by decide⟩
  | ws => exact ⟨{ s with wsBound := false, closers := s.closers.set j .ov }, .ov, by simp only [ccStep, hl], hset _, by decide⟩
  | ov => exact ⟨{ s with ovClosed := true, closers := s.closers.set j .db }, .db, by simp only [ccStep, hl], hset _, by decide⟩
  | db =>
    exact ⟨{ s with dbOpen := false, closers := s.closers.set j .returned }, .returned, by simp only [ccStep, hl], hset _,
      by decide⟩

/-- witness for the variant that returns when the router's closed flag is set (seeded change C10r7-B): a delivery is
in flight, the first `Close` waits in `Router.Stop`, the second returns at once — with the delivery running, the
client-side port bound and the database open.  On the code as it is the second call waits as well. -/
theorem c10_closed_flag_is_not_closed :
    let s := ccRun true {} [.deliver, .closeCall, .closeCall, .go 0, .go 1]
    s.closers = [.waiting, .returned] ∧ s.released = false ∧ s.deliveries = 1 ∧ s.wsBound = true ∧ s.dbOpen = true ∧
    (ccRun false {} [.deliver, .closeCall, .closeCall, .go 0, .go 1]).closers = [.waiting, .waiting] := by
  decide

/-- non-vacuity: two overlapping calls that both return, after the delivery is over -/
example :
    let s := ccRun false {} [.deliver, .closeCall, .go 0, .closeCall, .go 1, .finish, .go 1, .go 0, .go 1, .go 1, .go 0, .go 1, .go 0, .go 0]
    s.closers = [.returned, .returned] ∧ s.released = true := by decide


/-! ### the code regions the model stands for
Regenerated from /repo's source on every run (`harness/cmd/astfacts` → `OnetVerif/Shapes.lean`): the
calls that matter for synchronisation and data flow, the lock regions and (for decision logic) the
conditions, in source order.  A re-ordering, a dropped call or a changed condition breaks these
obligations even when no sampled input or schedule shows a difference; the check then searches for
a failing input. -/
theorem c10_shape_router_Router_Stop_b4 :
    Shapes.network_router_Router_Stop_b4 =
   ["host.Stop", "assign:err=r.host.Stop()", "r.Unpause", "verifC10Point", "r.Lock",
     "assign:r.isClosed=true", "range:_,arr:=r.connections{", "range:_,c:=arr{", "c.Close",
     "assign:err:=c.Close()", "if:(err!=nil)", "}", "}", "r.Unlock", "verifC10Point", "wg.Wait",
     "verifC10Point", "if:(err!=nil)", "return:xerrors.Errorf(\"\",err)", "return:nil"] := rfl

theorem c10_shape_router_Router_Start :
    Shapes.network_router_Router_Start =
   ["defer:verifC10Point", "r.receiveServerIdentity", "c.Close", "r.isPeerValid", "c.Close",
     "verifC10Point", "r.registerConnection", "c.Close", "verifC10Point",
     "r.launchHandleRoutine", "host.Listen"] := rfl

theorem c10_shape_router_Router_registerConnection_b4 :
    Shapes.network_router_Router_registerConnection_b4 =
   ["r.Lock", "defer:r.Unlock", "if:r.isClosed", "return:xerrors.Errorf(\"\",ErrClosed)",
     "remote.GetID", "assign:_,okc:=r.connections[remote.GetID()]", "if:okc", "remote.GetID",
     "assign:r.connections[remote.GetID()]=append(r.connections[remote.GetID()],c)",
     "return:nil"] := rfl

theorem c10_shape_router_Router_launchHandleRoutine_b4 :
    Shapes.network_router_Router_launchHandleRoutine_b4 =
   ["r.Lock", "defer:r.Unlock", "if:r.isClosed", "return:xerrors.Errorf(\"\",ErrClosed)",
     "wg.Add", "go{", "r.handleConn", "}", "return:nil"] := rfl

theorem c10_shape_router_Router_connect :
    Shapes.network_router_Router_connect =
   ["host.Connect", "c.Send", "c.Close", "verifC10Point", "r.registerConnection", "c.Close",
     "verifC10Point", "r.launchHandleRoutine"] := rfl

theorem c10_shape_router_Router_handleConn :
    Shapes.network_router_Router_handleConn =
   ["defer{", "c.Close", "c.Rx", "c.Tx", "traffic.updateRx", "traffic.updateTx", "wg.Done",
     "r.removeConnection", "verifC10Point", "}", "verifC10Point", "c.Remote", "c.Receive",
     "verifC10Point", "r.Lock", "r.Unlock", "recv:paused", "r.Closed",
     "r.triggerConnectionErrorHandlers", "r.triggerConnectionErrorHandlers",
     "r.triggerConnectionErrorHandlers", "verifC10Point", "msgTraffic.updateRx", "r.Dispatch"] := rfl

theorem c10_shape_Server_Close_b4 :
    Shapes.server_Server_Close_b4 =
   ["c.Lock", "if:c.IsStarted", "send:closeitChannel", "assign:c.IsStarted=false", "c.Unlock",
     "Router.Stop", "assign:err:=c.Router.Stop()", "if:(err!=nil)",
     "assign:err=xerrors.Errorf(\"\",err)", "WebSocket.stop", "overlay.Close",
     "serviceManager.closeDatabase", "assign:err=c.serviceManager.closeDatabase()",
     "if:(err!=nil)", "assign:err=xerrors.Errorf(\"\",err)", "return:err"] := rfl

theorem c10_shape_treeStorage_Close_b4 :
    Shapes.treestorage_treeStorage_Close_b4 =
   ["ts.Lock", "assign:ts.closed=true", "range:k,c:=ts.cancellations{", "close:c", "}",
     "ts.Unlock", "wg.Wait"] := rfl

theorem c10_shape_Overlay_Close_b4 :
    Shapes.overlay_Overlay_Close_b4 =
   ["instancesLock.Lock", "defer:instancesLock.Unlock", "assign:o.closed=true",
     "range:_,tni:=o.instances{", "tni.Token", "o.nodeDelete", "}", "treeStorage.Close"] := rfl

theorem c10_shape_Overlay_newTreeNodeInstanceFromToken_b4 :
    Shapes.overlay_Overlay_newTreeNodeInstanceFromToken_b4 =
   ["newTreeNodeInstance", "assign:tni:=newTreeNodeInstance(o,tok,tn,io)", "instancesLock.Lock",
     "defer:instancesLock.Unlock", "if:o.closed", "tni.closeDispatch", "return:tni",
     "assign:o.instances[tok.ID()]=tni", "return:tni"] := rfl

theorem c10_shape_TreeNodeInstance_dispatchMsgReader_b4 :
    Shapes.treenode_TreeNodeInstance_dispatchMsgReader_b4 =
   ["for:{", "msgDispatchQueueMutex.Lock", "if:n.closing", "msgDispatchQueueMutex.Unlock",
     "return:", "if:(len(n.msgDispatchQueue)>0)", "assign:msg:=n.msgDispatchQueue[0]",
     "assign:n.msgDispatchQueue=n.msgDispatchQueue[1:]", "msgDispatchQueueMutex.Unlock",
     "n.dispatchMsgToProtocol", "assign:err:=n.dispatchMsgToProtocol(msg)", "if:(err!=nil)",
     "else", "msgDispatchQueueMutex.Unlock", "recv:msgDispatchQueueWait", "}"] := rfl

theorem c10_shape_local_LocalManager_send :
    Shapes.network_local_LocalManager_send =
   ["lm.Lock", "defer:lm.Unlock", "send:incomingQueue"] := rfl

theorem c10_shape_tcp_TCPListener_listen_b4 :
    Shapes.network_tcp_TCPListener_listen_b4 =
   ["listeningLock.Lock", "if:(t.closed==true)", "listeningLock.Unlock", "return:nil",
     "assign:t.listening=true", "listeningLock.Unlock", "for:{", "listener.Accept",
     "assign:conn,err:=t.listener.Accept()", "if:(err!=nil)", "recv:quit", "send:quitListener",
     "return:nil", "continue", "assign:c:=TCPConn{conn:conn,suite:t.suite}", "fn", "}"] := rfl

theorem c10_shape_tcp_TCPListener_Stop_b4 :
    Shapes.network_tcp_TCPListener_Stop_b4 =
   ["listeningLock.Lock", "defer:listeningLock.Unlock", "close:quit", "if:(t.listener!=nil)",
     "listener.Close", "assign:err:=t.listener.Close()", "if:(err!=nil)",
     "if:(handleError(err)!=ErrClosed)", "return:xerrors.Errorf(\"\",handleError(err))",
     "if:t.listening", "for:!stop{", "recv:quitListener", "assign:stop=true", "recv:After()",
     "time.After", "continue", "}", "assign:t.quit=make(conv)", "assign:t.listening=false",
     "assign:t.closed=true", "return:nil"] := rfl

theorem c10_shape_tcp_TCPListener_Listen :
    Shapes.network_tcp_TCPListener_Listen =
   ["go{", "fn", "}", "t.listen"] := rfl

theorem c10_shape_local_LocalListener_Listen_b4 :
    Shapes.network_local_LocalListener_Listen_b4 =
   ["ll.Lock", "if:ll.listening", "ll.Unlock", "return:xerrors.Errorf(\"\",ll.addr)",
     "assign:ll.quit=make(conv)", "manager.setListening", "assign:ll.listening=true",
     "ll.Unlock", "recv:quit", "return:nil"] := rfl

theorem c10_shape_local_LocalListener_Stop_b4 :
    Shapes.network_local_LocalListener_Stop_b4 =
   ["ll.Lock", "defer:ll.Unlock", "if:!ll.listening", "return:nil", "manager.unsetListening",
     "close:quit", "assign:ll.listening=false", "return:nil"] := rfl

theorem c10_shape_Server_Start_b4 :
    Shapes.server_Server_Start_b4 =
   ["InformServerStarted", "time.Now", "assign:c.started=time.Now()", "if:!c.Quiet", "go{",
     "Router.Start", "}", "go{", "WebSocket.start", "}",
     "for:(!c.Router.Listening()||!c.WebSocket.Listening()){", "time.Sleep", "}", "c.Lock",
     "assign:c.IsStarted=true", "c.Unlock", "recv:closeitChannel"] := rfl

theorem c10_shape_WebSocket_stop :
    Shapes.websocket_WebSocket_stop =
   ["w.Lock", "defer:w.Unlock", "if:!w.started", "return:", "time.Now", "Now().Add",
     "context.Background", "context.WithDeadline", "server.Shutdown", "cancel", "recv:startstop"] := rfl

theorem c10_shape_serviceManager_closeDatabase :
    Shapes.service_serviceManager_closeDatabase =
   ["if:(s.db!=nil)", "db.Close", "if:(err!=nil)", "if:s.delDb", "s.dbFileName", "os.Remove",
     "if:(err!=nil)", "return:xerrors.Errorf(\"\",err)", "return:nil"] := rfl

theorem c10_shape_router_Router_Closed_b4 :
    Shapes.network_router_Router_Closed_b4 =
   ["r.Lock", "defer:r.Unlock", "return:r.isClosed"] := rfl


theorem c10_shape_router_Router_Pause_b7d :
    Shapes.network_router_Router_Pause_b7d =
   ["r.Lock", "if:(r.paused==nil)", "assign:r.paused=make(conv)", "r.Unlock"] := rfl

theorem c10_shape_router_Router_Unpause_b7d :
    Shapes.network_router_Router_Unpause_b7d =
   ["r.Lock", "if:(r.paused!=nil)", "close:paused", "assign:r.paused=nil", "r.Unlock"] := rfl

end C10

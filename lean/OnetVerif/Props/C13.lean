import OnetVerif.Model.C13
import OnetVerif.Shapes
import OnetVerif.Proofs.C13

/-! Property C13 — identifiers are deterministic and distinguish what they identify.

Every identifier is `hash (pre-image)`; the model (`Model/C13.lean`) gives each pre-image byte for
byte.  Determinism is by construction: each identifier is a *function* of the listed fields (Lean
functions have no hidden state — that the Go code has none either is what the correspondence run
checks).  The theorems here are about distinctness: the pre-image functions are injective (tokens,
names, keys), or injective exactly up to a characterised class (rosters, trees) with concrete
collisions inside that class.  Distinct identifiers then follow from collision-freeness of the hash
on the two pre-images involved, which is an explicit hypothesis of every `…_ids_distinct`.
The lemmas about the model's own functions are in `Proofs/C13.lean`. -/
namespace C13

/-! ### tokens -/

/-- **the token pre-image is injective**: a concatenation of a fixed prefix and six fields of
fixed length, each an injective text form.  Tokens that differ in any field — roster, tree,
protocol, service, round or node — have different pre-images. -/
theorem c13_token_preimage_injective (t₁ t₂ : Token) (h₁ : t₁.WF) (h₂ : t₂.WF)
    (h : tokenPre t₁ = tokenPre t₂) : t₁ = t₂ := by
  obtain ⟨a1, a2, a3, a4, a5, a6⟩ := h₁
  obtain ⟨b1, b2, b3, b4, b5, b6⟩ := h₂
  obtain ⟨e1, h⟩ := uuidStr_append_inj a1 b1 (List.append_cancel_left h)
  obtain ⟨e5, h⟩ := uuidStr_append_inj a5 b5 h
  obtain ⟨e4, h⟩ := uuidStr_append_inj a4 b4 h
  obtain ⟨e3, h⟩ := uuidStr_append_inj a3 b3 h
  obtain ⟨e2, h⟩ := uuidStr_append_inj a2 b2 h
  cases t₁; cases t₂
  exact Token.mk.injEq .. ▸ ⟨e1, e2, e3, e4, e5, uuidStr_injective a6.2 b6.2 h⟩

/-- tokens that differ (in whichever field) get different identifiers, as long as the hash does
not collide on their two pre-images -/
theorem c13_token_ids_distinct (H : HashFns) (t₁ t₂ : Token) (h₁ : t₁.WF) (h₂ : t₂.WF) (hne : t₁ ≠ t₂)
    (hcf : uuid5 H (tokenPre t₁) = uuid5 H (tokenPre t₂) → tokenPre t₁ = tokenPre t₂) :
    tokenId H t₁ ≠ tokenId H t₂ :=
  fun h => hne (c13_token_preimage_injective t₁ t₂ h₁ h₂ (hcf h))

/-- non-vacuity: two well-formed tokens that differ in the round only -/
example : ∃ t₁ t₂ : Token, t₁.WF ∧ t₂.WF ∧ t₁ ≠ t₂ ∧ t₁.roster = t₂.roster ∧ t₁.node = t₂.node := by
  have uuid : ∀ x < 256, IsUuid (List.replicate 16 x) := fun x hx =>
    ⟨List.length_replicate, fun b hb => List.eq_of_mem_replicate hb ▸ hx⟩
  have hz := uuid 0 (by decide)
  have ho := uuid 255 (by decide)
  exact ⟨⟨_, _, _, _, _, _⟩, ⟨_, _, _, _, _, _⟩, ⟨hz, hz, hz, hz, hz, hz⟩, ⟨hz, hz, hz, hz, ho, hz⟩,
    fun h => absurd (congrArg (·.round.head?) h) (by decide), rfl, rfl⟩

/-! ### names and keys -/

/-- **protocol names, service names, server keys and node keys** are each recovered from the
pre-image of their identifier (fixed prefix, then the name or the hex of the key). -/
theorem c13_name_preimage_injective :
    (∀ n₁ n₂ : Bytes, protoPre n₁ = protoPre n₂ → n₁ = n₂) ∧
    (∀ n₁ n₂ : Bytes, servicePre n₁ = servicePre n₂ → n₁ = n₂) ∧
    (∀ k₁ k₂ : Bytes, IsBytes k₁ → IsBytes k₂ → serverPre k₁ = serverPre k₂ → k₁ = k₂) ∧
    (∀ k₁ k₂ : Bytes, IsBytes k₁ → IsBytes k₂ → nodePre k₁ = nodePre k₂ → k₁ = k₂) :=
  ⟨fun _ _ h => List.append_cancel_left h, fun _ _ h => h,
   fun _ _ h₁ h₂ h => hexAscii_injective h₁ h₂ (List.append_cancel_left h),
   fun _ _ h₁ h₂ h => hexAscii_injective h₁ h₂ h⟩

theorem c13_name_ids_distinct (H : HashFns) (n₁ n₂ : Bytes) (hne : n₁ ≠ n₂) :
    ((uuid3 H (protoPre n₁) = uuid3 H (protoPre n₂) → protoPre n₁ = protoPre n₂) → protoId H n₁ ≠ protoId H n₂) ∧
    ((uuid5 H (servicePre n₁) = uuid5 H (servicePre n₂) → servicePre n₁ = servicePre n₂) → serviceId H n₁ ≠ serviceId H n₂) :=
  ⟨fun hcf h => hne (c13_name_preimage_injective.1 _ _ (hcf h)),
   fun hcf h => hne (c13_name_preimage_injective.2.1 _ _ (hcf h))⟩

theorem c13_key_ids_distinct (H : HashFns) (k₁ k₂ : Bytes) (h₁ : IsBytes k₁) (h₂ : IsBytes k₂) (hne : k₁ ≠ k₂) :
    ((uuid5 H (serverPre k₁) = uuid5 H (serverPre k₂) → serverPre k₁ = serverPre k₂) → serverId H k₁ ≠ serverId H k₂) ∧
    ((uuid5 H (nodePre k₁) = uuid5 H (nodePre k₂) → nodePre k₁ = nodePre k₂) → nodeId H k₁ ≠ nodeId H k₂) :=
  ⟨fun hcf h => hne (c13_name_preimage_injective.2.2.1 _ _ h₁ h₂ (hcf h)),
   fun hcf h => hne (c13_name_preimage_injective.2.2.2 _ _ h₁ h₂ (hcf h))⟩

/-! ### rosters -/

/-- the full-strength statement: the ordered member list (server keys with their per-service
keys, all keys of one length, pairwise distinct) is determined by the roster pre-image -/
def C13_roster_full : Prop :=
  ∀ (L : Nat) (r₁ r₂ : List Member), 0 < L →
    (∀ k ∈ rosterKeys r₁, k.length = L) → (∀ k ∈ rosterKeys r₂, k.length = L) →
    (rosterKeys r₁).Nodup → (rosterKeys r₂).Nodup →
    rosterPre r₁ = rosterPre r₂ → r₁ = r₂

/-- **it is false on the code as it is**: the roster made of one server `A` with a service key `B`
and the roster of the two servers `A, B` have the same pre-image (nothing separates members or
marks service keys).  Replayed against `NewRoster` by the harness (`witness-roster`). -/
theorem c13_roster_collision : ¬ C13_roster_full :=
  fun h => absurd (h 1 [⟨[7], [[9]]⟩] [⟨[7], []⟩, ⟨[9], []⟩] (by decide) (by decide) (by decide) (by decide) (by decide)
    (by decide)) (by decide)

/-- **what does hold**: rosters whose keys have position-wise the same lengths and that give the
same number of service keys to each position are determined by the pre-image (server keys, their
order, and every service key). -/
theorem c13_roster_preimage_injective_partial (r₁ r₂ : List Member)
    (hl : (rosterKeys r₁).map List.length = (rosterKeys r₂).map List.length)
    (hs : r₁.map (·.svcs.length) = r₂.map (·.svcs.length))
    (h : rosterPre r₁ = rosterPre r₂) : r₁ = r₂ :=
  members_of_keys hs (List.flatten_injective_of_lengths hl h)

/-- **exactly which rosters collide** when all keys have one length (e.g. Ed25519): those with the
same sequence of keys, however it is cut into members and service keys. -/
theorem c13_roster_collision_iff (L : Nat) (hL : 0 < L) (r₁ r₂ : List Member)
    (h₁ : ∀ k ∈ rosterKeys r₁, k.length = L) (h₂ : ∀ k ∈ rosterKeys r₂, k.length = L) :
    rosterPre r₁ = rosterPre r₂ ↔ rosterKeys r₁ = rosterKeys r₂ :=
  ⟨flatten_injective_uniform hL h₁ h₂, congrArg List.flatten⟩

theorem c13_roster_ids_distinct (H : HashFns) (r₁ r₂ : List Member)
    (hl : (rosterKeys r₁).map List.length = (rosterKeys r₂).map List.length)
    (hs : r₁.map (·.svcs.length) = r₂.map (·.svcs.length)) (hne : r₁ ≠ r₂)
    (hcf : rosterIdOfPre H (rosterPre r₁) = rosterIdOfPre H (rosterPre r₂) → rosterPre r₁ = rosterPre r₂) :
    rosterId H r₁ ≠ rosterId H r₂ :=
  fun h => hne (c13_roster_preimage_injective_partial r₁ r₂ hl hs (hcf h))

/-- non-vacuity: two different rosters of the same layout (two servers, the first with a service key) -/
example : ∃ r₁ r₂ : List Member, r₁ ≠ r₂ ∧
    (rosterKeys r₁).map List.length = (rosterKeys r₂).map List.length ∧
    r₁.map (·.svcs.length) = r₂.map (·.svcs.length) :=
  ⟨[⟨[1, 2], [[3, 4]]⟩, ⟨[5, 6], []⟩], [⟨[5, 6], [[3, 4]]⟩, ⟨[1, 2], []⟩], by decide, by decide, by decide⟩

/-! ### trees -/

/-- all keys of a forest, in depth-first pre-order -/
def keysOf (f : Forest) : List Bytes := (pre f).map (·.1)

/-- the full-strength statement: trees over keys of one length, pairwise distinct (and, to make
the negation as strong as possible, none starting with the marker byte), that differ in shape or in
the placement of members have different depth-first pre-images -/
def C13_tree_full : Prop :=
  ∀ (L : Nat) (f g : Forest), 0 < L → KeysLen L f → KeysLen L g → (keysOf f).Nodup → (keysOf g).Nodup →
    NoMarkHead f → NoMarkHead g → dfs f = dfs g → f = g

/-- `r(a(b,c))` -/
def wT1 : Forest := .node [10] (.node [11] (.node [12] .nil (.node [13] .nil .nil)) .nil) .nil

/-- `r(a(b),c)` -/
def wT2 : Forest := .node [10] (.node [11] (.node [12] .nil .nil) (.node [13] .nil .nil)) .nil

/-- **the depth-first serialisation with leaf markers does not determine the shape**: `r(a(b,c))`
and `r(a(b),c)` over the same four servers have the same pre-image.  Replayed against `NewTree`
by the harness (`witness-tree`). -/
theorem c13_tree_dfs_not_injective : wT1 ≠ wT2 ∧ dfs wT1 = dfs wT2 ∧ keysOf wT1 = keysOf wT2 := by decide

theorem c13_tree_full_fails : ¬ C13_tree_full := by
  intro h
  obtain ⟨hne, hdfs, hkeys⟩ := c13_tree_dfs_not_injective
  have nd : (keysOf wT1).Nodup := by decide
  exact hne (h 1 wT1 wT2 Nat.one_pos (by simp [KeysLen, wT1]) (by simp [KeysLen, wT2]) nd (hkeys ▸ nd)
    (by simp [NoMarkHead, wT1]) (by simp [NoMarkHead, wT2]) hdfs)

/-- `r(a, b(c))` with a key `b = x‖1` -/
def wS1 : Forest := .node [10, 10] (.node [11, 11] .nil (.node [7, 1] (.node [13, 13] .nil .nil) .nil)) .nil

/-- `r(a(b'), c)` with the key `b' = 1‖x` -/
def wS2 : Forest := .node [10, 10] (.node [11, 11] (.node [1, 7] .nil .nil) (.node [13, 13] .nil .nil)) .nil

/-- **a key that starts with the marker byte shifts the reading frame**: two trees hosting
*different sets of servers* (`x‖1` in one, `1‖x` in the other) have the same pre-image.  Replayed
with genuine Ed25519 points by the harness (`witness-tree-shift`). -/
theorem c13_tree_marker_shift_collision : dfs wS1 = dfs wS2 ∧ keysOf wS1 ≠ keysOf wS2 := by decide

/-- **same shape ⇒ the placement of members decides**: two trees (forests) of the same shape over
keys of one length have the same pre-image only if every node hosts the same key. -/
theorem c13_tree_preimage_injective_partial (L : Nat) (f g : Forest) (hf : KeysLen L f) (hg : KeysLen L g)
    (hs : shape f = shape g) (h : dfs f = dfs g) : f = g :=
  (dfs_shape_injective f g [] [] hf hg hs (by rw [h])).1

/-- **exactly which trees collide** (keys of one length, none starting with the marker byte): those
with the same keys in depth-first order and the same leaves — whatever hangs below what.  So trees
hosting different servers, or the same servers placed in another depth-first order, never share a
pre-image; trees that differ only in *which inner node* a subtree hangs under may. -/
theorem c13_tree_collision_iff (L : Nat) (hL : 0 < L) (f g : Forest)
    (hf : KeysLen L f) (hg : KeysLen L g) (mf : NoMarkHead f) (mg : NoMarkHead g) :
    dfs f = dfs g ↔ pre f = pre g := by
  rw [dfs_eq_encPre, dfs_eq_encPre]
  exact ⟨encPre_injective hL (pre_good hf mf) (pre_good hg mg), congrArg encPre⟩

/-- different servers, or another depth-first placement ⇒ different pre-image -/
theorem c13_tree_members_matter_partial (L : Nat) (hL : 0 < L) (f g : Forest)
    (hf : KeysLen L f) (hg : KeysLen L g) (mf : NoMarkHead f) (mg : NoMarkHead g)
    (hne : keysOf f ≠ keysOf g) : dfs f ≠ dfs g :=
  fun h => hne (congrArg (List.map Prod.fst) ((c13_tree_collision_iff L hL f g hf hg mf mg).mp h))

/-- the outer pre-image (`…tree/` + roster id + hex of the digest) determines roster id and digest -/
theorem c13_tree_outer_injective (r₁ r₂ d₁ d₂ : Bytes) (hr₁ : IsUuid r₁) (hr₂ : IsUuid r₂)
    (hd₁ : IsBytes d₁) (hd₂ : IsBytes d₂) (h : treeOuterPre r₁ d₁ = treeOuterPre r₂ d₂) : r₁ = r₂ ∧ d₁ = d₂ := by
  obtain ⟨e1, e2⟩ := uuidStr_append_inj hr₁ hr₂ (List.append_cancel_left h)
  exact ⟨e1, hexAscii_injective hd₁ hd₂ e2⟩

/-- trees of one shape over the same roster that place some member differently get different
identifiers; so do trees over rosters with different identifiers — provided neither SHA-256 (on the
two depth-first pre-images) nor the UUID hash (on the two outer pre-images) collides -/
theorem c13_tree_ids_distinct (H : HashFns) (L : Nat) (r₁ r₂ : Bytes) (f g : Forest)
    (hr₁ : IsUuid r₁) (hr₂ : IsUuid r₂) (hf : KeysLen L f) (hg : KeysLen L g) (hs : shape f = shape g)
    (hne : r₁ ≠ r₂ ∨ f ≠ g)
    (hbytes : IsBytes (H.sha256 (dfs f)) ∧ IsBytes (H.sha256 (dfs g)))
    (hcf256 : H.sha256 (dfs f) = H.sha256 (dfs g) → dfs f = dfs g)
    (hcf : uuid5 H (treeOuterPre r₁ (H.sha256 (dfs f))) = uuid5 H (treeOuterPre r₂ (H.sha256 (dfs g))) →
      treeOuterPre r₁ (H.sha256 (dfs f)) = treeOuterPre r₂ (H.sha256 (dfs g))) :
    treeId H r₁ f ≠ treeId H r₂ g := by
  intro h
  obtain ⟨er, ed⟩ := c13_tree_outer_injective r₁ r₂ _ _ hr₁ hr₂ hbytes.1 hbytes.2 (hcf h)
  exact hne.elim (· er) (· (c13_tree_preimage_injective_partial L f g hf hg hs (hcf256 ed)))

/-- **determinism, and its price**: the identifiers are functions of the key sequences alone — the
roster id of the keys in order, the tree id of the roster id and the depth-first (key, is-leaf)
sequence.  Nothing else of a roster or tree (addresses, node ids, roster positions, how keys are
grouped into members, which inner node is whose parent) can influence them, whatever the hash. -/
theorem c13_ids_functions_of_key_sequences (H : HashFns) :
    (∀ r₁ r₂ : List Member, rosterKeys r₁ = rosterKeys r₂ → rosterId H r₁ = rosterId H r₂) ∧
    (∀ (rid : Bytes) (f g : Forest), pre f = pre g → treeId H rid f = treeId H rid g) :=
  ⟨fun r₁ r₂ h => by unfold rosterId rosterPre; rw [h],
   fun rid f g h => by unfold treeId; rw [dfs_eq_encPre, dfs_eq_encPre, h]⟩

/-- non-vacuity: two trees of the same shape with two members swapped -/
example : ∃ f g : Forest, KeysLen 1 f ∧ KeysLen 1 g ∧ shape f = shape g ∧ f ≠ g ∧ NoMarkHead f ∧ NoMarkHead g :=
  ⟨.node [10] (.node [11] .nil (.node [12] .nil .nil)) .nil,
   .node [10] (.node [12] .nil (.node [11] .nil .nil)) .nil,
   by simp [KeysLen], by simp [KeysLen], by decide, by decide, by simp [NoMarkHead], by simp [NoMarkHead]⟩

/-! ### a roster through its TOML form (`Roster.Toml` / `RosterToml.Roster`): the id travels, the service keys do not -/

/-- a roster without service keys comes back as it was -/
theorem c13_toml_plain_faithful (ro : List Member) (h : ∀ m ∈ ro, m.svcs = []) : tomlRound ro = ro :=
  (List.map_congr_left fun m hm => by rw [← h m hm]).trans (List.map_id' ro)

/-- **exactly when the id a roster carries through its TOML form still is the id of the list that comes back**
(keys of one positive length, e.g. Ed25519 and bn256 keys of one suite): the hashed pre-image of the rebuilt list equals
the original's iff no member carries a service key.  The code keeps the `ID` field and rebuilds every identity from
address and server key only, so for every roster with a service key the object that comes back has an id that is not
`GetID()` of its list — known finding `roster-toml-id-not-of-list`.  Falsified (made true for all rosters) by a TOML
form that carries the service identities; falsified the other way by a rebuild that reorders or drops members. -/
theorem c13_toml_id_of_list_iff (L : Nat) (hL : 0 < L) (ro : List Member) (hk : ∀ k ∈ rosterKeys ro, k.length = L) :
    rosterPre (tomlRound ro) = rosterPre ro ↔ ∀ m ∈ ro, m.svcs = [] := by
  constructor
  · intro h
    have hk' : ∀ k ∈ rosterKeys (tomlRound ro), k.length = L := by
      intro k hm
      rw [rosterKeys_toml] at hm
      obtain ⟨m, hm', rfl⟩ := List.mem_map.mp hm
      exact hk _ (key_mem_rosterKeys hm')
    -- as many keys come back as there are members: no service key was there to be lost
    have hlen := congrArg List.length ((c13_roster_collision_iff L hL _ _ hk' hk).mp h)
    rw [rosterKeys_toml, rosterKeys_length, List.length_map] at hlen
    have hsum : (ro.map (·.svcs.length)).sum = 0 := by omega
    exact fun m hm => List.eq_nil_of_length_eq_zero
      (List.sum_eq_zero_iff_forall_eq_nat.mp hsum _ (List.mem_map_of_mem hm))
  · intro h
    rw [c13_toml_plain_faithful ro h]

/-- the full statement "the id that comes back is the id of the list that comes back" -/
def C13_toml_full : Prop := ∀ ro : List Member, rosterPre (tomlRound ro) = rosterPre ro

/-- … is false on the code: the witness of the known finding, `[A{svc:B}, C]` -/
theorem c13_toml_full_fails : ¬ C13_toml_full :=
  fun h => absurd (h [{ key := [1], svcs := [[2]] }, { key := [3], svcs := [] }]) (by decide)

/-- what does come back: every member's server key in order, no service key (whatever the roster) -/
theorem c13_toml_server_keys (ro : List Member) :
    rosterKeys (tomlRound ro) = ro.map (·.key) ∧ (tomlRound ro).length = ro.length ∧ ∀ m ∈ tomlRound ro, m.svcs = [] := by
  refine ⟨rosterKeys_toml ro, List.length_map _, ?_⟩
  intro m hm
  obtain ⟨x, _, rfl⟩ := List.mem_map.mp hm
  rfl

/-! ### a class of trees on which the identifier is fully faithful: full N-ary trees -/

/-- **on full N-ary trees the depth-first (key, is-leaf) sequence — hence, with keys of one length
not starting with the marker byte, the hashed pre-image — determines the whole tree**: shape and
placement of every member.  The known collisions need an inner node with fewer children than another. -/
theorem c13_tree_full_nary_injective (N : Nat) (f g : Forest) (hf : FullN N f) (hg : FullN N g)
    (hl : f.len = g.len) (h : pre f = pre g) : f = g :=
  (pre_fullN_injective N f g [] [] hf hg hl (by rw [h])).1

theorem c13_tree_full_nary_preimage_injective (N L : Nat) (hL : 0 < L) (f g : Forest) (hf : FullN N f) (hg : FullN N g)
    (hl : f.len = g.len) (kf : KeysLen L f) (kg : KeysLen L g) (mf : NoMarkHead f) (mg : NoMarkHead g)
    (h : dfs f = dfs g) : f = g :=
  c13_tree_full_nary_injective N f g hf hg hl ((c13_tree_collision_iff L hL f g kf kg mf mg).mp h)

/-- non-vacuity: the two perfect binary trees on three nodes with the children swapped are full 2-ary
and differ; the colliding witnesses are not both full N-ary for any N -/
example : FullN 2 (.node [10] (.node [11] .nil (.node [12] .nil .nil)) .nil) ∧
    FullN 2 (.node [10] (.node [12] .nil (.node [11] .nil .nil)) .nil) ∧ ¬ (∃ N, FullN N wT1 ∧ FullN N wT2) := by
  have full : ∀ a b : Bytes, FullN 2 (.node [10] (.node a .nil (.node b .nil .nil)) .nil) := fun a b =>
    ⟨.inr rfl, ⟨.inl rfl, trivial, .inl rfl, trivial, trivial⟩, trivial⟩
  refine ⟨full _ _, full _ _, ?_⟩
  -- the node `a` has two children in `wT1` and one in `wT2`
  intro ⟨N, h1, h2⟩
  have e1 : 2 = N := h1.2.1.1.resolve_left Bool.false_ne_true
  have e2 : 1 = N := h2.2.1.1.resolve_left Bool.false_ne_true
  exact absurd (e1.trans e2.symm) (by decide)

/-! ### rosters derived from rosters (`Concat`, `NewRosterWithRoot`) -/

/-- **`Concat` gives the roster of the extended list** — the old members in their order, then the
new ones — **and with it a new identifier as soon as one identity is new**: the result is identified
like any roster made by `NewRoster` (by definition of the model: `rosterId` of the list), its key
sequence properly extends the receiver's, hence (keys of one length, no hash collision on the two
pre-images) its id differs from the receiver's. -/
theorem c13_concat_new_member_new_id (H : HashFns) (L : Nat) (hL : 0 < L) (ro ms : List Member)
    (hk : ∀ k ∈ rosterKeys (concatMembers ro ms), k.length = L)
    (hnew : ∃ m ∈ ms, ro.any (fun x => x.key == m.key) = false)
    (hcf : rosterIdOfPre H (rosterPre (concatMembers ro ms)) = rosterIdOfPre H (rosterPre ro) →
      rosterPre (concatMembers ro ms) = rosterPre ro) :
    (∃ ext, ext ≠ [] ∧ concatMembers ro ms = ro ++ ext) ∧ rosterId H (concatMembers ro ms) ≠ rosterId H ro := by
  obtain ⟨ext, hext, hne⟩ := concat_ext ms ro
  have hne := hne hnew
  refine ⟨⟨ext, hne, hext⟩, fun hid => ?_⟩
  rw [hext] at hk hcf hid
  have hk' : ∀ k ∈ rosterKeys ro, k.length = L := fun k hkm =>
    hk k (by rw [rosterKeys_append]; exact List.mem_append_left _ hkm)
  -- equal pre-images: equal key sequences, but one has the keys of `ext` on top
  have hlen := congrArg List.length ((c13_roster_collision_iff L hL _ _ hk hk').mp (hcf hid))
  rw [rosterKeys_append, List.length_append, rosterKeys_length ext] at hlen
  have : 0 < ext.length := List.length_pos_iff.mpr hne
  omega

/-- `NewRosterWithRoot` keeps the members and puts the root's identity first -/
theorem c13_with_root_first (ro : List Member) (p : Nat) (r : List Member) (h : withRoot ro p = some r) :
    r.length = ro.length ∧ ∃ m, ro[p]? = some m ∧ (r[0]?.map (·.key)) = some m.key := by
  unfold withRoot at h
  split at h
  · next rt first hp h0 =>
    cases h
    obtain ⟨h0lt, h0⟩ := List.getElem?_eq_some_iff.mp h0
    have hidx : ro.findIdx (fun x => x.key == rt.key) < ro.length :=
      List.findIdx_lt_length_of_exists ⟨rt, List.mem_of_getElem? hp, beq_self_eq_true _⟩
    have hkey := List.findIdx_getElem (w := hidx)
    generalize ro.findIdx (fun x => x.key == rt.key) = i at hidx hkey ⊢
    refine ⟨by simp only [List.length_set], rt, hp, ?_⟩
    -- whether or not the entry found is the first one, it is what ends up in front
    have e : ((ro.set 0 (ro.getD i rt)).set i first)[0]? = some ro[i] := by
      by_cases hz : i = 0
      · subst hz
        rw [List.getElem?_set_self (by rwa [List.length_set]), h0]
      · rw [List.getElem?_set_ne hz, List.getElem?_set_self h0lt, List.getD_eq_getElem?_getD,
          List.getElem?_eq_getElem hidx, Option.getD_some]
    rw [e, Option.map_some, beq_iff_eq.mp hkey]
  · cases h

/-! ### the text forms of keys of other suites (server and node identifiers of every suite) -/

/-- **`Public.String()` determines the key, for every modelled suite** (Ed25519: hex of the
encoding; P256: `(X,Y)` in decimal; bn256.G1: `bn256.G1(hex X,hex Y)`): two keys (byte strings in
the suite's layout) with the same text form are the same key. -/
theorem c13_keytext_injective (kind : KeyKind) (k₁ k₂ t : Bytes) (h₁ : IsBytes k₁) (h₂ : IsBytes k₂)
    (e₁ : keyText kind k₁ = some t) (e₂ : keyText kind k₂ = some t) : k₁ = k₂ := by
  cases kind with
  | ed25519 => exact hexAscii_injective h₁ h₂ (Option.some.inj (e₁.trans e₂.symm))
  | other => cases e₁
  | bn256g1 =>
    obtain ⟨_, e₁⟩ := Option.ite_none_right_eq_some.mp e₁
    obtain ⟨_, e₂⟩ := Option.ite_none_right_eq_some.mp e₂
    obtain ⟨a, b⟩ := comma_pair_inj (hexAscii_ge _) (hexAscii_ge _) (Option.some.inj (e₁.trans e₂.symm))
    exact List.eq_of_take_drop 32 (hexAscii_injective (h₁.take 32) (h₂.take 32) a)
      (hexAscii_injective (h₁.drop 32) (h₂.drop 32) b)
  | p256 =>
    obtain ⟨⟨l1, hd1⟩, e₁⟩ := Option.ite_none_right_eq_some.mp e₁
    obtain ⟨⟨l2, hd2⟩, e₂⟩ := Option.ite_none_right_eq_some.mp e₂
    obtain ⟨a, b⟩ := comma_pair_inj (fun c hc => (decAscii_digits _ c hc).1) (fun c hc => (decAscii_digits _ c hc).1)
      (Option.some.inj (e₁.trans e₂.symm))
    obtain ⟨y₁, rfl⟩ := List.head?_eq_some_iff.mp hd1
    obtain ⟨y₂, rfl⟩ := List.head?_eq_some_iff.mp hd2
    have x := beNat_injective (y₁.take 32) (y₂.take 32)
      (by rw [List.length_take, List.length_take, Nat.succ.inj l1, Nat.succ.inj l2])
      (h₁.tail.take 32) (h₂.tail.take 32) (decAscii_injective a)
    have y := beNat_injective (y₁.drop 32) (y₂.drop 32)
      (by rw [List.length_drop, List.length_drop, Nat.succ.inj l1, Nat.succ.inj l2])
      (h₁.tail.drop 32) (h₂.tail.drop 32) (decAscii_injective b)
    rw [List.eq_of_take_drop 32 x y]

/-- so server and node identifiers separate the keys of every modelled suite (hypothesis: the UUID
hash does not collide on the two pre-images) -/
theorem c13_suite_key_ids_distinct (H : HashFns) (kind : KeyKind) (k₁ k₂ t₁ t₂ : Bytes) (h₁ : IsBytes k₁) (h₂ : IsBytes k₂)
    (e₁ : keyText kind k₁ = some t₁) (e₂ : keyText kind k₂ = some t₂) (hne : k₁ ≠ k₂) :
    ((uuid5 H (serverPreStr t₁) = uuid5 H (serverPreStr t₂) → serverPreStr t₁ = serverPreStr t₂) →
      serverIdStr H t₁ ≠ serverIdStr H t₂) ∧
    ((uuid5 H (nodePreStr t₁) = uuid5 H (nodePreStr t₂) → nodePreStr t₁ = nodePreStr t₂) →
      nodeIdStr H t₁ ≠ nodeIdStr H t₂) := by
  have text : t₁ ≠ t₂ := fun e => hne (c13_keytext_injective kind k₁ k₂ t₂ h₁ h₂ (e ▸ e₁) e₂)
  exact ⟨fun hcf h => text (List.append_cancel_left (hcf h)), fun hcf h => text (hcf h)⟩

/-! ### rotations of a roster -/

/-- **a rotated roster is another roster**: the members of a roster in another cyclic order (what
`Roster.IsRotation` recognises) have another pre-image — for pairwise distinct server keys of one
length; the order of the list is part of what a roster id identifies. -/
theorem c13_rotation_new_preimage (L : Nat) (hL : 0 < L) (ro : List Member) (k : Nat) (hne : ro ≠ [])
    (hk : k % ro.length ≠ 0) (hlen : ∀ key ∈ rosterKeys ro, key.length = L)
    (hd : (ro.map (·.key)).Nodup) : rosterPre (rotl k ro) ≠ rosterPre ro := by
  intro h
  have hpos : 0 < ro.length := List.length_pos_iff.mpr hne
  have hlt : k % ro.length < ro.length := Nat.mod_lt _ hpos
  have hlen' : ∀ key ∈ rosterKeys (rotl k ro), key.length = L := by
    intro key hkey
    rw [rotl, rosterKeys_append, List.mem_append, Or.comm, ← List.mem_append, ← rosterKeys_append,
      List.take_append_drop] at hkey
    exact hlen key hkey
  -- equal key sequences start with the same key: the server key at position `k % n`, and that at position 0
  have hhead := congrArg List.head? ((c13_roster_collision_iff L hL _ _ hlen' hlen).mp h)
  rw [rosterKeys_head, rosterKeys_head, rotl, List.head?_append, List.head?_drop, List.getElem?_eq_getElem hlt,
    Option.some_or, List.head?_eq_getElem?, List.getElem?_eq_getElem hpos, Option.map_some, Option.map_some,
    Option.some.injEq] at hhead
  have hi : k % ro.length < (ro.map (·.key)).length := by rwa [List.length_map]
  have h0 : 0 < (ro.map (·.key)).length := by rwa [List.length_map]
  exact hk ((List.getElem_inj (h₀ := hi) (h₁ := h0) hd).mp (by rw [List.getElem_map, List.getElem_map, hhead]))

theorem c13_rotation_new_id (H : HashFns) (L : Nat) (hL : 0 < L) (ro : List Member) (k : Nat) (hne : ro ≠ [])
    (hk : k % ro.length ≠ 0) (hlen : ∀ key ∈ rosterKeys ro, key.length = L) (hd : (ro.map (·.key)).Nodup)
    (hcf : rosterIdOfPre H (rosterPre (rotl k ro)) = rosterIdOfPre H (rosterPre ro) → rosterPre (rotl k ro) = rosterPre ro) :
    rosterId H (rotl k ro) ≠ rosterId H ro :=
  fun h => c13_rotation_new_preimage L hL ro k hne hk hlen hd (hcf h)

/-! ### the methods of the identifier types -/

/-- `Equal` is equality of the sixteen bytes, `IsNil` equality with the nil UUID -/
theorem c13_id_equal_iff (a b : Bytes) : (idEqual a b = true ↔ a = b) ∧ (idIsNil a = true ↔ a = nilUuid) :=
  ⟨beq_iff_eq, beq_iff_eq⟩

/-! ### registries: the identifier of a service or protocol is a function of its name alone -/

/-- every entry of a service factory carries the hash of its own name -/
def RegOK (H : HashFns) (reg : List SvcEntry) : Prop := ∀ e ∈ reg, e.id = serviceId H e.name

/-- what can be done to a service factory -/
inductive SvcOp where
  | reg (name : Bytes) (suite : Option String)
  | unreg (name : Bytes)

def svcStep (H : HashFns) (reg : List SvcEntry) : SvcOp → List SvcEntry
  | .reg n s => ((svcRegister H reg n s).1).getD reg
  | .unreg n => (svcUnregister reg n).getD reg

private theorem svcStep_ok (H : HashFns) (reg : List SvcEntry) (op : SvcOp) (h : RegOK H reg) : RegOK H (svcStep H reg op) := by
  cases op with
  | reg n su =>
    cases hr : svcRegister H reg n su with
    | mk o id =>
      cases o with
      | none => rw [svcStep, hr]; exact h
      | some r =>
        rw [svcStep, hr, (svcRegister_some hr).1]
        intro e he
        rcases List.mem_append.mp he with he | he
        · exact h e he
        · rw [List.mem_singleton.mp he]
  | unreg n =>
    rw [svcStep, svcUnregister]
    split
    · exact fun e he => h e (List.mem_of_mem_eraseIdx he)
    · exact h

/-- **the id a service gets at registration is the hash of its name** — after any history of
registrations (with whatever suites) and unregistrations, and whatever suite this registration
names: the suite is stored with the entry, it is no part of the identifier.  In particular the
same name registered with and without a suite, before and after an unregistration, on this factory
or another, gets the same identifier. -/
theorem c13_service_id_function_of_name (H : HashFns) (ops : List SvcOp) :
    RegOK H (ops.foldl (svcStep H) []) ∧
    ∀ name suite reg' id, svcRegister H (ops.foldl (svcStep H) []) name suite = (some reg', id) → id = serviceId H name := by
  refine ⟨?_, fun _ _ _ _ h => (svcRegister_some h).2⟩
  have : ∀ reg : List SvcEntry, RegOK H reg → RegOK H (ops.foldl (svcStep H) reg) := by
    induction ops with
    | nil => exact fun _ h => h
    | cons op rest ih => exact fun reg h => ih _ (svcStep_ok H reg op h)
  exact this [] (fun _ he => nomatch he)

/-- two registrations of one name give one identifier, whatever the two factories hold and whatever
the two suites are -/
theorem c13_service_id_independent_of_suite (H : HashFns) (reg₁ reg₂ r₁ r₂ : List SvcEntry) (name id₁ id₂ : Bytes)
    (s₁ s₂ : Option String) (h₁ : svcRegister H reg₁ name s₁ = (some r₁, id₁))
    (h₂ : svcRegister H reg₂ name s₂ = (some r₂, id₂)) : id₁ = id₂ :=
  (svcRegister_some h₁).2.trans (svcRegister_some h₂).2.symm

/-- **name → id → name**: in a factory whose entries carry the hashes of their names, and on whose
names the hash does not collide, `ServiceID` and `Name` are inverse to each other on every
registered service -/
theorem c13_service_name_roundtrip (H : HashFns) (reg : List SvcEntry) (hok : RegOK H reg)
    (hcf : ∀ e ∈ reg, ∀ e' ∈ reg, e.id = e'.id → e.name = e'.name) (e : SvcEntry) (he : e ∈ reg) :
    svcLookupId reg e.name = e.id ∧ svcLookupName reg e.id = e.name := by
  constructor
  · obtain ⟨x, hf, hm, hx⟩ := List.find?_of_mem (p := fun x => x.name == e.name) he (beq_self_eq_true _)
    rw [svcLookupId, hf]
    show x.id = e.id
    rw [hok x hm, hok e he, beq_iff_eq.mp hx]
  · obtain ⟨x, hf, hm, hx⟩ := List.find?_of_mem (p := fun x => idEqual e.id x.id) he (beq_self_eq_true _)
    rw [svcLookupName, hf]
    exact (hcf e he x hm (beq_iff_eq.mp hx)).symm

/-- the same for the protocol table, in whatever order the table is walked (the code ranges over a
map): a registered name is found again from its identifier as long as the hash does not collide on
the registered names -/
theorem c13_proto_name_roundtrip (H : HashFns) (reg : List Bytes)
    (hcf : ∀ a ∈ reg, ∀ b ∈ reg, protoId H a = protoId H b → a = b) (n : Bytes) (hn : n ∈ reg) :
    protoIdToName H reg (protoId H n) = some n ∧ (protoRegister H reg n).1 = none := by
  constructor
  · obtain ⟨x, hf, hm, hx⟩ := List.find?_of_mem (p := fun x => idEqual (protoId H n) (protoId H x)) hn (beq_self_eq_true _)
    rw [protoIdToName, hf, hcf n hn x hm (beq_iff_eq.mp hx)]
  · rw [protoRegister, if_pos (List.contains_iff_mem.mpr hn)]

/-- a fresh name is registered under `ProtocolNameToID` of itself -/
theorem c13_proto_register_id (H : HashFns) (reg reg' : List Bytes) (n id : Bytes)
    (h : protoRegister H reg n = (some reg', id)) : id = protoId H n ∧ n ∈ reg' := by
  unfold protoRegister at h
  split at h
  · cases (Prod.mk.inj h).1
  · rw [← Option.some.inj (Prod.mk.inj h).1, ← (Prod.mk.inj h).2]
    exact ⟨rfl, List.mem_cons_self⟩

/-! ### peer-set identifiers -/

/-- the pre-image `serviceID ‖ data` determines both parts (the service id has a fixed length) -/
theorem c13_peerset_preimage_injective (s₁ s₂ d₁ d₂ : Bytes) (h₁ : s₁.length = 16) (h₂ : s₂.length = 16)
    (h : peerSetPre s₁ d₁ = peerSetPre s₂ d₂) : s₁ = s₂ ∧ d₁ = d₂ :=
  List.append_inj h (h₁.trans h₂.symm)

theorem c13_peerset_ids_distinct (H : HashFns) (s₁ s₂ d₁ d₂ : Bytes) (h₁ : s₁.length = 16) (h₂ : s₂.length = 16)
    (hne : s₁ ≠ s₂ ∨ d₁ ≠ d₂)
    (hcf : peerSetId H s₁ d₁ = peerSetId H s₂ d₂ → peerSetPre s₁ d₁ = peerSetPre s₂ d₂) :
    peerSetId H s₁ d₁ ≠ peerSetId H s₂ d₂ := by
  intro h
  obtain ⟨a, b⟩ := c13_peerset_preimage_injective s₁ s₂ d₁ d₂ h₁ h₂ (hcf h)
  exact hne.elim (· a) (· b)

/-! ### determinism, for every kind of identifier -/

/-- **every identifier is a function of its pre-image, and the pre-image a function of the value
identified** — for any hash functions: equal values (tokens, names, keys, member lists, roster id
and forest, service id and data) have equal identifiers.  Nothing else — object identity, address,
process, the time or order of construction, registration history — is an argument of these
functions; that the Go code has no further input either is what the correspondence run (rebuilt
copies, re-used objects, second process) checks. -/
theorem c13_ids_are_functions_of_preimages (H : HashFns) :
    (∀ t₁ t₂ : Token, tokenPre t₁ = tokenPre t₂ → tokenId H t₁ = tokenId H t₂) ∧
    (∀ n₁ n₂ : Bytes, protoPre n₁ = protoPre n₂ → protoId H n₁ = protoId H n₂) ∧
    (∀ n₁ n₂ : Bytes, servicePre n₁ = servicePre n₂ → serviceId H n₁ = serviceId H n₂) ∧
    (∀ k₁ k₂ : Bytes, serverPre k₁ = serverPre k₂ → serverId H k₁ = serverId H k₂) ∧
    (∀ k₁ k₂ : Bytes, nodePre k₁ = nodePre k₂ → nodeId H k₁ = nodeId H k₂) ∧
    (∀ r₁ r₂ : List Member, rosterPre r₁ = rosterPre r₂ → rosterId H r₁ = rosterId H r₂) ∧
    (∀ (rid : Bytes) (f g : Forest), dfs f = dfs g → treeId H rid f = treeId H rid g) ∧
    (∀ s₁ s₂ d₁ d₂ : Bytes, peerSetPre s₁ d₁ = peerSetPre s₂ d₂ → peerSetId H s₁ d₁ = peerSetId H s₂ d₂) :=
  ⟨fun _ _ h => congrArg (uuid5 H) h, fun _ _ h => congrArg (uuid3 H) h, fun _ _ h => congrArg (uuid5 H) h,
   fun _ _ h => congrArg (uuid5 H) h, fun _ _ h => congrArg (uuid5 H) h, fun _ _ h => congrArg (rosterIdOfPre H) h,
   fun rid _ _ h => congrArg (treeIdOfPre H rid) h, fun _ _ _ _ h => congrArg (fun p => newPeerSetID (H.sha256 p)) h⟩

/-! ### the code regions the model stands for
Regenerated from /repo's source on every run (`harness/cmd/astfacts` → `OnetVerif/Shapes.lean`): the
calls that matter for synchronisation and data flow, the lock regions and (for decision logic) the
conditions, in source order.  A re-ordering, a dropped call or a changed condition breaks these
obligations even when no sampled input or schedule shows a difference; the check then searches for
a failing input. -/
theorem c13_shape_NewTree :
    Shapes.tree_NewTree =
   ["sha256.New", "assign:h:=sha256.New()", "Public.MarshalTo",
     "assign:_,err:=tn.ServerIdentity.Public.MarshalTo(h)", "if:(err!=nil)", "if:tn.IsLeaf()",
     "h.Write", "assign:_,err=h.Write(conv{1})", "if:(err!=nil)", "root.Visit", "ID.String",
     "h.Sum", "hex.EncodeToString",
     "assign:url:=(((network.NamespaceURL+\"\")+roster.ID.String())+hex.EncodeToString(h.Sum(nil)))",
     "uuid.NewSHA1", "TreeID",
     "assign:t:=&Tree{Roster:roster,Root:root,ID:TreeID(uuid.NewSHA1(uuid.NameSpaceURL,conv(url)))}",
     "t.computeSubtreeAggregate", "return:t"] := rfl

theorem c13_shape_NewTreeNode :
    Shapes.tree_NewTreeNode =
   ["Public.String", "uuid.NewSHA1", "TreeNodeID",
     "assign:tn:=&TreeNode{ServerIdentity:ni,RosterIndex:entityIdx,Parent:nil,Children:make(conv,0),ID:TreeNodeID(uuid.NewSHA1(uuid.NameSpaceURL,conv(ni.Public.String())))}",
     "return:tn"] := rfl

theorem c13_shape_Token_ID :
    Shapes.messages_Token_ID =
   ["RosterID.String", "RoundID.String", "ServiceID.String", "ProtoID.String", "TreeID.String",
     "TreeNodeID.String",
     "assign:url:=(((((((network.NamespaceURL+\"\")+t.RosterID.String())+t.RoundID.String())+t.ServiceID.String())+t.ProtoID.String())+t.TreeID.String())+t.TreeNodeID.String())",
     "return:TokenID(uuid.NewSHA1(uuid.NameSpaceURL,conv(url)))"] := rfl

theorem c13_shape_Token_Clone :
    Shapes.messages_Token_Clone =
   ["assign:t2:=*t", "return:&t2"] := rfl

theorem c13_shape_Token_ChangeTreeNodeID :
    Shapes.messages_Token_ChangeTreeNodeID =
   ["assign:tOther:=*t", "assign:tOther.TreeNodeID=newid", "return:&tOther"] := rfl

theorem c13_shape_Roster_GetID :
    Shapes.tree_Roster_GetID =
   ["sha256.New", "assign:h:=sha256.New()", "range:_,id:=ro.List{", "Public.MarshalTo",
     "assign:_,err:=id.Public.MarshalTo(h)", "if:(err!=nil)",
     "return:RosterID{},xerrors.Errorf(\"\",err)", "range:_,srvid:=id.ServiceIdentities{",
     "Public.MarshalTo", "assign:_,err=srvid.Public.MarshalTo(h)", "if:(err!=nil)",
     "return:RosterID{},xerrors.Errorf(\"\",err)", "}", "}",
     "return:RosterID(uuid.NewSHA1(uuid.NameSpaceURL,conv(hex.EncodeToString(h.Sum(nil))))),nil"] := rfl

theorem c13_shape_Roster_Concat :
    Shapes.tree_Roster_Concat =
   ["NewRoster", "assign:tmpRoster:=NewRoster(ro.List)", "range:_,si:=sis{", "si.GetID",
     "tmpRoster.searchByKey", "assign:i,_:=tmpRoster.searchByKey(si.GetID())", "if:(i<0)",
     "assign:tmpRoster.List=append(tmpRoster.List,si)", "}", "return:NewRoster(tmpRoster.List)"] := rfl

theorem c13_shape_Roster_NewRosterWithRoot :
    Shapes.tree_Roster_NewRosterWithRoot =
   ["assign:list:=make(conv,len(ro.List))", "copy", "root.GetID", "ro.searchByKey",
     "assign:rootIndex,_:=ro.searchByKey(root.GetID())", "if:(rootIndex<0)", "return:nil",
     "assign:list[0],list[rootIndex]=list[rootIndex],list[0]", "return:NewRoster(list)"] := rfl

theorem c13_shape_Roster_RandomSubset :
    Shapes.tree_Roster_RandomSubset =
   ["if:(n>len(ro.List))", "assign:n=len(ro.List)", "assign:out:=make(conv,1,(n+1))",
     "assign:out[0]=root", "securePermute", "assign:perm:=securePermute(len(ro.List))",
     "range:_,p:=perm{", "if:!ro.List[].ID.Equal(root.ID)", "assign:out=append(out,ro.List[p])",
     "if:(len(out)==(n+1))", "break", "}", "return:NewRoster(out)"] := rfl

theorem c13_shape_serviceFactory_Register :
    Shapes.service_serviceFactory_Register =
   ["if:!s.ServiceID().Equal(NilServiceID)", "return:NilServiceID,xerrors.Errorf(\"\",name)",
     "uuid.NewSHA1", "ServiceID",
     "assign:id:=ServiceID(uuid.NewSHA1(uuid.NameSpaceURL,conv(name)))", "mutex.Lock",
     "defer:mutex.Unlock",
     "assign:s.constructors=append(s.constructors,serviceEntry{constructor:fn,serviceID:id,name:name,suite:suite})",
     "return:id,nil"] := rfl

theorem c13_shape_serviceFactory_Unregister :
    Shapes.service_serviceFactory_Unregister =
   ["mutex.Lock", "defer:mutex.Unlock", "assign:index:=-1", "range:i,c:=s.constructors{",
     "if:(c.name==name)", "assign:index=i", "break", "}", "if:(index<0)",
     "return:xerrors.New((\"\"+name))",
     "assign:s.constructors=append(s.constructors[:index],s.constructors[(index+1):])",
     "return:nil"] := rfl

theorem c13_shape_serviceFactory_ServiceID :
    Shapes.service_serviceFactory_ServiceID =
   ["mutex.RLock", "defer:mutex.RUnlock", "range:_,c:=s.constructors{", "if:(name==c.name)",
     "return:c.serviceID", "}", "return:NilServiceID"] := rfl

theorem c13_shape_serviceFactory_Name :
    Shapes.service_serviceFactory_Name =
   ["mutex.RLock", "defer:mutex.RUnlock", "range:_,c:=s.constructors{",
     "if:id.Equal(c.serviceID)", "return:c.name", "}", "return:\"\""] := rfl

theorem c13_shape_RegisterNewService :
    Shapes.service_RegisterNewService =
   ["ServiceFactory.Register"] := rfl

theorem c13_shape_RegisterNewServiceWithSuite :
    Shapes.service_RegisterNewServiceWithSuite =
   ["ServiceFactory.Register"] := rfl

theorem c13_shape_ProtocolNameToID :
    Shapes.protocol_ProtocolNameToID =
   ["assign:url:=((network.NamespaceURL+\"\")+name)",
     "return:ProtocolID(uuid.NewMD5(uuid.NameSpaceURL,conv(url)))"] := rfl

theorem c13_shape_protocolStorage_Register :
    Shapes.protocol_protocolStorage_Register =
   ["ps.Lock", "defer:ps.Unlock", "ProtocolNameToID", "assign:id:=ProtocolNameToID(name)",
     "assign:_,exists:=ps.instantiators[name]", "if:exists",
     "return:ProtocolID(uuid.Nil),xerrors.Errorf(\"\",name)",
     "assign:ps.instantiators[name]=protocol", "return:id,nil"] := rfl

theorem c13_shape_protocolStorage_ProtocolIDToName :
    Shapes.protocol_protocolStorage_ProtocolIDToName =
   ["ps.Lock", "defer:ps.Unlock", "range:n,:=ps.instantiators{",
     "if:id.Equal(ProtocolNameToID(n))", "return:n", "}", "return:\"\""] := rfl

theorem c13_shape_GlobalProtocolRegister :
    Shapes.protocol_GlobalProtocolRegister =
   ["protocols.Lock", "protocols.Unlock", "protocols.Unlock", "protocols.Register"] := rfl

theorem c13_shape_router_NewPeerSetID :
    Shapes.network_router_NewPeerSetID =
   ["copy", "return:p"] := rfl

theorem c13_shape_struct_NewServerIdentity :
    Shapes.network_struct_NewServerIdentity =
   ["si.GetID"] := rfl

theorem c13_shape_TreeNode_Visit :
    Shapes.tree_TreeNode_Visit =
   ["fn", "range:_,c:=t.Children{", "c.Visit", "}"] := rfl

theorem c13_shape_Roster_IsRotation :
    Shapes.tree_Roster_IsRotation =
   ["if:(target==nil)", "return:false", "assign:n:=len(ro.List)", "if:(n<2)", "return:false",
     "if:(n!=len(target.List))", "return:false", "range:_,sid:=target.List{",
     "if:sid.Equal(ro.List[0])", "break", "assign:offset++", "}",
     "if:((offset==0)||(offset>=n))", "return:false", "range:i,sid:=ro.List{",
     "if:!sid.Equal(target.List[((i+offset)%n)])", "return:false", "}", "return:true"] := rfl

theorem c13_shape_Roster_Equal :
    Shapes.tree_Roster_Equal =
   ["ro.GetID", "other.GetID", "roID.Equal"] := rfl

theorem c13_shape_NewRoster_full :
    Shapes.tree_NewRoster_full =
   ["if:((len(ids)<1)||(ids[0].Public==nil))", "return:nil", "sha256.New",
     "assign:h:=sha256.New()", "range:_,id:=ids{", "Public.MarshalTo",
     "assign:_,err:=id.Public.MarshalTo(h)", "if:(err!=nil)",
     "range:_,srvid:=id.ServiceIdentities{", "Public.MarshalTo",
     "assign:_,err=srvid.Public.MarshalTo(h)", "if:(err!=nil)", "}", "}", "h.Sum",
     "hex.EncodeToString", "uuid.NewSHA1", "RosterID",
     "assign:r:=&Roster{ID:RosterID(uuid.NewSHA1(uuid.NameSpaceURL,conv(hex.EncodeToString(h.Sum(nil)))))}",
     "assign:r.List=append(r.List,ids)", "if:(len(ids)!=0)", "range:_,e:=ids{",
     "if:(e.Public==nil)", "continue", "if:(agg==nil)", "Public.Clone",
     "assign:agg=e.Public.Clone()", "else", "agg.Add", "assign:agg=agg.Add(agg,e.Public)", "}",
     "assign:r.Aggregate=agg", "return:r"] := rfl

theorem c13_shape_Context_NewPeerSetID_full :
    Shapes.context_Context_NewPeerSetID_full =
   ["sha256.New", "assign:h:=sha256.New()", "h.Write", "h.Write",
     "return:network.NewPeerSetID(h.Sum(nil))"] := rfl

theorem c13_shape_struct_ServerIdentity_GetID_full :
    Shapes.network_struct_ServerIdentity_GetID_full =
   ["if:(si.Public==nil)", "return:ServerIdentityID(uuid.Nil)", "Public.String",
     "assign:url:=((NamespaceURL+\"\")+si.Public.String())",
     "return:ServerIdentityID(uuid.NewSHA1(uuid.NameSpaceURL,conv(url)))"] := rfl

end C13

import OnetVerif.Model.C09
import OnetVerif.Proofs.C09Router
import OnetVerif.Proofs.C09Pause
import OnetVerif.Proofs.Lists
import OnetVerif.Shapes
/-! Property C09 — peer failures are contained, reported to senders, and recoverable.
Property theorems (`c09_…`), the lemmas they need, witnesses and non-vacuity examples.  The router's invariant `Inv`,
`Keeps` and `Sent` (what one `Router.Send` leaves behind) are defined here, not in a Proofs file. -/
namespace C09

/-! ### invariants of the connection table -/

/-- a connection whose far end exists belongs to a peer that is up -/
def Consistent (s : St) : Prop := ∀ c ∈ s.conns, c.alive = true → s.up.contains c.peer = true

/-- connection numbers are fresh: below `next`, pairwise distinct -/
def FreshIds (s : St) : Prop := (∀ c ∈ s.conns, c.id < s.next) ∧ (s.conns.map (·.id)).Nodup

def Inv (s : St) : Prop := Consistent s ∧ FreshIds s

theorem Inv.consistent {s : St} (h : Inv s) : Consistent s := h.1
theorem Inv.below {s : St} (h : Inv s) : ∀ c ∈ s.conns, c.id < s.next := h.2.1
theorem Inv.nodup {s : St} (h : Inv s) : (s.conns.map (·.id)).Nodup := h.2.2
theorem FreshIds.nodup {s : St} (h : FreshIds s) : (s.conns.map (·.id)).Nodup := h.2

theorem inv_register {s t : St} (h : Inv s) {p : Peer} (hu : s.up.contains p = true)
    (hc : t.conns = s.conns ++ [{ id := s.next, peer := p, alive := true }]) (hn : t.next = s.next + 1)
    (hup : t.up = s.up) : Inv t := by
  obtain ⟨hcons, hlt, hnd⟩ := h
  unfold Inv Consistent FreshIds
  rw [hc, hn, hup, List.map_append, List.nodup_append]
  refine ⟨fun c hm ha => ?_, fun c hm => ?_, hnd, List.pairwise_singleton _ _, fun a ha b hb e => ?_⟩
  · rcases List.mem_append.mp hm with hm | hm
    · exact hcons c hm ha
    · cases List.mem_singleton.mp hm
      exact hu
  · rcases List.mem_append.mp hm with hm | hm
    · exact Nat.lt_succ_of_lt (hlt c hm)
    · cases List.mem_singleton.mp hm
      exact Nat.lt_succ_self _
  · obtain ⟨x, hx, rfl⟩ := List.mem_map.mp ha
    cases List.mem_singleton.mp hb
    exact Nat.lt_irrefl _ (e ▸ hlt x hx)

/-! ### one `Router.Send` -/

/-- the fields a `Send` never touches -/
structure Keeps (s s' : St) : Prop where
  dpc : s'.dpc = s.dpc
  wpc : s'.wpc = s.wpc
  up : s'.up = s.up
  handlers : s'.handlers = s.handlers
  calls : s'.calls = s.calls

theorem Keeps.refl (s : St) : Keeps s s := ⟨rfl, rfl, rfl, rfl, rfl⟩
theorem Keeps.trans {a b c : St} (h1 : Keeps a b) (h2 : Keeps b c) : Keeps a c :=
  ⟨h2.dpc.trans h1.dpc, h2.wpc.trans h1.wpc, h2.up.trans h1.up, h2.handlers.trans h1.handlers,
    h2.calls.trans h1.calls⟩

/-- what a `Router.Send` to `p` that connects at most `k` times leaves behind -/
structure Sent (p : Peer) (k : Nat) (s s' : St) : Prop where
  keeps : Keeps s s'
  conns : ∃ extra, s'.conns = s.conns ++ extra ∧ ∀ c ∈ extra, c.peer = p
  delivered : ∃ dl, s'.delivered = s.delivered ++ dl ∧ ∀ x ∈ dl, x.1 = p
  inv : Inv s → Inv s'
  attempts : 1 ≤ s.dpc → s'.dials ≤ s.dials + k * s.dpc ∧ s'.waits ≤ s.waits + k * s.wpc

namespace Sent
variable {p : Peer} {j k : Nat} {s s' s'' : St}

theorem refl (p : Peer) (k : Nat) (s : St) : Sent p k s s :=
  ⟨Keeps.refl s, ⟨[], (List.append_nil _).symm, nofun⟩, ⟨[], (List.append_nil _).symm, nofun⟩, id,
    fun _ => ⟨Nat.le_add_right _ _, Nat.le_add_right _ _⟩⟩

theorem trans (h1 : Sent p j s s') (h2 : Sent p k s' s'') : Sent p (j + k) s s'' := by
  obtain ⟨e1, he1, hp1⟩ := h1.conns
  obtain ⟨e2, he2, hp2⟩ := h2.conns
  obtain ⟨d1, hd1, hq1⟩ := h1.delivered
  obtain ⟨d2, hd2, hq2⟩ := h2.delivered
  refine ⟨h1.keeps.trans h2.keeps, ⟨e1 ++ e2, by rw [he2, he1, List.append_assoc], List.forall_mem_append.mpr ⟨hp1, hp2⟩⟩,
    ⟨d1 ++ d2, by rw [hd2, hd1, List.append_assoc], List.forall_mem_append.mpr ⟨hq1, hq2⟩⟩,
    fun hi => h2.inv (h1.inv hi), fun h => ?_⟩
  have add : ∀ {a b c x y : Nat}, b ≤ a + x → c ≤ b + y → c ≤ a + (x + y) :=
    fun h1 h2 => Nat.le_trans h2 (Nat.add_assoc .. ▸ Nat.add_le_add_right h1 _)
  have a1 := h1.attempts h
  have a2 := h2.attempts (h1.keeps.dpc ▸ h)
  rw [h1.keeps.dpc, h1.keeps.wpc] at a2
  rw [Nat.add_mul, Nat.add_mul]
  exact ⟨add a1.1 a2.1, add a1.2 a2.2⟩

theorem mono (h : Sent p j s s') (hjk : j ≤ k) : Sent p k s s' :=
  { h with attempts := fun h1 => ⟨Nat.le_trans (h.attempts h1).1 (Nat.add_le_add_left (Nat.mul_le_mul_right _ hjk) _),
      Nat.le_trans (h.attempts h1).2 (Nat.add_le_add_left (Nat.mul_le_mul_right _ hjk) _)⟩ }

theorem dial (s : St) (p : Peer) : Sent p 1 s (connect s p).1 := by
  cases hu : s.up.contains p with
  | true =>
    rw [connect_up s p hu]
    exact ⟨⟨rfl, rfl, rfl, rfl, rfl⟩, ⟨_, rfl, fun c hc => by cases List.mem_singleton.mp hc; rfl⟩,
      ⟨[], (List.append_nil _).symm, nofun⟩, fun hi => inv_register hi hu rfl rfl rfl,
      fun h => ⟨Nat.add_le_add_left (by rw [Nat.one_mul]; exact h) _, Nat.le_add_right _ _⟩⟩
  | false =>
    rw [connect_down s p hu]
    exact ⟨⟨rfl, rfl, rfl, rfl, rfl⟩, ⟨[], (List.append_nil _).symm, nofun⟩, ⟨[], (List.append_nil _).symm, nofun⟩, id,
      fun _ => by rw [Nat.one_mul, Nat.one_mul]; exact ⟨Nat.le_refl _, Nat.le_refl _⟩⟩

theorem write (s : St) {c : Conn} (hc : c.peer = p) (m : Nat) (b : Bool) : Sent p 0 s (sendOn s c m b).1 := by
  cases ha : c.alive with
  | true =>
    rw [sendOn_alive s m b ha]
    exact ⟨⟨rfl, rfl, rfl, rfl, rfl⟩, ⟨[], (List.append_nil _).symm, nofun⟩,
      ⟨_, rfl, fun x hx => by cases List.mem_singleton.mp hx; exact hc⟩, id,
      fun _ => ⟨Nat.le_add_right _ _, Nat.le_add_right _ _⟩⟩
  | false => rw [sendOn_stale s m b ha]; exact refl p 0 s

theorem other (h : Sent p k s s') {q : Peer} (hq : q ≠ p) :
    s'.conns.filter (·.peer == q) = s.conns.filter (·.peer == q) ∧
    s'.delivered.filter (·.1 == q) = s.delivered.filter (·.1 == q) := by
  obtain ⟨e, he, hp⟩ := h.conns
  obtain ⟨d, hd, hp'⟩ := h.delivered
  rw [he, hd]
  exact ⟨filter_other_append _ _ q fun c hc => hp c hc ▸ hq.symm,
    List.filter_append_left _ _ _ fun x hx => beq_false_of_ne (hp' x hx ▸ hq.symm)⟩

end Sent

theorem sendMsgs_sent (s : St) (p : Peer) {c : Conn} (hc : c.peer = p) (b : Bool) (msgs : List Nat) :
    Sent p msgs.length s (sendMsgs s p c b msgs).1 := by
  induction msgs generalizing s with
  | nil => exact .refl p 0 s
  | cons m ms ih =>
    rw [sendMsgs]
    refine ((Sent.write s hc m b).trans ?_).mono (Nat.le_of_eq (Nat.zero_add _))
    split
    · exact (ih _).mono (Nat.le_succ _)
    · rw [List.length_cons, Nat.add_comm]
      refine (Sent.dial _ p).trans ?_
      split
      · rename_i s2 heq
        rw [heq]
        exact .refl _ _ _
      · rename_i s2 c' heq
        rw [heq]
        refine ((Sent.write _ (connect_some_peer heq) m b).trans ?_).mono (Nat.le_of_eq (Nat.zero_add _))
        dsimp only
        split
        · exact ih _
        · exact .refl _ _ _

theorem send_sent (s : St) (p : Peer) (msgs : List Nat) (b : Bool) :
    Sent p (msgs.length + 1) s (send s p msgs b).1 := by
  unfold send
  split
  · exact .refl _ _ _
  · split
    · rename_i c hf
      exact (sendMsgs_sent s p (firstConn_some hf).2 b msgs).mono (Nat.le_succ _)
    · rw [Nat.add_comm]
      refine (Sent.dial s p).trans ?_
      split
      · rename_i s1 heq
        rw [heq]
        exact .refl _ _ _
      · rename_i s1 c heq
        rw [heq]
        exact sendMsgs_sent s1 p (connect_some_peer heq) b msgs

/-! ### bounded attempts -/

/-- **bounded attempts**: one `Router.Send` of `n` messages performs at most `1 + n` connects,
i.e. at most `(1 + n)·dialsPerConnect` dial attempts, and then returns (the function is total).
For the single message every entry point sends: at most two connects. -/
theorem c09_bounded_attempts (s : St) (p : Peer) (msgs : List Nat) (staleOk : Bool) (h : 1 ≤ s.dpc) :
    (send s p msgs staleOk).1.dials ≤ s.dials + (1 + msgs.length) * s.dpc := by
  rw [Nat.add_comm 1]
  exact ((send_sent s p msgs staleOk).attempts h).1

/-- the constant in the bound, for the two transports and every value of `MaxRetryConnect` -/
theorem c09_dials_per_connect (M : Nat) :
    dialsPerConnect M .tcp = M ∧ dialsPerConnect M .loc = M * M := ⟨rfl, rfl⟩

/-! ### sends return within the configured time-outs -/

/-- **sends return within the configured time-outs**: whatever the state of the connection table
and of the peer, a `Send` of `n` messages makes at most `(1+n)·dialsPerConnect` dial attempts and
pauses at most `(1+n)·waitsPerConnect` times between them, and does nothing else that can wait.
So if one dial attempt takes at most `dt` (the dial time-out on TCP and TLS — on TLS it has to
cover the handshake —, nothing on the in-memory transport) and one pause `wr` (`WaitRetry`), the
call returns after at most `(1+n)·(dpc·dt + wpc·wr)`: for the single message of every protocol- and
service-facing entry point, two connects. -/
theorem c09_send_time_bounded (s : St) (p : Peer) (msgs : List Nat) (staleOk : Bool) (h : 1 ≤ s.dpc)
    (dt wr : Nat) :
    ((send s p msgs staleOk).1.dials - s.dials) * dt + ((send s p msgs staleOk).1.waits - s.waits) * wr
      ≤ (1 + msgs.length) * (s.dpc * dt + s.wpc * wr) := by
  obtain ⟨hd, hw⟩ := (send_sent s p msgs staleOk).attempts h
  rw [Nat.add_comm 1, Nat.mul_add, ← Nat.mul_assoc, ← Nat.mul_assoc]
  exact Nat.add_le_add (Nat.mul_le_mul_right _ (Nat.sub_le_iff_le_add'.mpr hd))
    (Nat.mul_le_mul_right _ (Nat.sub_le_iff_le_add'.mpr hw))

/-- the constants of the bound, for both transports and every value of `MaxRetryConnect` -/
theorem c09_waits_per_connect (M : Nat) :
    waitsPerConnect M .tcp = M - 1 ∧ waitsPerConnect M .loc = M * M := ⟨rfl, rfl⟩

/-! ### errors reach the caller -/

theorem sendMsgs_down (s : St) (p : Peer) {c : Conn} (m : Nat) (ms : List Nat) (hc : c.alive = false)
    (hup : s.up.contains p = false) :
    sendMsgs s p c false (m :: ms) = ({ s with dials := s.dials + s.dpc, waits := s.waits + s.wpc }, .err) := by
  rw [sendMsgs, sendOn_stale s m false hc]
  simp only [Bool.false_eq_true, if_false]
  rw [connect_down s p hup]

/-- `false`: a write on a connection whose far end is gone fails (the note on TCP in the model) -/
theorem send_down (s : St) (hs : Consistent s) (p : Peer) (msgs : List Nat) (hup : s.up.contains p = false) :
    (send s p msgs false).2 = .err ∧ (send s p msgs false).1.delivered = s.delivered := by
  unfold send
  split
  · exact ⟨rfl, rfl⟩
  · rename_i hne
    split
    · rename_i c hf
      obtain ⟨hm, hp⟩ := firstConn_some hf
      -- a registered connection with `p` is stale, since `p` is not up
      have hdead : c.alive = false := by
        cases ha : c.alive with
        | false => rfl
        | true => have := hs c hm ha; rw [hp, hup] at this; cases this
      cases msgs with
      | nil => exact absurd rfl hne
      | cons m ms => rw [sendMsgs_down s p m ms hdead hup]; exact ⟨rfl, rfl⟩
    · rw [connect_down s p hup]
      exact ⟨rfl, rfl⟩

theorem entry_single_err (e : Entry) (d : Peer) (rest : List Peer) (res : Peer → Res)
    (he : e = .routerSend ∨ e = .ctxSendRaw ∨ e = .sendTo ∨ e = .sendToParent) (hd : res d = .err) :
    (entry e (d :: rest) res).1 = 1 := by
  rcases he with rfl | rfl | rfl | rfl <;> simp [entry, hd]

theorem entry_children_err (dests : List Peer) (res : Peer → Res) (h : ∃ d ∈ dests, res d = .err) :
    (entry .sendToChildren dests res).1 = 1 := by
  simp only [entry]
  induction dests with
  | nil => obtain ⟨d, hd, _⟩ := h; cases hd
  | cons d l ih =>
    simp only [entry.go]
    split
    · rfl
    · rename_i hn
      obtain ⟨x, hx, hr⟩ := h
      rcases List.mem_cons.mp hx with rfl | hx
      · exact absurd hr hn
      · exact ih ⟨x, hx, hr⟩

theorem entry_all_err (dests : List Peer) (res : Peer → Res) (h : ∃ d ∈ dests, res d = .err) :
    1 ≤ (entry .sendToAll dests res).1 := by
  obtain ⟨d, hd, hr⟩ := h
  simp only [entry]
  exact List.length_pos_of_mem (List.mem_filter.mpr ⟨hd, by simp [hr]⟩)

/-- **every send entry point reports the failure**: in every consistent state, for every entry
point offered to services and protocols — router/server send, the service context's raw send, the
tree-node send, send-to-parent, send-to-children (sequential and parallel), multicast, broadcast —
if nothing listens at a destination it addresses, the caller gets an error. -/
theorem c09_error_reaches_caller (s : St) (hs : Consistent s) (e : Entry) (dests : List Peer)
    (msgs : List Nat) (hne : dests ≠ [])
    (hdown : ∀ d ∈ dests, s.up.contains d = false) :
    1 ≤ (entry e dests (fun d => (send s d msgs false).2)).1 := by
  cases dests with
  | nil => exact absurd rfl hne
  | cons d rest =>
    have hd : (fun d => (send s d msgs false).2) d = .err :=
      (send_down s hs d msgs (hdown d (List.mem_cons_self ..))).1
    cases e with
    | sendToChildren => exact Nat.le_of_eq (entry_children_err _ _ ⟨d, List.mem_cons_self .., hd⟩).symm
    | sendToAll => exact entry_all_err _ _ ⟨d, List.mem_cons_self .., hd⟩
    | _ => exact Nat.le_of_eq (entry_single_err _ d rest _ (by decide) hd).symm

/-- the entry points with `Context.SendRaw` as it stood before the repair: it built the error and
returned nil -/
def entryBeforeFix (e : Entry) (dests : List Peer) (res : Peer → Res) : Nat × List Peer :=
  if e = .ctxSendRaw then (0, dests.take 1) else entry e dests res

/-- before the repair the caller of `Context.SendRaw` got no error for a destination at which
nothing listens; the repaired entry point reports one -/
theorem c09_sendraw_before_fix :
    (entryBeforeFix .ctxSendRaw [7] (fun d => (send {} d [0] false).2)).1 = 0 ∧
    (entry .ctxSendRaw [7] (fun d => (send {} d [0] false).2)).1 = 1 := by decide

/-! ### error handlers are told, exactly the lost connection goes -/

/-- **error handlers are told**: when the receive loop of a registered connection sees it fail,
every registered handler is called exactly once, in registration order, with the identity of the
peer that was lost, and exactly that connection leaves the table — no other entry is removed. -/
theorem c09_handlers_told (s : St) (hf : FreshIds s) (c : Conn) (hc : c ∈ s.conns) :
    (step s (.detect c.id)).1.calls = s.calls ++ s.handlers.map (·, c.peer) ∧
    (∀ x, x ∈ (step s (.detect c.id)).1.conns ↔ x ∈ s.conns ∧ x.id ≠ c.id) ∧
    (step s (.detect c.id)).1.up = s.up ∧ (step s (.detect c.id)).1.delivered = s.delivered ∧
    (step s (.detect c.id)).1.handlers = s.handlers := by
  rw [step_detect (List.find?_of_nodup_map hf.nodup hc)]
  exact ⟨rfl, mem_removeSwap s.conns c hc hf.nodup, rfl, rfl, rfl⟩

/-! ### recovery -/

theorem sendMsgs_round_up (s : St) {p : Peer} {c : Conn} (hcp : c.peer = p) (m : Nat)
    (hup : s.up.contains p = true) :
    ∃ s1, s1.up = s.up ∧ s1.delivered = s.delivered ++ [(p, m)] ∧
      ∀ ms, sendMsgs s p c false (m :: ms) = sendMsgs s1 p c false ms := by
  cases ha : c.alive with
  | true =>
    refine ⟨{ s with delivered := s.delivered ++ [(c.peer, m)] }, rfl, by rw [hcp], fun ms => ?_⟩
    rw [sendMsgs, sendOn_alive s m false ha]
    rfl
  | false =>
    refine ⟨{ s with conns := s.conns ++ [{ id := s.next, peer := p, alive := true }], next := s.next + 1,
                     dials := s.dials + 1, delivered := s.delivered ++ [(p, m)] }, rfl, rfl, fun ms => ?_⟩
    rw [sendMsgs, sendOn_stale s m false ha]
    simp only [Bool.false_eq_true, if_false]
    rw [connect_up s p hup]
    rfl

theorem sendMsgs_up (s : St) (p : Peer) (c : Conn) (hcp : c.peer = p) (msgs : List Nat)
    (hup : s.up.contains p = true) :
    (sendMsgs s p c false msgs).2 = .ok ∧
    (sendMsgs s p c false msgs).1.delivered = s.delivered ++ msgs.map (p, ·) := by
  induction msgs generalizing s with
  | nil => exact ⟨rfl, (List.append_nil _).symm⟩
  | cons m ms ih =>
    obtain ⟨s1, hu, hd, he⟩ := sendMsgs_round_up s hcp m hup
    obtain ⟨h1, h2⟩ := ih s1 (hu ▸ hup)
    rw [he ms]
    exact ⟨h1, by rw [h2, hd, List.append_assoc]; rfl⟩

/-- a send towards a peer that listens succeeds and hands over every message, in order — over the
registered connection if its far end exists, else (the write fails) over a fresh one -/
theorem c09_send_up_delivers (s : St) (p : Peer) (msgs : List Nat) (hne : msgs ≠ [])
    (hup : s.up.contains p = true) :
    (send s p msgs false).2 = .ok ∧
    (send s p msgs false).1.delivered = s.delivered ++ msgs.map (p, ·) := by
  unfold send
  cases msgs with
  | nil => exact absurd rfl hne
  | cons m ms =>
    rw [if_neg (by nofun)]
    split
    · rename_i c hf
      exact sendMsgs_up s p c (firstConn_some hf).2 _ hup
    · rw [connect_up s p hup]
      exact sendMsgs_up _ p _ rfl _ hup

theorem run_append (s : St) (l₁ l₂ : List Act) : run s (l₁ ++ l₂) = run (run s l₁) l₂ := by
  induction l₁ generalizing s with
  | nil => rfl
  | cons a l ih => exact ih _

theorem peerUp_listens (s : St) (p : Peer) : (step s (.peerUp p)).1.up.contains p = true := by
  show (if _ then _ else _ : List Peer).contains p = true
  split
  · assumption
  · exact List.contains_iff_mem.mpr (List.mem_append_right _ (List.mem_singleton_self p))

theorem send_after_peerUp (s : St) (hist : List Act) (p : Peer) (msgs : List Nat) (hne : msgs ≠ []) :
    (send (run s (hist ++ [.peerUp p])) p msgs false).2 = .ok ∧
    (send (run s (hist ++ [.peerUp p])) p msgs false).1.delivered =
      (run s (hist ++ [.peerUp p])).delivered ++ msgs.map (p, ·) :=
  c09_send_up_delivers _ p msgs hne (by rw [run_append]; exact peerUp_listens _ p)

/-- **recovery**: whatever happened before, once the peer went down, any of its failures were (or
were not) detected, and something listens at its address again, a new send reaches it: the call
succeeds and every message is handed to the new incarnation, in order. -/
theorem c09_recovers (s : St) (p : Peer) (detected : List Nat) (msgs : List Nat) (hne : msgs ≠ []) :
    let s' := run s ([.peerDown p] ++ detected.map .detect ++ [.peerUp p])
    (send s' p msgs false).2 = .ok ∧
    (send s' p msgs false).1.delivered = s'.delivered ++ msgs.map (p, ·) :=
  send_after_peerUp s _ p msgs hne

/-! ### containment -/

/-- what an action is about -/
def Act.about (s : St) : Act → Option Peer
  | .peerDown p | .peerUp p | .accept p | .send p _ _ => some p
  | .detect cid | .report cid | .remove cid => (s.conns.find? (·.id == cid)).map (·.peer)
  | .addHandler _ => none

/-- **containment**: an action that concerns peer `p` — its process ending or coming back, the
detection of one of its connections failing, a connection it opens, any send towards it, with
whatever retries — leaves every other peer `q` exactly as it was: the same registered connections
in the same order, listening or not as before, the same messages delivered to it, no error handler
told about it. (There is no crash outcome in the model: every step is a total function into
`ok | err`.) -/
theorem c09_contained (s : St) (a : Act) (p q : Peer) (ha : a.about s = some p) (h : q ≠ p) :
    (step s a).1.conns.filter (·.peer == q) = s.conns.filter (·.peer == q) ∧
    (step s a).1.up.contains q = s.up.contains q ∧
    (step s a).1.delivered.filter (·.1 == q) = s.delivered.filter (·.1 == q) ∧
    (step s a).1.calls.filter (·.2 == q) = s.calls.filter (·.2 == q) := by
  cases a with
  | peerDown p' =>
    cases ha
    exact ⟨filter_markDead s.conns p q h, contains_filter_other s.up h, rfl, rfl⟩
  | peerUp p' =>
    cases ha
    exact ⟨rfl, contains_insert_other s.up h, rfl, rfl⟩
  | accept p' =>
    cases ha
    rw [step_accept]
    split
    · refine ⟨filter_other_append _ _ q fun c hc => ?_, rfl, rfl, rfl⟩
      cases List.mem_singleton.mp hc
      exact fun e => h e.symm
    · exact ⟨rfl, rfl, rfl, rfl⟩
  | addHandler hh => cases ha
  | detect cid =>
    obtain ⟨c, hf, rfl⟩ := Option.map_eq_some_iff.mp ha
    rw [step_detect hf]
    exact ⟨removeSwap_other s.conns c (List.mem_of_find?_eq_some hf) q h, rfl, rfl, calls_other _ _ h⟩
  | report cid =>
    obtain ⟨c, hf, rfl⟩ := Option.map_eq_some_iff.mp ha
    rw [step_report hf]
    exact ⟨rfl, rfl, rfl, calls_other _ _ h⟩
  | remove cid =>
    obtain ⟨c, hf, rfl⟩ := Option.map_eq_some_iff.mp ha
    rw [step_remove hf]
    exact ⟨removeSwap_other s.conns c (List.mem_of_find?_eq_some hf) q h, rfl, rfl, rfl⟩
  | send p' msgs b =>
    cases ha
    have hs := send_sent s p msgs b
    exact ⟨(hs.other h).1, congrArg (·.contains q) hs.keeps.up, (hs.other h).2,
      congrArg (·.filter (·.2 == q)) hs.keeps.calls⟩

/-! ### the invariants hold in every reachable state -/

theorem inv_init (dpc : Nat) (up : List Peer) : Inv { dpc := dpc, up := up } :=
  ⟨nofun, nofun, List.nodup_nil⟩

theorem inv_removeSwap {s : St} (h : Inv s) {c : Conn} (hc : c ∈ s.conns) (calls : List (Nat × Peer)) :
    Inv { s with calls := calls, conns := removeSwap s.conns c } :=
  have sub := fun x hx => ((mem_removeSwap s.conns c hc h.nodup x).mp hx).1
  ⟨fun x hx => h.consistent x (sub x hx), fun x hx => h.below x (sub x hx), removeSwap_nodup s.conns c hc h.nodup⟩

theorem inv_step (s : St) (a : Act) (h : Inv s) : Inv (step s a).1 := by
  cases a with
  | peerDown p =>
    obtain ⟨hc, hlt, hnd⟩ := h
    have hid : ∀ y : Conn, (if y.peer == p then { y with alive := false } else y).id = y.id :=
      fun y => by split <;> rfl
    refine ⟨fun c hm ha => ?_, fun c hm => ?_, ?_⟩
    · obtain ⟨y, hy, rfl⟩ := List.mem_map.mp hm
      by_cases hp : (y.peer == p) = true
      · rw [if_pos hp] at ha
        cases ha
      · rw [if_neg hp] at ha ⊢
        exact (contains_filter_other s.up fun e => hp (beq_iff_eq.mpr e)).trans (hc y hy ha)
    · obtain ⟨y, hy, rfl⟩ := List.mem_map.mp hm
      rw [hid y]
      exact hlt y hy
    · show ((s.conns.map _).map _).Nodup
      rw [List.map_map]
      exact Eq.mpr (congrArg List.Nodup (List.map_congr_left fun y _ => hid y)) hnd
  | peerUp p =>
    refine ⟨fun c hm ha => ?_, h.2⟩
    have := h.consistent c hm ha
    show (if _ then _ else _ : List Peer).contains c.peer = true
    split
    · exact this
    · rw [List.contains_append, this, Bool.true_or]
  | detect cid =>
    cases hf : s.conns.find? (·.id == cid) with
    | none => rw [(step_unlisted hf).2.2]; exact h
    | some c => rw [step_detect hf]; exact inv_removeSwap h (List.mem_of_find?_eq_some hf) _
  | report cid =>
    cases hf : s.conns.find? (·.id == cid) with
    | none => rw [(step_unlisted hf).1]; exact h
    | some c => rw [step_report hf]; exact h
  | remove cid =>
    cases hf : s.conns.find? (·.id == cid) with
    | none => rw [(step_unlisted hf).2.1]; exact h
    | some c => rw [step_remove hf]; exact inv_removeSwap h (List.mem_of_find?_eq_some hf) _
  | accept p =>
    rw [step_accept]
    split
    · rename_i hu
      exact inv_register h hu rfl rfl rfl
    · exact h
  | addHandler hh => exact h
  | send p msgs b => exact (send_sent s p msgs b).inv h

/-- every state a history can reach satisfies the hypotheses of the theorems above -/
theorem c09_invariants_reachable (s : St) (acts : List Act) (h : Inv s) : Inv (run s acts) := by
  induction acts generalizing s with
  | nil => exact h
  | cons a l ih => exact ih _ (inv_step s a h)

/-! ### error handlers may use the router they are registered with -/

/-- the failure report is two steps of the receive loop: the handlers are called, then (deferred)
the connection is closed and removed -/
theorem c09_detect_is_report_then_remove (s : St) (cid : Nat) :
    (step (step s (.report cid)).1 (.remove cid)).1 = (step s (.detect cid)).1 := by
  cases hf : s.conns.find? (·.id == cid) with
  | none => rw [(step_unlisted hf).1, (step_unlisted hf).2.1, (step_unlisted hf).2.2]
  | some c =>
    rw [step_report hf, step_detect hf]
    exact step_remove hf

/-- what an error handler may do with its router while it runs -/
def Act.handlerUse : Act → Bool
  | .send _ _ _ => true
  | .addHandler _ => true
  | _ => false

theorem handlerUse_conns_prefix (s : St) (cb : List Act) (hcb : ∀ a ∈ cb, a.handlerUse = true) :
    ∃ extra, (run s cb).conns = s.conns ++ extra := by
  induction cb generalizing s with
  | nil => exact ⟨[], (List.append_nil _).symm⟩
  | cons a l ih =>
    have h1 : ∃ extra, (step s a).1.conns = s.conns ++ extra := by
      have ha := hcb a (List.mem_cons_self ..)
      cases a with
      | send p msgs b => exact (send_sent s p msgs b).conns.imp fun _ => And.left
      | addHandler h => exact ⟨[], (List.append_nil _).symm⟩
      | _ => cases ha
    obtain ⟨e1, he1⟩ := h1
    obtain ⟨e, he⟩ := ih (step s a).1 fun a ha => hcb a (List.mem_cons_of_mem _ ha)
    exact ⟨e1 ++ e, by rw [run, he, he1, List.append_assoc]⟩

/-- **error handlers may use their router**: the handlers of a lost connection run in the receive
loop's goroutine between the two halves of the report, with no lock of the router held and the
connection still listed.  Whatever they do with the router meanwhile (`cb`: sends through any
entry point, further handler registrations), every handler has been told about the lost peer
before, the router is in a state of the kind every theorem above speaks about (so a notice sent to a
peer that listens is delivered — `c09_send_up_delivers` —, a send to one that does not returns an
error after bounded attempts), and afterwards exactly the lost connection leaves the table. -/
theorem c09_handlers_may_use_router (s : St) (hi : Inv s) (c : Conn) (hc : c ∈ s.conns)
    (cb : List Act) (hcb : ∀ a ∈ cb, a.handlerUse = true) :
    let s1 := (step s (.report c.id)).1
    let s2 := run s1 cb
    let s3 := (step s2 (.remove c.id)).1
    s1.calls = s.calls ++ s.handlers.map (·, c.peer) ∧ s1.conns = s.conns ∧
    Inv s2 ∧
    (∀ x, x ∈ s3.conns ↔ x ∈ s2.conns ∧ x.id ≠ c.id) ∧
    s3.delivered = s2.delivered ∧ s3.calls = s2.calls ∧ s3.up = s2.up := by
  intro s1 s2 s3
  have hs1 : s1 = { s with calls := s.calls ++ s.handlers.map (·, c.peer) } := step_report (List.find?_of_nodup_map hi.nodup hc)
  have hi2 : Inv s2 := c09_invariants_reachable s1 cb (inv_step s (.report c.id) hi)
  -- the handlers' sends only add connections: the lost one is still listed
  obtain ⟨extra, hex⟩ := handlerUse_conns_prefix s1 cb hcb
  have hc2 : c ∈ s2.conns := by
    show c ∈ (run s1 cb).conns
    rw [hex, hs1]
    exact List.mem_append_left _ hc
  have hs3 : s3 = { s2 with conns := removeSwap s2.conns c } := step_remove (List.find?_of_nodup_map hi2.nodup hc2)
  rw [hs3]
  exact ⟨by rw [hs1], by rw [hs1], hi2, mem_removeSwap s2.conns c hc2 hi2.nodup, rfl, rfl, rfl⟩

/-! ### every send entry point hands the router's error to its caller
First over an arbitrary router-level send `rs` (nothing is assumed about it): what the caller gets
is computed from the answers of the router sends that were made — no answer is dropped, replaced
or invented (`sendAll_log`, `seqUntilErr_log`).  Then for this router: exactly the
destinations at which nothing listens cost an error. -/

/-- **`Server.Send` is the router's send** (the server embeds the router) -/
theorem c09_serverSend_reports {σ : Type} (rs : RS σ) (s : σ) (d : Peer) (n : Nat) :
    serverSend rs s d n = rs s d n := rfl

/-- **`Context.SendRaw`**: one message through the router; the caller gets an error exactly when
the router's send returned one — and the version before commit abb887e did not -/
theorem c09_sendRaw_reports {σ : Type} (rs : RS σ) (s : σ) (d : Peer) :
    (ctxSendRaw rs s d).2 = (rs s d 1).2 ∧ (ctxSendRaw rs s d).1 = (rs s d 1).1 ∧
    (ctxSendRawBeforeFix rs s d).2 = .ok := by
  unfold ctxSendRaw ctxSendRawBeforeFix serverSend
  cases h : (rs s d 1).2 <;> simp [h]

/-- **`SendTo`**: a nil destination or a closing instance is refused without a router send;
otherwise there is exactly one router send, to that node's server, carrying the message (and, the
first time, the configuration), and the caller gets an error exactly when it returned one -/
theorem c09_sendTo_reports {σ : Type} (rs : RS σ) (s : σ) (t : Tni) (to : Option Peer) :
    let o := sendTo rs s t to
    o.errs = (if to = none ∨ t.closing = true then 1 else 0) + errCount o.calls ∧
    ((to = none ∨ t.closing = true) → o.calls = []) ∧
    (∀ d, to = some d → t.closing = false →
      ∃ n, (n = 1 ∨ n = 2) ∧ o.calls = [(d, (rs s d n).2)] ∧ o.errs = (rs s d n).2.n) := by
  intro o
  cases to with
  | none => exact ⟨rfl, fun _ => rfl, nofun⟩
  | some d =>
    cases hc : t.closing with
    | true =>
      have ho : o = ⟨s, t, 1, []⟩ := sendTo_refused rs s t d hc
      rw [ho]
      exact ⟨rfl, fun _ => rfl, nofun⟩
    | false =>
      have ho : o = _ := sendTo_open rs s t d hc
      rw [ho]
      refine ⟨(Nat.zero_add _).symm, fun h => h.elim nofun nofun, fun d' hd _ => ?_⟩
      cases hd
      refine ⟨_, ?_, rfl, rfl⟩
      split
      · exact .inr rfl
      · exact .inl rfl

/-- **`SendToParent`**: nothing at the root; otherwise it is `SendTo(parent)` -/
theorem c09_sendToParent_reports {σ : Type} (rs : RS σ) (s : σ) (t : Tni) :
    (t.parent = none → (sendToParent rs s t).errs = 0 ∧ (sendToParent rs s t).calls = []) ∧
    (∀ p, t.parent = some p → sendToParent rs s t = sendTo rs s t (some p)) := by
  constructor
  · intro h
    rw [sendToParent, h]
    exact ⟨rfl, rfl⟩
  · intro p h
    rw [sendToParent, h]

theorem seqUntilErr_reports {σ : Type} (rs : RS σ) (s : σ) (t : Tni) (l : List Peer) :
    (seqUntilErr rs s t l).errs = (if t.closing = true ∧ l ≠ [] then 1 else 0) + errCount (seqUntilErr rs s t l).calls ∧
    (seqUntilErr rs s t l).errs ≤ 1 ∧
    (seqUntilErr rs s t l).calls.map (·.1) <+: l := by
  cases hc : t.closing with
  | true =>
    cases l with
    | nil => exact ⟨rfl, Nat.zero_le _, List.prefix_refl _⟩
    | cons d l =>
      rw [seqUntilErr_closing rs s t hc]
      exact ⟨rfl, Nat.le_refl 1, List.nil_prefix⟩
  | false =>
    obtain ⟨-, he, h1, hp, -⟩ := seqUntilErr_log rs s t hc l
    exact ⟨he.trans (Nat.zero_add _).symm, h1, hp⟩

/-- **`SendToChildren`**: the children are tried in order and the call returns at the first router
send that fails: the caller gets an error exactly when some router send returned one (or the
instance is closing), no send follows a failed one, and only children are addressed -/
theorem c09_sendToChildren_reports {σ : Type} (rs : RS σ) (s : σ) (t : Tni) :
    let o := sendToChildren rs s t
    o.errs = (if t.closing = true ∧ t.children ≠ [] then 1 else 0) + errCount o.calls ∧
    o.errs ≤ 1 ∧ o.calls.map (·.1) <+: t.children :=
  seqUntilErr_reports rs s t t.children

theorem sendAll_reports {σ : Type} (rs : RS σ) (s : σ) (t : Tni) (l : List Peer) :
    (sendAll rs s t l).errs = (if t.closing = true then l.length else 0) + errCount (sendAll rs s t l).calls ∧
    (t.closing = false → (sendAll rs s t l).calls.map (·.1) = l) := by
  cases hc : t.closing with
  | true =>
    rw [sendAll_closing rs s t hc]
    exact ⟨rfl, nofun⟩
  | false =>
    obtain ⟨-, he, hm⟩ := sendAll_log rs s t hc l
    exact ⟨he.trans (Nat.zero_add _).symm, fun _ => hm⟩

/-- **`Multicast`**, **`Broadcast`**, **`SendToChildrenInParallel`**: every destination is tried
— a failed send does not stop the others — and the caller gets one error per router send that
failed (per destination, if the instance is closing); for the parallel variant in whatever order
`sched` the goroutines run -/
theorem c09_multicast_reports {σ : Type} (rs : RS σ) (s : σ) (t : Tni) (nodes : List Peer) :
    (multicast rs s t nodes).errs = (if t.closing = true then nodes.length else 0) + errCount (multicast rs s t nodes).calls ∧
    (t.closing = false → (multicast rs s t nodes).calls.map (·.1) = nodes) :=
  sendAll_reports rs s t nodes

theorem c09_broadcast_reports {σ : Type} (rs : RS σ) (s : σ) (t : Tni) :
    (broadcast rs s t).errs = (if t.closing = true then t.others.length else 0) + errCount (broadcast rs s t).calls ∧
    (t.closing = false → (broadcast rs s t).calls.map (·.1) = t.parent.toList ++ t.children) :=
  sendAll_reports rs s t t.others

theorem c09_parallel_reports {σ : Type} (rs : RS σ) (s : σ) (t : Tni) (sched : List Peer) :
    (sendToChildrenInParallel rs s t sched).errs =
      (if t.closing = true then sched.length else 0) + errCount (sendToChildrenInParallel rs s t sched).calls ∧
    (t.closing = false → (sendToChildrenInParallel rs s t sched).calls.map (·.1) = sched) :=
  sendAll_reports rs s t sched

/-! ### … and on this router: exactly the destinations where nothing listens cost an error -/

/-- this router's send, seen from an entry point: with at least one message, in a consistent state,
it fails exactly when nothing listens at the destination; it delivers all or nothing -/
theorem rsend_exact (s : St) (hi : Inv s) (d : Peer) (n : Nat) (hn : 1 ≤ n) :
    (rsend s d n).2 = (if s.up.contains d = true then .ok else .err) ∧
    Inv (rsend s d n).1 ∧ Keeps s (rsend s d n).1 ∧
    (rsend s d n).1.delivered = s.delivered ++ (if s.up.contains d = true then List.replicate n (d, 0) else []) := by
  have hs := send_sent s d (List.replicate n 0) false
  cases hu : s.up.contains d with
  | true =>
    have hne : List.replicate n 0 ≠ [] := mt (List.replicate_eq_nil_iff 0).mp (Nat.ne_of_gt hn)
    obtain ⟨h1, h2⟩ := c09_send_up_delivers s d _ hne hu
    exact ⟨h1, hs.inv hi, hs.keeps, h2.trans (by rw [List.map_replicate]; rfl)⟩
  | false =>
    obtain ⟨h1, h2⟩ := send_down s hi.consistent d (List.replicate n 0) hu
    exact ⟨h1, hs.inv hi, hs.keeps, h2.trans (List.append_nil _).symm⟩

/-- a send does not change who listens: every send of a log is answered as the listeners stood when the log began -/
theorem SendLog.exact {s s' : St} {cs : List (Peer × Res)} (h : SendLog rsend s cs s') (hi : Inv s) :
    errCount cs = ((cs.map (·.1)).filter fun d => !s.up.contains d).length ∧
    s.delivered.length + ((cs.map (·.1)).filter fun d => s.up.contains d).length ≤ s'.delivered.length := by
  induction h with
  | nil s => exact ⟨rfl, Nat.le_refl _⟩
  | @cons s s' cs d n hn _ ih =>
    obtain ⟨h1, h2, h3, h4⟩ := rsend_exact s hi d n hn
    obtain ⟨e, dl⟩ := ih h2
    rw [h3.up] at e dl
    rw [h4, List.length_append] at dl
    constructor
    · -- the answer to `d` counts iff nothing listens there
      show (rsend s d n).2.n + errCount cs = _
      rw [h1, e, List.map_cons, List.filter_cons]
      cases s.up.contains d
      · exact Nat.add_comm 1 _
      · exact Nat.zero_add _
    · rw [List.map_cons, List.filter_cons]
      cases hu : s.up.contains d
      · rw [hu] at dl
        exact dl
      · rw [hu, if_pos rfl, List.length_replicate] at dl
        rw [if_pos rfl, List.length_cons]
        omega

/-- **`SendTo`, exactly**: in every reachable state the caller of `SendTo` gets an error if and
only if the instance is closing or nothing listens at the destination; when it gets none, the
message (preceded, the first time, by the configuration) has been handed to the destination; when it
gets one, nothing was delivered -/
theorem c09_sendTo_exact (s : St) (hi : Inv s) (t : Tni) (d : Peer) :
    let o := sendTo rsend s t (some d)
    o.errs = (if (t.closing || !s.up.contains d) = true then 1 else 0) ∧
    Inv o.st ∧ Keeps s o.st ∧
    o.st.delivered = s.delivered ++
      (if (t.closing || !s.up.contains d) = true then []
       else List.replicate (if (!t.sentTo.contains d && t.config) = true then 2 else 1) (d, 0)) := by
  intro o
  cases hc : t.closing with
  | true =>
    have ho : o = ⟨s, t, 1, []⟩ := sendTo_refused rsend s t d hc
    rw [ho]
    exact ⟨rfl, hi, Keeps.refl s, (List.append_nil _).symm⟩
  | false =>
    have ho : o = _ := sendTo_open rsend s t d hc
    have hn : 1 ≤ (if (!t.sentTo.contains d && t.config) = true then 2 else 1) := by split <;> decide
    obtain ⟨h1, h2, h3, h4⟩ := rsend_exact s hi d _ hn
    rw [ho]
    refine ⟨?_, h2, h3, ?_⟩
    · dsimp only
      rw [h1]
      cases s.up.contains d <;> rfl
    · dsimp only
      rw [h4]
      cases s.up.contains d <;> rfl

theorem sendAll_exact (s : St) (hi : Inv s) (t : Tni) (l : List Peer) :
    (sendAll rsend s t l).errs =
      (if t.closing = true then l.length else (l.filter fun d => !s.up.contains d).length) ∧
    (t.closing = false →
      s.delivered.length + (l.filter fun d => s.up.contains d).length ≤ (sendAll rsend s t l).st.delivered.length) := by
  cases hc : t.closing with
  | true =>
    rw [sendAll_closing rsend s t hc]
    exact ⟨rfl, nofun⟩
  | false =>
    obtain ⟨hl, he, hm⟩ := sendAll_log rsend s t hc l
    obtain ⟨e, dl⟩ := hl.exact hi
    rw [hm] at e dl
    exact ⟨he.trans e, fun _ => dl⟩

/-- **`Multicast` / `Broadcast` / `SendToChildrenInParallel`, exactly**: in every reachable state
the caller gets as many errors as there are destinations at which nothing listens (all of them if
the instance is closing); every destination that listens is handed its message -/
theorem c09_collecting_sends_exact (s : St) (hi : Inv s) (t : Tni) (nodes : List Peer) :
    (multicast rsend s t nodes).errs =
      (if t.closing = true then nodes.length else (nodes.filter fun d => !s.up.contains d).length) ∧
    (broadcast rsend s t).errs =
      (if t.closing = true then t.others.length else (t.others.filter fun d => !s.up.contains d).length) ∧
    (t.closing = false →
      s.delivered.length + (nodes.filter fun d => s.up.contains d).length ≤ (multicast rsend s t nodes).st.delivered.length) :=
  ⟨(sendAll_exact s hi t nodes).1, (sendAll_exact s hi t t.others).1, (sendAll_exact s hi t nodes).2⟩

/-- **the order of the goroutines does not matter**: whatever permutation of the children the
scheduler picks, `SendToChildrenInParallel` hands its caller the same number of errors — one per
child at which nothing listens -/
theorem c09_parallel_any_schedule (s : St) (hi : Inv s) (t : Tni) (sched : List Peer)
    (hp : sched.Perm t.children) :
    (sendToChildrenInParallel rsend s t sched).errs =
      (if t.closing = true then t.children.length else (t.children.filter fun d => !s.up.contains d).length) := by
  rw [sendToChildrenInParallel, (sendAll_exact s hi t sched).1]
  rw [hp.length_eq, (hp.filter _).length_eq]

theorem seqUntilErr_exact (s : St) (hi : Inv s) (t : Tni) (l : List Peer) :
    (seqUntilErr rsend s t l).errs =
      (if (!l.isEmpty && (t.closing || l.any fun d => !s.up.contains d)) = true then 1 else 0) := by
  cases hc : t.closing with
  | true =>
    cases l with
    | nil => rfl
    | cons d l => rw [seqUntilErr_closing rsend s t hc]; rfl
  | false =>
    obtain ⟨hl, he, h1, hp, hall⟩ := seqUntilErr_log rsend s t hc l
    obtain ⟨e, -⟩ := hl.exact hi
    rw [he, e] at h1 hall ⊢
    rw [show (!l.isEmpty && (false || l.any fun d => !s.up.contains d)) = l.any fun d => !s.up.contains d by
      cases l <;> rfl]
    cases ha : l.any fun d => !s.up.contains d with
    | false =>
      -- every child listens: no send of the log failed
      rw [if_neg Bool.false_ne_true, List.length_eq_zero_iff, List.filter_eq_nil_iff]
      exact fun d hd => List.any_eq_false.mp ha d (hp.subset hd)
    | true =>
      -- a call that hands back no error has tried every child, the one where nothing listens too
      rw [if_pos rfl]
      refine Nat.le_antisymm h1 (Nat.pos_of_ne_zero fun h0 => ?_)
      rw [hall h0, List.length_eq_zero_iff, List.filter_eq_nil_iff] at h0
      obtain ⟨d, hd, hn⟩ := List.any_eq_true.mp ha
      exact h0 d hd hn

/-- **`SendToChildren`, exactly**: in every reachable state the caller gets an error if and only if
there are children and the instance is closing or nothing listens at one of them -/
theorem c09_sendToChildren_exact (s : St) (hi : Inv s) (t : Tni) :
    (sendToChildren rsend s t).errs =
      (if (!t.children.isEmpty && (t.closing || t.children.any fun d => !s.up.contains d)) = true then 1 else 0) :=
  seqUntilErr_exact s hi t t.children

/-- **`Server.Send` / `Context.SendRaw` / `SendToParent`, exactly**: in every reachable state
`Server.Send` and `Context.SendRaw` to `d` return an error if and only if nothing listens at `d`;
`SendToParent` hands its caller one error if the instance is closing or nothing listens at the
parent, and none otherwise -/
theorem c09_single_sends_exact (s : St) (hi : Inv s) (t : Tni) (d : Peer) (n : Nat) (hn : 1 ≤ n) :
    (serverSend rsend s d n).2 = (if s.up.contains d = true then .ok else .err) ∧
    (ctxSendRaw rsend s d).2 = (if s.up.contains d = true then .ok else .err) ∧
    (t.parent = some d →
      (sendToParent rsend s t).errs = (if (t.closing || !s.up.contains d) = true then 1 else 0)) := by
  refine ⟨(rsend_exact s hi d n hn).1, ?_, ?_⟩
  · rw [(c09_sendRaw_reports rsend s d).1]; exact (rsend_exact s hi d 1 (by omega)).1
  · intro hp
    rw [(c09_sendToParent_reports rsend s t).2 d hp]
    exact (c09_sendTo_exact s hi t d).1

/-! ### the moment of tree propagation -/

/-- **a failed tree request leaves no mark**: a message over an unknown tree whose request cannot
be sent (nothing listens at the sender any more) is parked, the caller is told, and the tree id is
not left marked as asked for -/
theorem c09_failed_tree_request_leaves_no_mark {σ : Type} (rs : RS σ) (s : σ) (o : Trees) (p : Peer) (t m : Nat)
    (hk : o.known.contains t = false) (ha : o.asked.contains t = false) (he : (rs s p 1).2 = .err) :
    let r := transmit true rs s o p t m
    r.2.2 = .err ∧ r.2.1.asked = o.asked ∧ r.2.1.parked = o.parked ++ [(t, m)] ∧
    r.2.1.known = o.known ∧ r.2.1.handled = o.handled := by
  -- unknown and not asked for: parked, the request goes out and fails; `fixed = true` leaves no mark
  simp only [transmit, hk, ha, he, Bool.false_eq_true, if_false]
  simp

/-- **once the peer is back the tree is asked for again and every parked message is handled**:
after a request that failed, whatever happened to the router meanwhile (`s'`), the next message
over the same tree finds no mark, so a new request goes out; when it can be sent (the peer listens
again) the id is marked, the peer's answer is accepted, and the messages parked for the tree —
those from before the failure, the one that failed, the new one — are handed to their instances in
order of arrival -/
theorem c09_tree_request_retried_after_restart {σ : Type} (rs : RS σ) (s s' : σ) (o : Trees) (p : Peer) (t m m' : Nat)
    (hk : o.known.contains t = false) (ha : o.asked.contains t = false)
    (he : (rs s p 1).2 = .err) (hok : (rs s' p 1).2 = .ok) :
    let r1 := transmit true rs s o p t m
    let r2 := transmit true rs s' r1.2.1 p t m'
    let o3 := treeArrives r2.2.1 t
    r2.2.2 = .ok ∧ r2.2.1.asked.contains t = true ∧
    o3.known.contains t = true ∧ o3.parked.filter (·.1 == t) = [] ∧
    o3.handled = o.handled ++ o.parked.filter (·.1 == t) ++ [(t, m), (t, m')] := by
  -- the first `transmit` parks `(t, m)` and leaves no mark, so the second parks `(t, m')`, sends the
  -- request and marks `t`
  simp only [transmit, hk, ha, he, hok, Bool.false_eq_true, if_false, if_true]
  -- `t` is marked, so `treeArrives` accepts: what was parked for `t`, then the two new messages, go to `handled`
  simp [treeArrives, List.filter_append]

/-- the variant that leaves the mark after a failed request: the next message over the tree is
parked without anybody being asked (the router is not even called), and it stays parked — an
answer can never come -/
theorem c09_tree_request_mark_must_be_taken_back {σ : Type} (rs : RS σ) (s s' : σ) (o : Trees) (p : Peer) (t m m' : Nat)
    (hk : o.known.contains t = false) (ha : o.asked.contains t = false) (he : (rs s p 1).2 = .err) :
    let r1 := transmit false rs s o p t m
    let r2 := transmit false rs s' r1.2.1 p t m'
    r2.1 = s' ∧ r2.2.1.known = o.known ∧ r2.2.1.parked = o.parked ++ [(t, m), (t, m')] ∧ r2.2.1.handled = o.handled := by
  -- with `fixed = false` the failed request leaves `t` marked: the second `transmit` takes the
  -- "request already sent" branch, which parks the message and does not call the router
  simp only [transmit, hk, ha, he, Bool.false_eq_true, if_false]
  simp

/-- on this router: the request fails exactly while nothing listens at the sender, and succeeds
once it is back — so `c09_tree_request_retried_after_restart` applies to every history in which the
sender of an orphan message dies and restarts -/
theorem c09_tree_request_follows_the_peer (s : St) (hi : Inv s) (p : Peer) :
    (rsend s p 1).2 = (if s.up.contains p = true then .ok else .err) :=
  (rsend_exact s hi p 1 (by omega)).1

/-! ### the in-memory transport: a peer that closes while sends are in flight -/

/-- **a close never races an enqueue**: with the look-up and the hand-over to the queue in one
region of the manager's lock (the code as it is), for every interleaving of unboundedly many
senders, a receiver that takes messages or not, and the close of the connection: no sender is ever
between look-up and hand-over when the queue is closed — nobody writes to a closed channel, no
send panics; a sender that comes after the close is told `ErrClosed` -/
theorem c09_close_never_races_an_enqueue (cap : Nat) (acts : List LmAct) :
    let s := lmRun true { cap := cap } acts
    (∀ i : Nat, s.senders[i]? ≠ some SndPc.panicked) ∧
    (s.isOpen = false → ∀ i : Nat, s.senders[i]? ≠ some SndPc.holding) ∧
    (∀ i : Nat, s.isOpen = false → s.senders[i]? = some SndPc.want →
      ∃ s', lmStep true s (.lookup i) = some s' ∧ s'.senders[i]? = some (SndPc.done false)) := by
  intro s
  have hinv : LmInv s := lm_inv_run cap acts
  have hfree : s.isOpen = false → s.lock = none := fun hc => by
    cases hl : s.lock with
    | none => rfl
    | some k => have := hinv.isOpen (by rw [hl]; nofun); rw [hc] at this; cases this
  refine ⟨fun i hi => hinv.noPanic (List.mem_of_getElem? hi), fun hc i hi => ?_, fun i hc hi => ?_⟩
  · have := hinv.holder.eq_some hi rfl
    rw [hfree hc] at this
    cases this
  · refine ⟨{ s with senders := s.senders.set i (.done false) }, ?_,
      List.getElem?_set_self_of_some hi⟩
    rw [lmStep, if_pos ⟨hi, hfree hc⟩, if_neg (by rw [hc]; nofun)]

/-- the variant that releases the lock between look-up and hand-over: a sender that has found the
connection and waits for room in its queue is overtaken by the close and writes to the closed
channel -/
theorem c09_enqueue_outside_the_lock_panics :
    (lmRun false {} [.sendCall, .lookup 0, .close, .enqueue 0]).senders = [.panicked] := by decide

/-! ### the receive loop: which errors end it, what is dispatched, what is left in the table -/

/-- **the receive loop is the filter of the arrivals up to the first ending iteration** (refinement
to the small specification `recvSpec`): for every sequence of `Receive` results and router flags,
exactly the packets that arrive before the first iteration that ends the loop are dispatched, in
order, none twice, none dropped; temporary errors (undecodable frame, `ErrCanceled`) are skipped; the
loop returns at that iteration and for that iteration's reason; it does not return otherwise. -/
theorem c09_recvloop_is_filter_until_first_end (rs : List Round) : recvLoop rs = recvSpec rs := by
  induction rs with
  | nil => rfl
  | cons x rest ih =>
    rw [recvLoop_cons, ih]
    cases he : x.ends with
    | none =>
      simp only [recvSpec, List.takeWhile_cons, List.dropWhile_cons, he, Option.isNone_none, if_true]
      cases hm : x.msg? <;> simp [hm]
    | some e => simp [recvSpec, he]

/-- **a fatal error is reported**: when the first iteration that can end the loop is a `Receive`
error of class time-out / closed / EOF / unknown on an open, unpaused router, the loop returns through
the error handlers, having dispatched every packet that arrived before — whatever follows. -/
theorem c09_recvloop_fatal_reported (pre post : List Round) (c : ErrClass) (hc : c.fatal = true)
    (hpre : ∀ x ∈ pre, x.ends = none) :
    recvLoop (pre ++ { r := .err c } :: post) =
      { dispatched := pre.filterMap Round.msg?, exit := some .reported } := by
  have he : ({ r := .err c } : Round).ends = some .reported := by
    show (if c.fatal = true then _ else _) = _
    rw [if_pos hc]
  rw [recvLoop_append pre _ hpre, recvLoop_cons, he]
  dsimp only
  rw [List.append_nil]

/-- **nothing else ends it** (the loop's liveness): as long as no iteration has a reason to end
the loop it is still receiving, and every packet that arrived has been dispatched. -/
theorem c09_recvloop_keeps_going (rs : List Round) (h : ∀ x ∈ rs, x.ends = none) :
    recvLoop rs = { dispatched := rs.filterMap Round.msg?, exit := none } := by
  have := recvLoop_append rs [] h
  rwa [List.append_nil, show (recvLoop []).dispatched = [] from rfl, List.append_nil] at this

/-- the loop has returned iff some iteration had a reason -/
theorem c09_recvloop_exit_iff (rs : List Round) :
    (recvLoop rs).exit.isSome = true ↔ ∃ x ∈ rs, x.ends.isSome = true := by
  induction rs with
  | nil => simp [recvLoop]
  | cons x rest ih =>
    rw [recvLoop_cons]
    cases he : x.ends with
    | none => simp [ih, he]
    | some e => simp [he]

/-- **error translation**: whatever the operating system reports for a read or a write, the class
`handleError` gives it ends the receive loop with a report — except an error whose text says
`canceled` (and neither `use of closed` nor `broken pipe`), which is `ErrCanceled` and skipped. -/
theorem c09_handleError_fatal_unless_canceled (e : NetErr) :
    (handleError e).fatal = true ∨
    (handleError e = .canceled ∧ e.cancelText = true ∧ e.closedText = false ∧ e.pipeText = false) := by
  obtain ⟨a, b, c, d, f, g, h⟩ := e
  -- down the chain of tests: the first one that succeeds decides the class, whatever the later fields are
  cases a
  · cases b
    · cases c
      · left
        cases d
        · cases f
          · cases g
            · rfl
            · cases h <;> rfl
          · rfl
        · rfl
      · exact .inr ⟨rfl, rfl, rfl, rfl⟩
    · exact .inl rfl
  · exact .inl rfl

/-- a time-out is recognised exactly when nothing in the error's text matched first and the error is
a `net.Error` whose `Timeout()` holds; a closed connection is recognised by its text alone -/
theorem c09_handleError_classes (e : NetErr) :
    (handleError e = .timeout ↔
      e.closedText = false ∧ e.pipeText = false ∧ e.cancelText = false ∧ e.isEOF = false ∧
      e.eofText = false ∧ e.netErr = true ∧ e.timeout = true) ∧
    (handleError e = .closed ↔ e.closedText = true ∨ e.pipeText = true) ∧
    handleError e ≠ .other := by
  obtain ⟨a, b, c, d, f, g, h⟩ := e
  -- the fields in the order `handleError` tests them; at each level the `true` case decides the class
  cases a
  · cases b
    · cases c
      · cases d
        · cases f
          · cases g
            · simp [handleError]
            · cases h <;> simp [handleError]
          · simp [handleError]
        · simp [handleError]
      · simp [handleError]
    · simp [handleError]
  · simp [handleError]

/-- everything a peer can do to a connection other than sending frames — closing between or inside
frames, resetting, going silent, announcing an oversized frame — ends the survivor's receive loop
with a report; a frame, decodable or not, does not -/
theorem c09_peer_events_end_the_loop (ev : PeerEv) :
    ({ r := ev.recv } : Round).ends =
      match ev with
      | .good _ | .garbage => none
      | _ => some .reported := by
  cases ev <;> rfl

/-- **no entry outlives its receive loop**: when the loop of a registered connection has returned —
for whatever reason — exactly that connection has left the table; the handlers were called (each
once, with the lost peer) iff the reason was a fatal error; a loop that is still receiving changes
nothing. -/
theorem c09_loop_end_leaves_no_entry (s : St) (hf : FreshIds s) (c : Conn) (hc : c ∈ s.conns) (e : Option Exit) :
    (∀ x, x ∈ (endLoop s c.id e).conns ↔ x ∈ s.conns ∧ (e.isSome = true → x.id ≠ c.id)) ∧
    (endLoop s c.id e).calls =
      s.calls ++ (if e = some .reported then s.handlers.map (·, c.peer) else []) ∧
    (endLoop s c.id e).up = s.up ∧ (endLoop s c.id e).delivered = s.delivered := by
  have hfind := List.find?_of_nodup_map hf.nodup hc
  have hmem : ∀ x, x ∈ removeSwap s.conns c ↔ x ∈ s.conns ∧ (true = true → x.id ≠ c.id) := fun x =>
    (mem_removeSwap s.conns c hc hf.nodup x).trans ⟨fun h => ⟨h.1, fun _ => h.2⟩, fun h => ⟨h.1, h.2 rfl⟩⟩
  cases e with
  | none => exact ⟨fun x => ⟨fun h => ⟨h, nofun⟩, (·.1)⟩, (List.append_nil _).symm, rfl, rfl⟩
  | some ex =>
    cases ex with
    | reported =>
      rw [show endLoop s c.id (some .reported) = _ from step_detect hfind]
      exact ⟨hmem, rfl, rfl, rfl⟩
    | paused =>
      rw [show endLoop s c.id (some .paused) = _ from step_remove hfind]
      exact ⟨hmem, (List.append_nil _).symm, rfl, rfl⟩
    | closed =>
      rw [show endLoop s c.id (some .closed) = _ from step_remove hfind]
      exact ⟨hmem, (List.append_nil _).symm, rfl, rfl⟩

/-! ### the listener, the dispatcher, the pause gate, a send to oneself -/

/-- **a stalled set-up keeps nobody out**: whatever number of connections sit silent at the listener,
every peer that goes through the set-up is registered, in order of arrival — the accept loop is the
filter of the arrivals -/
theorem c09_stalled_setup_keeps_nobody_out (l : List SetUp) :
    acceptLoop false l = l.filterMap SetUp.peer? := by
  induction l with
  | nil => rfl
  | cons x rest ih =>
    cases x with
    | completes p => simp [acceptLoop, SetUp.peer?, ih]
    | stalls => simp [acceptLoop, List.filterMap_cons, SetUp.peer?, ih]

/-- the variant that completes the handshake inside the loop: one silent connection and no later
peer is ever registered -/
theorem c09_inline_handshake_blocks_the_listener (later : List SetUp) :
    acceptLoop true (.stalls :: later) = [] := by
  simp [acceptLoop]

/-- **the dispatch of a message never waits for another message's processor**: whatever processors
are running — and however long they stay (`finish` is the environment's) — every `Dispatch` call
returns having started the processor: the messages handed to processors are exactly the arrivals,
in order; no receive loop is ever blocked in `Dispatch` -/
theorem c09_dispatch_never_waits (s : Rd) (acts : List RdAct) :
    (∀ a, (rdStep none s a).isSome = true) ∧
    (rdRun none s acts).started = s.started ++ acts.filterMap RdAct.msg? := by
  refine ⟨fun a => by cases a <;> simp [rdStep], ?_⟩
  induction acts generalizing s with
  | nil => simp [rdRun]
  | cons a rest ih =>
    cases a with
    | dispatch m => simp [rdRun, rdStep, ih, RdAct.msg?]
    | finish m => simp [rdRun, rdStep, ih, RdAct.msg?, List.filterMap_cons]

/-- the variant with a bound on running processors, the slot taken inside `Dispatch`: once as many
handlers are stuck as there are slots, the receive loop that brings the next message — from
whichever peer — is blocked, and the message is never handled -/
theorem c09_bounded_dispatcher_is_not_contained :
    rdStep (some 2) (rdRun (some 2) {} [.dispatch 1, .dispatch 2]) (.dispatch 3) = none ∧
    (rdRun (some 2) {} [.dispatch 1, .dispatch 2, .dispatch 3]).started = [1, 2] := by
  decide

/-- **nobody is stranded at the gate**: for every schedule of launches, `Pause` / `Unpause` calls, returns of
`Receive` and wake-ups, no receive loop waits on a channel that is neither closed nor the one the next `Unpause`
(or `Stop`) closes.  Falsified by any write of `r.paused` outside `Pause` / `Unpause` — the old second lock
region of `handleConn` (`c09_woken_loop_must_not_reset_the_gate`). -/
theorem c09_pause_gate_nobody_stranded (acts : List GateAct) :
    ∀ pc ∈ (gateRun true {} acts).loops, pc.stranded (gateRun true {} acts) = false :=
  (gate_inv_run {} gate_inv_init acts).not_stranded

/-- non-vacuity: a state of the repaired gate in which two loops wait, one on a closed channel and one on the
current one -/
example :
    (gateRun true {} [.launch, .launch, .launch, .pause, .received 0, .unpause, .pause, .received 1, .received 2, .wake 0]).loops
      = [.exited, .wait 1, .wait 1] := by decide


/-- the small specification of the self branch: the messages before the first one the dispatcher refuses are
dispatched, in order; the call fails iff there is such a message -/
theorem c09_self_send_spec (msgs : List SelfMsg) :
    selfSend msgs = { dispatched := (msgs.takeWhile (·.handled)).map (·.m),
                      res := if msgs.all (·.handled) then .ok else .err } := by
  induction msgs with
  | nil => rfl
  | cons x l ih =>
    simp only [selfSend]
    cases hx : x.handled
    · simp [List.takeWhile, hx]
    · simp [List.takeWhile, hx, ih]

/-- **a send to oneself is local**: whatever the connection table holds, whoever listens (nobody, for instance),
however many dial attempts a connect would cost — the state of the router is untouched: no dial, no wait, no entry
made or used; and when every message has a processor the call succeeds and all of them are dispatched in order.
Falsified by a `Send` that treats the own identity like any other destination (it would dial its own address and
fail whenever the listener is down), or that goes on after a refused message. -/
theorem c09_self_send_is_local (self : Peer) (s : St) (msgs : List SelfMsg) (staleOk : Bool) :
    (sendAny self s self msgs staleOk).1 = s ∧
    (msgs ≠ [] → (∀ x ∈ msgs, x.handled = true) →
      (sendAny self s self msgs staleOk).2 = (.ok, msgs.map (·.m))) := by
  cases msgs with
  | nil => exact ⟨rfl, fun h => absurd rfl h⟩
  | cons x l =>
    have he : sendAny self s self (x :: l) staleOk =
        (s, (selfSend (x :: l)).res, (selfSend (x :: l)).dispatched) := by
      rw [sendAny, if_neg (show ¬(x :: l).isEmpty = true from Bool.false_ne_true), if_pos rfl]
    refine ⟨by rw [he], fun _ hall => ?_⟩
    rw [he, c09_self_send_spec, if_pos (List.all_eq_true.mpr hall), List.takeWhile_eq_self _ _ hall]

/-- for every other destination `sendAny` is `send` -/
theorem c09_send_any_other (self : Peer) (s : St) (p : Peer) (msgs : List SelfMsg) (staleOk : Bool) (hp : p ≠ self) :
    (sendAny self s p msgs staleOk).1 = (send s p (msgs.map (·.m)) staleOk).1 ∧
    (sendAny self s p msgs staleOk).2.1 = (send s p (msgs.map (·.m)) staleOk).2 := by
  cases msgs with
  | nil => exact ⟨rfl, rfl⟩
  | cons x l =>
    rw [sendAny, if_neg (show ¬(x :: l).isEmpty = true from Bool.false_ne_true), if_neg hp]
    exact ⟨rfl, rfl⟩

example : selfSend [⟨1, true⟩, ⟨2, true⟩, ⟨3, false⟩, ⟨4, true⟩] = { dispatched := [1, 2], res := .err } := by decide
example : (sendAny 9 { up := [] } 9 [⟨1, true⟩, ⟨2, true⟩] false).2 = (.ok, [1, 2]) := by decide


/-! ### non-vacuity and a worked history -/

private def s0 : St := { dpc := 5, up := [1, 2] }

/-- peer 1 is used, dies, is detected (two handlers are told, the entry goes), a send towards it
fails after 5 dials, it comes back, the next send connects afresh with one dial and delivers;
peer 2's connection is untouched throughout -/
example :
    let s := run s0 [.addHandler 10, .addHandler 11, .send 1 [7] false, .send 2 [8] false,
                     .peerDown 1, .detect 0, .send 1 [9] false, .peerUp 1, .send 1 [9] false]
    s.calls = [(10, 1), (11, 1)] ∧ s.delivered = [(1, 7), (2, 8), (1, 9)] ∧
    s.conns = [{ id := 1, peer := 2, alive := true }, { id := 2, peer := 1, alive := true }] ∧
    s.dials = 1 + 1 + 5 + 1 := by decide

/-- a stale entry that was never detected: the write fails, one reconnect, delivered — and the
stale entry is still there (only the receive loop removes it) -/
example :
    let s := run s0 [.send 1 [7] false, .peerDown 1, .peerUp 1, .send 1 [8] false]
    s.delivered = [(1, 7), (1, 8)] ∧ (s.conns.map (·.alive)) = [false, true] := by decide

/-- the residue named in the model: on TCP the write on a stale entry may be accepted locally —
the call reports success and the message is lost -/
example : (step (run s0 [.send 1 [7] false, .peerDown 1]) (.send 1 [8] true)).2 = .ok ∧
    (step (run s0 [.send 1 [7] false, .peerDown 1]) (.send 1 [8] true)).1.delivered = [(1, 7)] := by decide

example : Inv s0 := inv_init 5 [1, 2]

example : 1 ≤ (entry .sendToChildren [1, 3, 2] (fun d => (send s0 d [0] false).2)).1 ∧
    (entry .sendToChildren [1, 3, 2] (fun d => (send s0 d [0] false).2)).2 = [1, 3] := by decide

/-- an error handler that uses its router: peer 1 is lost while peer 2 listens; between the report
and the removal the handler sends a notice to peer 2 (first contact: one dial) and a message to the
lost peer itself (the write on the listed connection fails, the reconnect finds nothing listening);
afterwards exactly the lost connection is gone -/
example :
    let s := run s0 [.addHandler 10, .send 1 [7] false, .peerDown 1, .report 0,
                     .send 2 [99] false, .send 1 [98] false, .remove 0]
    s.calls = [(10, 1)] ∧ s.delivered = [(1, 7), (2, 99)] ∧
    s.conns = [{ id := 1, peer := 2, alive := true }] ∧ s.dials = 1 + 1 + 5 ∧ s.waits = 4 := by decide

/-- a tree-node instance with a configuration: the first message to a child carries it (two
messages in one router send), the second does not; the child that does not listen costs one error
and stops `SendToChildren`; once the instance is closing nothing reaches the router any more -/
example :
    let t : Tni := { children := [1, 3, 2], config := true }
    let o1 := sendTo rsend s0 t (some 1)
    let o2 := sendTo rsend o1.st o1.tni (some 1)
    let o3 := sendToChildren rsend o2.st o2.tni
    let o4 := sendToChildrenInParallel rsend o3.st o3.tni [2, 3, 1]
    let o5 := broadcast rsend o4.st { o4.tni with closing := true }
    (o1.errs, o1.st.delivered.length) = (0, 2) ∧ (o2.errs, o2.st.delivered.length) = (0, 3) ∧
    (o3.errs, o3.calls) = (1, [(1, .ok), (3, .err)]) ∧
    (o4.errs, o4.calls.map (·.1), o4.st.delivered.length) = (1, [2, 3, 1], 4 + 2 + 1) ∧
    (o5.errs, o5.calls, o5.st.delivered.length) = (3, [], 7) := by decide

/-- the root has no parent: `SendToParent` does nothing and reports nothing -/
example : (sendToParent rsend s0 {}).errs = 0 ∧ (sendToParent rsend s0 { parent := some 3 }).errs = 1 := by decide

/-- the bound of `1 + n` connects is tight up to the first one: over a stale entry towards a peer
that is back, every one of the `n` messages costs its own reconnect (the retry's connection is not
kept for the next message) -/
example :
    let s := run s0 [.send 1 [7] false, .peerDown 1, .peerUp 1]
    ((send s 1 [8, 9] false).1.dials - s.dials, (send s 1 [8, 9] false).1.conns.length) = (2, 3) := by decide

/-- the loop and the table together, on a worked stream: two frames, an undecodable one, a frame,
then the peer resets — three packets dispatched, both handlers told about peer 1, the entry gone;
what the peer might have sent afterwards plays no role -/
example :
    let s := run s0 [.addHandler 10, .addHandler 11, .accept 1, .accept 2]
    let o := recvLoop ([PeerEv.good 1, .good 2, .garbage, .good 3, .reset, .good 4].map fun e => { r := e.recv })
    let s' := endLoop s 0 o.exit
    o.dispatched = [1, 2, 3] ∧ o.exit = some .reported ∧ s'.calls = [(10, 1), (11, 1)] ∧
    s'.conns = [{ id := 1, peer := 2, alive := true }] := by decide

/-- a paused router: the loop returns at its next `Receive` without a report, the entry goes -/
example :
    let s := run s0 [.addHandler 10, .accept 1]
    let o := recvLoop [{ r := .msg 1 }, { paused := true, r := .err .closed }]
    o = { dispatched := [1], exit := some .paused } ∧ (endLoop s 0 o.exit).calls = [] ∧
    (endLoop s 0 o.exit).conns = [] := by decide


/-! ### the code regions the model stands for
Regenerated from /repo's source on every run (`harness/cmd/astfacts` → `OnetVerif/Shapes.lean`): the
calls that matter for synchronisation and data flow, the lock regions and (for decision logic) the
conditions, in source order.  A re-ordering, a dropped call or a changed condition breaks these
obligations even when no sampled input or schedule shows a difference; the check then searches for
a failing input. -/
theorem c09_shape_router_Router_Send_b4 :
    Shapes.network_router_Router_Send_b4 =
   ["range:_,msg:=msgs{", "if:(msg==nil)", "return:0,xerrors.New(\"\")", "}",
     "if:(len(msgs)==0)", "return:0,xerrors.New(\"\")", "msgTraffic.updateTx",
     "if:e.GetID().Equal(r.ServerIdentity.GetID())", "range:_,msg:=msgs{", "MessageType",
     "assign:packet:=&Envelope{ServerIdentity:e,MsgType:MessageType(msg),Msg:msg}", "r.Dispatch",
     "assign:err:=r.Dispatch(packet)", "if:(err!=nil)", "return:0,xerrors.Errorf(\"\",err)",
     "Marshal", "assign:b,err:=Marshal(msg)", "if:(err!=nil)",
     "return:0,xerrors.Errorf(\"\",err)", "assign:sent+=uint64(len(b))", "}", "return:sent,nil",
     "e.GetID", "r.connection", "assign:c:=r.connection(e.GetID())", "if:(c==nil)", "r.connect",
     "assign:c,sentLen,err=r.connect(e)", "assign:totSentLen+=sentLen", "if:(err!=nil)",
     "return:totSentLen,xerrors.Errorf(\"\",err)", "range:_,msg:=msgs{", "c.Send",
     "assign:sentLen,err:=c.Send(msg)", "assign:totSentLen+=sentLen", "if:(err!=nil)",
     "r.connect", "assign:c,sentLen,err:=r.connect(e)", "assign:totSentLen+=sentLen",
     "if:(err!=nil)", "return:totSentLen,xerrors.Errorf(\"\",err)", "c.Send",
     "assign:sentLen,err=c.Send(msg)", "assign:totSentLen+=sentLen", "if:(err!=nil)",
     "return:totSentLen,xerrors.Errorf(\"\",err)", "}", "return:totSentLen,nil"] := rfl

theorem c09_shape_router_Router_connect_b4 :
    Shapes.network_router_Router_connect_b4 =
   ["host.Connect", "assign:c,err:=r.host.Connect(si)", "if:(err!=nil)",
     "return:nil,0,xerrors.Errorf(\"\",err)", "c.Send",
     "assign:sentLen,err=c.Send(r.ServerIdentity)", "if:(err!=nil)", "c.Close",
     "assign:cerr:=c.Close()", "if:(cerr!=nil)", "return:nil,sentLen,xerrors.Errorf(\"\",err)",
     "verifC10Point", "r.registerConnection", "assign:err=r.registerConnection(si,c)",
     "if:(err!=nil)", "c.Close", "assign:cerr:=c.Close()", "if:(cerr!=nil)",
     "return:nil,sentLen,xerrors.Errorf(\"\",err)", "verifC10Point", "r.launchHandleRoutine",
     "assign:err=r.launchHandleRoutine(si,c)", "if:(err!=nil)",
     "return:nil,sentLen,xerrors.Errorf(\"\",err)", "return:c,sentLen,nil"] := rfl

theorem c09_shape_router_Router_removeConnection_b4 :
    Shapes.network_router_Router_removeConnection_b4 =
   ["r.Lock", "defer:r.Unlock", "si.GetID", "assign:arr:=r.connections[si.GetID()]",
     "range:i,cc:=arr{", "if:(c==cc)", "assign:toDelete=i", "}", "if:(toDelete==-1)", "return:",
     "assign:arr[toDelete]=arr[(len(arr)-1)]", "assign:arr[(len(arr)-1)]=nil",
     "assign:r.connections[si.GetID()]=arr[:(len(arr)-1)]"] := rfl

theorem c09_shape_router_Router_handleConn_b4 :
    Shapes.network_router_Router_handleConn_b4 =
   ["defer{", "c.Close", "assign:err:=c.Close()", "if:(err!=nil)", "c.Rx", "c.Tx",
     "assign:rx,tx:=c.Rx(),c.Tx()", "traffic.updateRx", "traffic.updateTx", "wg.Done",
     "r.removeConnection", "verifC10Point", "}", "verifC10Point", "c.Remote",
     "assign:address:=c.Remote()", "for:{", "c.Receive", "assign:packet,err:=c.Receive()",
     "verifC10Point", "r.Lock", "assign:paused:=r.paused", "r.Unlock", "if:(paused!=nil)",
     "recv:paused", "return:", "if:r.Closed()",
     "return:", "if:(err!=nil)", "if:xerrors.Is(err,ErrTimeout)",
     "r.triggerConnectionErrorHandlers", "return:",
     "if:(xerrors.Is(err,ErrClosed)||xerrors.Is(err,ErrEOF))",
     "r.triggerConnectionErrorHandlers", "return:", "if:xerrors.Is(err,ErrUnknown)",
     "r.triggerConnectionErrorHandlers", "return:", "continue",
     "assign:packet.ServerIdentity=remote", "verifC10Point", "msgTraffic.updateRx", "r.Dispatch",
     "assign:err:=r.Dispatch(packet)", "if:(err!=nil)", "}"] := rfl

theorem c09_shape_router_Router_triggerConnectionErrorHandlers_b4 :
    Shapes.network_router_Router_triggerConnectionErrorHandlers_b4 =
   ["range:_,v:=r.connectionErrorHandlers{", "v", "}"] := rfl

theorem c09_shape_Context_SendRaw_b4 :
    Shapes.context_Context_SendRaw_b4 =
   ["server.Send", "assign:_,err:=c.server.Send(si,msg)", "if:(err!=nil)",
     "return:xerrors.Errorf(\"\",err)", "return:nil"] := rfl

theorem c09_shape_TreeNodeInstance_SendTo_b4 :
    Shapes.treenode_TreeNodeInstance_SendTo_b4 =
   ["if:(to==nil)", "return:xerrors.New(\"\")", "msgDispatchQueueMutex.Lock", "if:n.closing",
     "msgDispatchQueueMutex.Unlock", "return:xerrors.New(\"\")", "msgDispatchQueueMutex.Unlock",
     "configMut.Lock", "if:!n.sentTo[to.ID]", "assign:c=n.config", "assign:n.sentTo[to.ID]=true",
     "configMut.Unlock", "overlay.SendToTreeNode",
     "assign:sentLen,err:=n.overlay.SendToTreeNode(n.token,to,msg,n.protoIO,c)", "tx.add",
     "if:(err!=nil)", "return:xerrors.Errorf(\"\",err)", "return:nil"] := rfl

theorem c09_shape_TreeNodeInstance_Broadcast_b4 :
    Shapes.treenode_TreeNodeInstance_Broadcast_b4 =
   ["n.List", "range:_,node:=n.List(){", "if:!node.Equal(n.TreeNode())", "n.SendTo",
     "assign:err:=n.SendTo(node,msg)", "if:(err!=nil)",
     "assign:errs=append(errs,xerrors.Errorf(\"\",err))", "}", "return:errs"] := rfl

theorem c09_shape_TreeNodeInstance_Multicast_b4 :
    Shapes.treenode_TreeNodeInstance_Multicast_b4 =
   ["range:_,node:=nodes{", "n.SendTo", "assign:err:=n.SendTo(node,msg)", "if:(err!=nil)",
     "assign:errs=append(errs,xerrors.Errorf(\"\",err))", "}", "return:errs"] := rfl

theorem c09_shape_TreeNodeInstance_SendToParent_b4 :
    Shapes.treenode_TreeNodeInstance_SendToParent_b4 =
   ["if:n.IsRoot()", "return:nil", "n.Parent", "n.SendTo",
     "assign:err:=n.SendTo(n.Parent(),msg)", "if:(err!=nil)", "return:xerrors.Errorf(\"\",err)",
     "return:nil"] := rfl

theorem c09_shape_TreeNodeInstance_SendToChildren_b4 :
    Shapes.treenode_TreeNodeInstance_SendToChildren_b4 =
   ["if:n.IsLeaf()", "return:nil", "n.Children", "range:_,node:=n.Children(){", "n.SendTo",
     "assign:err:=n.SendTo(node,msg)", "if:(err!=nil)", "return:xerrors.Errorf(\"\",err)", "}",
     "return:nil"] := rfl

theorem c09_shape_TreeNodeInstance_SendToChildrenInParallel_b4 :
    Shapes.treenode_TreeNodeInstance_SendToChildrenInParallel_b4 =
   ["if:n.IsLeaf()", "return:nil", "n.Children", "assign:children:=n.Children()",
     "assign:eMut:=sync.Mutex{}", "assign:wg:=sync.WaitGroup{}", "range:_,node:=children{",
     "node.Name", "assign:name:=node.Name()", "wg.Add", "go{", "n.SendTo",
     "assign:err:=n.SendTo(n2,msg)", "if:(err!=nil)", "eMut.Lock",
     "assign:errs=append(errs,xerrors.Errorf(\"\",name,err))", "eMut.Unlock", "wg.Done", "}",
     "}", "wg.Wait", "return:errs"] := rfl

theorem c09_shape_Overlay_SendToTreeNode_b4 :
    Shapes.overlay_Overlay_SendToTreeNode_b4 =
   ["from.ChangeTreeNodeID", "assign:tokenTo:=from.ChangeTreeNodeID(to.ID)", "if:(c!=nil)",
     "tokenTo.ID", "assign:confMsg=&ConfigMsg{*c,tokenTo.ID()}",
     "assign:info:=&OverlayMsg{Config:c,TreeNodeInfo:&TreeNodeInfo{From:from,To:tokenTo}}",
     "io.Wrap", "assign:final,err:=io.Wrap(msg,info)", "if:(err!=nil)",
     "return:0,xerrors.Errorf(\"\",err)", "if:(confMsg!=nil)", "server.Send",
     "assign:sentLen,err=o.server.Send(to.ServerIdentity,confMsg,final)", "else", "server.Send",
     "assign:sentLen,err=o.server.Send(to.ServerIdentity,final)", "if:(err!=nil)",
     "assign:err=xerrors.Errorf(\"\",err)", "return:sentLen,err"] := rfl

theorem c09_shape_Overlay_requestTree_b4 :
    Shapes.overlay_Overlay_requestTree_b4 =
   ["o.savePendingMsg", "verifPoint:rt.parked", "treeStorage.Get",
     "assign:tree:=o.treeStorage.Get(onetMsg.To.TreeID)", "if:(tree!=nil)",
     "o.checkPendingMessages", "return:nil", "verifPoint:rt.recheck-miss", "io.Wrap",
     "assign:msg,err:=io.Wrap(nil,&OverlayMsg{RequestTree:&RequestTree{TreeID:onetMsg.To.TreeID,Version:1}})",
     "if:(err!=nil)", "return:xerrors.Errorf(\"\",err)",
     "if:o.treeStorage.IsRegistered(onetMsg.To.TreeID)", "return:nil",
     "verifPoint:rt.unregistered", "treeStorage.Register", "verifPoint:rt.registered",
     "server.Send", "assign:_,err=o.server.Send(si,msg)", "if:(err!=nil)",
     "treeStorage.Unregister", "return:xerrors.Errorf(\"\",err)", "return:nil"] := rfl

theorem c09_shape_tcp_NewTCPConn_b4 :
    Shapes.network_tcp_NewTCPConn_b4 =
   ["addr.NetworkAddress", "assign:netAddr:=addr.NetworkAddress()", "assign:i:=1",
     "for:(i<=MaxRetryConnect){", "net.DialTimeout",
     "assign:c,err=net.DialTimeout(\"\",netAddr,dialTimeout)", "if:(err==nil)",
     "assign:conn=&TCPConn{conn:c,suite:suite}", "return:",
     "assign:err=xerrors.Errorf(\"\",err)", "if:(i<MaxRetryConnect)", "time.Sleep", "assign:i++",
     "}", "if:(err==nil)", "assign:err=xerrors.Errorf(\"\",ErrTimeout)", "return:"] := rfl

theorem c09_shape_tls_NewTLSConn :
    Shapes.network_tls_NewTLSConn =
   ["Address.ConnType", "us.GetPrivate", "tlsConfig", "makeVerifier", "Address.NetworkAddress",
     "tls.DialWithDialer", "time.Sleep"] := rfl

theorem c09_shape_local_LocalHost_Connect_b4 :
    Shapes.network_local_LocalHost_Connect_b4 =
   ["if:(si.Address.ConnType()!=Local)", "return:nil,xerrors.New(\"\")", "assign:i:=0",
     "for:(i<MaxRetryConnect){", "NewLocalConnWithManager",
     "assign:c,err:=NewLocalConnWithManager(lh.lm,lh.addr,si.Address,lh.suite)", "if:(err==nil)",
     "return:c,nil", "assign:finalErr=xerrors.Errorf(\"\",err)", "recv:After()", "time.After",
     "recv:stopping", "return:nil,finalErr", "assign:i++", "}", "return:nil,finalErr"] := rfl

theorem c09_shape_local_NewLocalConnWithManager_b4 :
    Shapes.network_local_NewLocalConnWithManager_b4 =
   ["assign:i:=0", "for:(i<MaxRetryConnect){", "lm.connect",
     "assign:c,err:=lm.connect(local,remote,s)", "if:(err==nil)", "return:c,nil", "else",
     "if:(i==(MaxRetryConnect-1))", "return:nil,xerrors.Errorf(\"\",err)", "time.Sleep",
     "assign:i++", "}", "return:nil,xerrors.New(\"\")"] := rfl

theorem c09_shape_local_LocalManager_send_b4 :
    Shapes.network_local_LocalManager_send_b4 =
   ["lm.Lock", "defer:lm.Unlock", "assign:q,ok:=lm.conns[e]", "if:!ok",
     "return:xerrors.Errorf(\"\",ErrClosed)", "send:incomingQueue", "return:nil"] := rfl

theorem c09_shape_router_Router_connection_b4 :
    Shapes.network_router_Router_connection_b4 =
   ["r.Lock", "defer:r.Unlock", "assign:arr:=r.connections[sid]", "if:(len(arr)==0)",
     "return:nil", "return:arr[0]"] := rfl

theorem c09_shape_tcp_handleError_b4 :
    Shapes.network_tcp_handleError_b4 =
   ["if:(strings.Contains(err.Error(),\"use of closed\")||strings.Contains(err.Error(),\"broken pipe\"))",
     "return:ErrClosed", "else", "if:strings.Contains(err.Error(),\"canceled\")",
     "return:ErrCanceled", "else", "if:((err==io.EOF)||strings.Contains(err.Error(),\"EOF\"))",
     "return:ErrEOF", "assign:netErr,ok:=err.(net.Error)", "if:!ok", "return:ErrUnknown",
     "if:netErr.Timeout()", "return:ErrTimeout",
     "if:strings.Contains(err.Error(),\"bad certificate\")", "else", "return:ErrUnknown"] := rfl

theorem c09_shape_local_LocalManager_close_b4 :
    Shapes.network_local_LocalManager_close_b4 =
   ["lm.Lock", "defer:lm.Unlock", "assign:_,ok:=lm.conns[conn.local]", "if:!ok",
     "return:xerrors.Errorf(\"\",ErrClosed)", "conn.closeChannels",
     "assign:remote,ok:=lm.conns[conn.remote]", "if:!ok", "return:nil", "remote.closeChannels",
     "return:nil"] := rfl


end C09

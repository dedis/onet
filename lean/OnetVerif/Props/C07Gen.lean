import OnetVerif.Model.C07
import OnetVerif.Gen.C07
/-! Property C07 — the guards regenerated from the Go source (`Gen/C07.lean`, written by `harness/cmd/go2lean` on every
check run): the nil / length tests the five repairs added (/repo fc12581, 6586085, a34bf3c, 9ed8d4a, fe946b8), lifted out
of functions that take locks, start goroutines and send (`"extract"`, kind `if`, form `rich`).  A Go pointer is an
`Option`, a read through a pointer that was not tested before it is `none` of the panic layer.  For each guard: (1) it
**never panics** — every read is behind its test, which is exactly what a dropped or re-ordered test breaks; (2) what it
decides; (3) the model (`Model/C07.lean`, where every pointer a peer can leave nil is a `none`-like constructor) takes
its refusing branch exactly where the guard fires, and `processOld` (the code without the guard) is where it panics.
Nothing imports this file. -/
namespace C07

/-- tokens of the model as the translated code sees them: absent, or some token -/
def tokOf : Tok → Option Gen.C07.Token
  | .none => none
  | _ => some { TreeNodeID := 0 }

def frmOf : Frm → Option Gen.C07.Token
  | .none => none
  | .member => some { TreeNodeID := 1 }
  | .stranger => some { TreeNodeID := 2 }
  | .spoof => some { TreeNodeID := 3 }

/-- the protocol message of the model's envelope `proto to frm _` -/
def msgOf (to : Tok) (frm : Frm) : Gen.C07.ProtocolMsg := { From := frmOf frm, To := tokOf to }

/-! ### `Overlay.TransmitMsg`: `onetMsg == nil || onetMsg.To == nil` -/

/-- never panics, whatever the message: `onetMsg.To` is read behind `onetMsg == nil ||` -/
theorem c07_gen_noDestination_total (m : Option Gen.C07.ProtocolMsg) :
    Gen.C07.TransmitMsg_noDestination m = some (m.isNone || (m.bind (·.To)).isNone) :=
  match m with
  | none => rfl
  | some { To := none, .. } => rfl
  | some { To := some _, .. } => rfl

/-- the guard fires exactly on the model's absent destination token, and there `process` refuses the message
without touching the state, while the code before /repo fc12581 (`processOld`) dereferences: panic -/
theorem c07_gen_noDestination_model (s : Srv) (to : Tok) (frm : Frm) (b : Body) (hb : b ≠ .garbage) :
    Gen.C07.TransmitMsg_noDestination (some (msgOf to frm)) = some (decide (to = .none)) ∧
    (Gen.C07.TransmitMsg_noDestination (some (msgOf to frm)) = some true →
      process s (.proto to frm b) = (.ignored, s) ∧ (processOld s (.proto to frm b)).1 = .panic) := by
  constructor
  · cases to <;> rfl
  · intro h
    have : to = .none := by cases to <;> first | rfl | cases h
    subst this
    exact ⟨(if_neg hb).trans (if_pos rfl), congrArg Prod.fst ((if_neg hb).trans (if_pos rfl))⟩

/-! ### `TreeNodeInstance.dispatchMsgToProtocol`: `onetMsg.From == nil` -/

theorem c07_gen_noSender_model (t : TRef) (to : Tok) (frm : Frm) (b : Body) :
    Gen.C07.dispatch_noSender (msgOf to frm) = decide (frm = .none) ∧
    (Gen.C07.dispatch_noSender (msgOf to frm) = true → reader t frm b = false) := by
  constructor
  · cases frm <;> rfl
  · intro h
    have : frm = .none := by cases frm <;> first | rfl | cases h
    subst this; rfl

/-- the code before /repo 6586085 reads the sender token in the reader goroutine: where the guard fires (and the
message reaches an instance) it panics -/
theorem c07_gen_noSender_old (s : Srv) (to : Tok) (b : Body) (hb : b ≠ .garbage) (ht : to ≠ .none)
    (hp : s.slot (treeOf to) = .present) (hc : creates to = true) :
    Gen.C07.dispatch_noSender (msgOf to .none) = true ∧ (processOld s (.proto to .none b)).1 = .panic := by
  refine ⟨rfl, ?_⟩
  simp [processOld, hb, ht, hp, hc]

/-! ### `TreeMarshal.MakeTree`: `ro == nil`, `len(tm.Children) != 1 || tm.Children[0] == nil` -/

theorem c07_gen_noRoster (ro : Option Gen.C07.Roster) : Gen.C07.MakeTree_noRoster ro = ro.isNone := by
  cases ro <;> rfl

/-- **the index is behind the length test**: `tm.Children[0]` is evaluated only when `len(tm.Children) == 1`, so the
condition never panics — with `&&`, the operands swapped or the length test dropped it would (the variant below) -/
theorem c07_gen_notOneRoot_total (tm : Gen.C07.TreeMarshal) :
    Gen.C07.MakeTree_notOneRoot tm = some (match tm.Children with | [some _] => false | _ => true) := by
  unfold Gen.C07.MakeTree_notOneRoot
  obtain ⟨ch⟩ := tm
  match ch with
  | [] => rfl
  | [none] => rfl
  | [some x] => rfl
  | a :: b :: l =>
    have : (Gen.Rt.len (a :: b :: l) != 1) = true := by
      simp [Gen.Rt.len]; omega
    simp [this]

/-- the description shapes of the model as the translated code sees their `Children` -/
def childrenOf : Shape → List (Option Gen.C07.TreeMarshal)
  | .emptyChildren => []
  | .twoRoots => [some { Children := [] }, some { Children := [] }]
  | _ => [some { Children := [] }]

/-- where the guard fires the model's `makeTree` refuses (and `sendTree` leaves the state alone); the code before
/repo a34bf3c indexes the empty list: `processOld` panics on the description without nodes -/
theorem c07_gen_notOneRoot_model (tm : TM) (ro : Ro)
    (h : Gen.C07.MakeTree_notOneRoot { Children := childrenOf tm.shape } = some true) :
    makeTree tm ro = false := by
  obtain ⟨i, r, sh⟩ := tm
  cases sh with
  -- one top-level node, and it is not nil: the guard answers `some false`
  | good | unknownServer | other => simp [Gen.C07.MakeTree_notOneRoot, childrenOf, Gen.Rt.len, Gen.Rt.idx] at h
  -- no top-level node, or two: the guard fires, and these are shapes `makeTree` refuses
  | emptyChildren | twoRoots => simp [makeTree]

/-- the variant without the length test (what the repaired line replaced): the bare read `tm.Children[0]` panics on
the empty description — this is `c07_old_empty_description` seen from the translated side -/
theorem c07_gen_notOneRoot_unguarded_panics :
    Gen.Rt.idx (childrenOf .emptyChildren) 0 = none ∧
    Gen.C07.MakeTree_notOneRoot { Children := childrenOf .emptyChildren } = some true := by
  constructor <;> rfl

/-! ### `TreeMarshal.MakeTreeFromList`: `ent.Public == nil` -/

/-- on an identity that was found in the roster (the `idx < 0` return is before it) the guard never panics and
fires exactly on a missing key -/
theorem c07_gen_noKey (e : Gen.C07.ServerIdentity) :
    Gen.C07.MakeTreeFromList_noKey (some e) = some e.Public.isNone := by
  obtain ⟨p⟩ := e
  cases p <;> rfl

/-- the model's roster classes as the identity `MakeTreeFromList` finds for a node of the description -/
def entOf (ro : Ro) : Gen.C07.ServerIdentity := { Public := if ro.keysOk then some 1 else none }

theorem c07_gen_noKey_model (tm : TM) (ro : Ro)
    (h : Gen.C07.MakeTreeFromList_noKey (some (entOf ro)) = some true) : makeTree tm ro = false := by
  have : ro.keysOk = false := by
    cases hk : ro.keysOk <;> simp [Gen.C07.MakeTreeFromList_noKey, entOf, hk] at h ⊢
  simp [makeTree, this]

/-! ### `treeStorage.GetRoster`: `tree != nil && tree.Roster != nil && tree.Roster.ID.Equal(id)` -/

/-- **an empty slot is skipped, never dereferenced**: the loop condition is total — without `tree != nil` (the code
before /repo 9ed8d4a) the read `tree.Roster` of a requested-but-empty slot is the panic of
`c07_old_roster_request_over_empty_slot` -/
theorem c07_gen_GetRoster_hit_total (tree : Option Gen.C07.Tree) (id : Nat) :
    Gen.C07.GetRoster_hit tree id =
      some (match tree with
            | some { Roster := some r } => r.ID == id
            | _ => false) := by
  unfold Gen.C07.GetRoster_hit
  match tree with
  | none => rfl
  | some { Roster := none } => rfl
  | some { Roster := some r } => by_cases h : r.ID = id <;> simp [h]

/-- the slots of the model as the loop sees them: a requested slot is a nil entry -/
def slotTree (s : Srv) (t : TRef) : Option Gen.C07.Tree :=
  match s.slot t with
  | .present => some { Roster := some { ID := 7 } }
  | _ => none

theorem c07_gen_GetRoster_model (s : Srv) (r : RoRef) (id : Nat) :
    (∀ t, ∃ v, Gen.C07.GetRoster_hit (slotTree s t) id = some v) ∧ (process s (.reqRoster r)).1 = .ok :=
  ⟨fun t => ⟨_, c07_gen_GetRoster_hit_total (slotTree s t) id⟩, rfl⟩

end C07

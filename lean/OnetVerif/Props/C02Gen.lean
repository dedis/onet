import OnetVerif.Model.C02
import OnetVerif.Gen.C02
/-! Property C02 — the definition regenerated from the Go source (`Gen/C02.lean`, written by `harness/cmd/go2lean` on
every check run from `network/struct.go`): `ServerIdentity.Equal`, the comparison `createValueAndVerify` applies to
the identity of the claimed sender's tree node and the identity the transport attached to the message.  A
`*ServerIdentity` is read as an option (the pointer may be nil) of the struct reduced to its field `Public`, a
`kyber.Point` read as an option of the key (`Point.Equal` ↦ equality, configured callee).  The model (`Model/C02.lean`)
identifies a server with its key and tests `n.server = p` in `verify`; the theorems say that this *is* `Equal` on
identities that carry a key, that `Equal` answers `false` as soon as an identity or a key is missing, and that it
never panics; the second half does the same for the two guards of `createValueAndVerify` (`treenode.go`).  Nothing
imports this file. -/
namespace C02

/-- the identity of the server with key `k` as the translated code sees it -/
def identOf (k : Nat) : Option Gen.C02.ServerIdentity := some { Public := some k }

/-- **`ServerIdentity.Equal` never panics** (every field is read behind its nil test) -/
theorem c02_gen_Equal_total (a b : Option Gen.C02.ServerIdentity) : ∃ r, Gen.C02.ServerIdentity_Equal a b = some r := by
  rcases a with _ | ⟨_ | _⟩ <;> rcases b with _ | ⟨_ | _⟩ <;> exact ⟨_, rfl⟩

/-- **only the key is compared**: on two identities that carry a key, `Equal` is equality of the keys -/
theorem c02_gen_Equal_keys (j k : Nat) : Gen.C02.ServerIdentity_Equal (identOf j) (identOf k) = some (j == k) :=
  rfl

/-- a missing identity or a missing key never equals anything -/
theorem c02_gen_Equal_nil (a b : Option Gen.C02.ServerIdentity)
    (h : a = none ∨ b = none ∨ a = some { Public := none } ∨ b = some { Public := none }) :
    Gen.C02.ServerIdentity_Equal a b = some false := by
  rcases h with rfl | rfl | rfl | rfl
  · rfl
  · cases a <;> rfl
  · cases b <;> rfl
  · rcases a with _ | ⟨_ | _⟩ <;> rfl

/-- **the sender check of the model is the translated comparison**: `verify` accepts a message whose transport named
the peer `p`, claimed by the node `n`, exactly when `Equal` of the node's identity and the peer's identity is true -/
theorem c02_gen_verify_uses_Equal (nodes : List Node) (m : Msg) (p : Nat) (hp : m.peer = some p) :
    verify nodes m = (search nodes m.sender).bind fun n =>
      if Gen.C02.ServerIdentity_Equal (identOf n.server) (identOf p) = some true then some n else none := by
  unfold verify
  cases search nodes m.sender with
  | none => rfl
  | some n =>
    simp only [hp, Option.bind_some, c02_gen_Equal_keys]
    by_cases h : n.server = p <;> simp [h]

/-! ### the two decisions of `createValueAndVerify` (extracted, form `rich`): `tn == nil` and
`msg.ServerIdentity != nil && tn != nil && !tn.ServerIdentity.Equal(msg.ServerIdentity)` -/

/-- a node of the model as the translated code sees the result of `Tree.Search` -/
def nodeOf (n : Node) : Gen.C02.TreeNode := { ServerIdentity := identOf n.server }

/-- the message of the model as the translated code sees it: only the identity the transport attached -/
def pmsgOf (m : Msg) : Gen.C02.ProtocolMsg := { ServerIdentity := m.peer.bind identOf }

/-- the first guard fires exactly when `Tree.Search` found nothing -/
theorem c02_gen_unknownSender (tn : Option Gen.C02.TreeNode) :
    Gen.C02.createValueAndVerify_unknownSender tn = tn.isNone := by
  cases tn <;> rfl

theorem wrongPeer_some (a : Option Gen.C02.ServerIdentity) (x : Gen.C02.ServerIdentity) :
    Gen.C02.createValueAndVerify_wrongPeer (some ⟨a⟩) (some ⟨some x⟩) =
      (Gen.C02.ServerIdentity_Equal a (some x)).map (!·) := by
  unfold Gen.C02.createValueAndVerify_wrongPeer
  dsimp only [Option.isNone_some, Bool.not_false, Bool.and_self, if_true]
  cases Gen.C02.ServerIdentity_Equal a (some x) with
  | none => rfl
  | some r => cases r <;> rfl

/-- **the comparison never panics**: `tn.ServerIdentity` is read behind `tn != nil`, the message's identity behind
its own nil test, and `Equal` is total — whatever node and whatever identity (also none, also keyless) -/
theorem c02_gen_wrongPeer_total (tn : Option Gen.C02.TreeNode) (m : Gen.C02.ProtocolMsg) :
    ∃ r, Gen.C02.createValueAndVerify_wrongPeer tn (some m) = some r := by
  obtain ⟨mi⟩ := m
  cases tn with
  | none => cases mi <;> exact ⟨_, rfl⟩
  | some n =>
    obtain ⟨ni⟩ := n
    cases mi with
    | none => exact ⟨_, rfl⟩
    | some x =>
      obtain ⟨r, hr⟩ := c02_gen_Equal_total ni (some x)
      exact ⟨!r, by rw [wrongPeer_some, hr]; rfl⟩

/-- on the model's nodes and messages: the second guard fires exactly when the transport named a peer and the
claimed node is hosted by another server -/
theorem c02_gen_wrongPeer_model (n : Node) (m : Msg) :
    Gen.C02.createValueAndVerify_wrongPeer (some (nodeOf n)) (some (pmsgOf m)) =
      some (match m.peer with | none => false | some p => !(n.server == p)) := by
  unfold nodeOf pmsgOf
  cases m.peer with
  | none => rfl
  | some p =>
    exact (wrongPeer_some (identOf n.server) ⟨some p⟩).trans
      (congrArg (Option.map (!·)) (c02_gen_Equal_keys n.server p))

/-- **`verify` of the model is exactly the two translated guards**, in the order of the source: refuse when
`Search` found nothing, refuse when the second guard fires, else the node found -/
theorem c02_gen_verify_is_the_guards (nodes : List Node) (m : Msg) :
    verify nodes m =
      if Gen.C02.createValueAndVerify_unknownSender ((search nodes m.sender).map nodeOf) then none
      else (search nodes m.sender).bind fun n =>
        if Gen.C02.createValueAndVerify_wrongPeer (some (nodeOf n)) (some (pmsgOf m)) = some true then none else some n := by
  unfold verify
  cases search nodes m.sender with
  | none => rfl
  | some n =>
    rw [Option.map_some, Option.bind_some, c02_gen_wrongPeer_model]
    cases m.peer with
    | none => rfl
    | some p => by_cases h : n.server = p <;> simp [c02_gen_unknownSender, h]
end C02

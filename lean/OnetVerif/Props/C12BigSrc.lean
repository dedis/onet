import OnetVerif.Props.C12BigDec
/-! Property C12 — helper file for `Props/C12Gen.lean` (no obligations are stated here): the whole loop nest of
`Roster.GenerateBigNaryTree` written with the decisions lifted from the source only (`Gen.C12Big.*`), and the proof that
the hand model `genBig` is that loop nest (the decisions agree on every state, so no invariant is carried).  What remains
hand-written is the nesting itself and the bookkeeping statements (`used[roIndex] = true`, `roIndex = (roIndex + 1) % ilLen`,
`totalNodes++`, appending the child), which are pinned by the shape `c12_shape_Roster_GenerateBigNaryTree`. -/
namespace C12

/-- the child count as the source computes it: `children := (nodes - totalNodes) * (i + 1) / len(levelNodes)`, capped by
`if children > N { children = N }`; `none` = the division panics (an empty level: never) -/
def childCountSrc (c : BigCfg) (L i total : Nat) : Option Nat :=
  match Gen.C12Big.children c.nodes total i (List.replicate L (0 : Int)) with
  | none => none
  | some ch => some (if Gen.C12Big.childrenCap ch c.N then (c.N : Int) else ch).toNat

theorem childCountSrc_eq (c : BigCfg) (L i total : Nat) (hL : 0 < L) :
    childCountSrc c L i total = some (childCount c L i total) := by
  rw [childCountSrc, Gen.C12Big.children, Gen.Rt.idiv, Gen.Rt.len, List.length_replicate, Int.ofNat_eq_natCast,
    if_neg (Int.natCast_ne_zero.mpr (Nat.ne_of_gt hL))]
  simp only [Gen.C12Big.childrenCap, Bool.if_true_left, Bool.or_false, decide_eq_true_eq]
  -- also past `nodes` (never reached), where the source's quotient is negative and the model's difference 0
  rw [toNat_cap, ← Int.natCast_succ, toNat_mul_tdiv, Int.toNat_sub]
  rfl

/-- `for n := 0; n < children; n++ { pick a server; make the child }` with the extracted loop test and the source's pick loop -/
def addChildrenSrc (c : BigCfg) (pIdx pMember children : Nat) : (fuel n : Nat) → BigSt → Level → Option (BigSt × Level)
  | 0, _, st, acc => some (st, acc)
  | fuel + 1, n, st, acc =>
    if Gen.C12Big.childCond n children then
      match pickLoopSrc c st.used (c.hosts.getD pMember 0) st.roIndex (2 * c.ilLen + 3) st.roIndex
          (c.hosts.getD st.roIndex 0) true with
      | none => none
      | some r =>
        addChildrenSrc c pIdx pMember children fuel (n + 1)
          { used := st.used.set r true, roIndex := (r + 1) % c.ilLen, total := st.total + 1 } (acc ++ [(r, pIdx)])
    else some (st, acc)

theorem addChildren_eq_src (c : BigCfg) (hpos : 0 < c.ilLen) (pIdx pMember : Nat) :
    ∀ (k n : Nat) (st : BigSt) (acc : Level),
      addChildren c pIdx pMember k st acc = addChildrenSrc c pIdx pMember (n + k) k n st acc := by
  intro k
  induction k with
  | zero => intro n st acc; rfl
  | succ k ih =>
    intro n st acc
    have hcond : Gen.C12Big.childCond (n : Int) ((n + (k + 1) : Nat) : Int) = true := by
      rw [bigdec_childCond]; exact decide_eq_true (Nat.lt_add_of_pos_right (Nat.succ_pos k))
    rw [addChildren, addChildrenSrc, if_pos hcond, bigdec_pick_eq c st _ hpos]
    cases pickLoopSrc c st.used (c.hosts.getD pMember 0) st.roIndex (2 * c.ilLen + 3) st.roIndex
        (c.hosts.getD st.roIndex 0) true with
    | none => rfl
    | some r =>
      have := ih (n + 1) { used := st.used.set r true, roIndex := (r + 1) % c.ilLen, total := st.total + 1 }
        (acc ++ [(r, pIdx)])
      rw [Nat.add_right_comm n 1 k] at this
      exact this

/-- `for i, parent := range levelNodes { children := …; for n := 0; n < children; n++ { … } }` -/
def addLevelSrc (c : BigCfg) (L : Nat) : (parents : Level) → (i : Nat) → BigSt → Level → Option (BigSt × Level)
  | [], _, st, acc => some (st, acc)
  | (m, _) :: rest, i, st, acc =>
    match childCountSrc c L i st.total with
    | none => none
    | some ch =>
      match addChildrenSrc c i m ch ch 0 st acc with
      | none => none
      | some (st', acc') => addLevelSrc c L rest (i + 1) st' acc'

theorem addLevel_eq_src (c : BigCfg) (hpos : 0 < c.ilLen) (L : Nat) :
    ∀ (parents : Level) (i : Nat) (st : BigSt) (acc : Level), i + parents.length = L →
      addLevel c L parents i st acc = addLevelSrc c L parents i st acc := by
  intro parents
  induction parents with
  | nil => intro i st acc _; rfl
  | cons p rest ih =>
    intro i st acc hi
    obtain ⟨m, q⟩ := p
    have hiL : i + 1 + rest.length = L := by rw [← hi, List.length_cons, Nat.add_assoc, Nat.add_comm 1]
    have hsrc := addChildren_eq_src c hpos i m (childCount c L i st.total) 0 st acc
    rw [Nat.zero_add] at hsrc
    simp only [addLevel, addLevelSrc, childCountSrc_eq c L i st.total (Nat.lt_of_lt_of_le (Nat.succ_pos i) (Nat.le.intro hiL)),
      ← hsrc]
    cases addChildren c i m (childCount c L i st.total) st acc with
    | none => rfl
    | some r => exact ih (i + 1) r.1 r.2 hiL

/-- `for totalNodes < nodes { … }` with the extracted loop test -/
def bigLoopSrc (c : BigCfg) : (fuel : Nat) → (levels : List Level) → (cur : Level) → BigSt → Outcome (List Level)
  | 0, levels, _, st => if Gen.C12Big.levelCond st.total c.nodes then .hang else .tree levels
  | fuel + 1, levels, cur, st =>
    if Gen.C12Big.levelCond st.total c.nodes then
      match addLevelSrc c cur.length cur 0 st [] with
      | none => .hang
      | some (st', nl) => bigLoopSrc c fuel (levels ++ [nl]) nl st'
    else .tree levels

theorem bigLoop_eq_src (c : BigCfg) (hpos : 0 < c.ilLen) :
    ∀ (fuel : Nat) (levels : List Level) (cur : Level) (st : BigSt),
      bigLoop c fuel levels cur st = bigLoopSrc c fuel levels cur st := by
  intro fuel
  induction fuel with
  | zero => intro levels cur st; simp only [bigLoop, bigLoopSrc, bigdec_levelCond, decide_eq_true_eq]
  | succ fuel ih =>
    intro levels cur st
    simp only [bigLoop, bigLoopSrc, bigdec_levelCond, decide_eq_true_eq,
      ← addLevel_eq_src c hpos cur.length cur 0 st [] (Nat.zero_add _)]
    split
    · cases addLevel c cur.length cur 0 st [] with
      | none => rfl
      | some r => exact ih _ _ _
    · rfl

/-- `GenerateBigNaryTree(N, nodes)` written with the source's decisions: the panic on an empty roster, `useAll` (inside the
pick loop), `roIndex := 1 % ilLen`, the level loop, the child count, the child loop, the pick loop -/
def genBigSrc (c : BigCfg) : Outcome (List Level) :=
  if c.ilLen = 0 then .panic else
  bigLoopSrc c c.nodes [[(0, 0)]] [(0, 0)]
    { used := (List.replicate c.ilLen false).set 0 true,
      roIndex := ((Gen.C12Big.roIndex0 c.ilLen).getD 0).toNat, total := 1 }

theorem genBig_eq_src (c : BigCfg) : genBig c = genBigSrc c := by
  unfold genBig genBigSrc
  by_cases h0 : c.ilLen = 0
  · simp [h0]
  · have hpos : 0 < c.ilLen := Nat.pos_of_ne_zero h0
    simp only [h0, if_false, bigdec_roIndex0 _ hpos, Option.getD_some, Int.toNat_natCast]
    exact bigLoop_eq_src c hpos _ _ _ _

end C12

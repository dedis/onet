import OnetVerif.Model.C17
import OnetVerif.Proofs.C17Table
import OnetVerif.Proofs.C17Accept
import OnetVerif.Proofs.C17Dial
import OnetVerif.Shapes
/-! Property C17 — valid-peer sets decide exactly who may connect.
Property theorems (`c17_…`), the lemmas they need, witnesses and non-vacuity examples.  Unqualified `Inv`, `inv_step`,
`step_vp`, `run_append` are the sequential router's (what its `step` does: `Proofs/C17Table.lean`); `Acc.…`, `Dial.…` the other two systems'. -/
namespace C17

/-! ### the table -/

/-- the reference semantics: a map of sets. A peer — identified by its **key** — is valid while no
set was ever given, or when the id of its key is a member of some current set. -/
def SpecValid (vp : VP) (k : Key) : Prop :=
  vp = none ∨ ∃ id ps, vp.get id = some ps ∧ idOfKey k ∈ ps

/-- the Go map has one entry per key -/
def VP.WF (vp : VP) : Prop :=
  match vp with
  | none => True
  | some m => (m.map (·.1)).Nodup

theorem set_wf (vp : VP) (id : SetId) (peers : List Ident) (h : vp.WF) : (vp.set id peers).WF := by
  have hn : ((vp.getD []).map (·.1)).Nodup := by
    cases vp with
    | none => exact List.nodup_nil
    | some m => exact h
  show (((id, peers.map Ident.getID) :: (vp.getD []).filter (fun e => e.1 != id)).map (·.1)).Nodup
  rw [List.map_cons, List.nodup_cons]
  refine ⟨fun hm => ?_, hn.sublist (List.filter_sublist.map _)⟩
  obtain ⟨e, he, heq⟩ := List.mem_map.mp hm
  exact bne_iff_ne.mp (List.mem_filter.mp he).2 heq

/-- **`isValid` is the reference semantics, read on the key**: valid ↔ uninitialised ∨ the id of
the key is in some current set. The wire-supplied `ID` field plays no part. -/
theorem c17_valid_iff (vp : VP) (h : vp.WF) (p : Ident) :
    vp.isValid p = true ↔ SpecValid vp p.key := by
  cases vp with
  | none => exact ⟨fun _ => .inl rfl, fun _ => rfl⟩
  | some m =>
    show (m.any fun e => e.2.contains p.getID) = true ↔ _
    rw [List.any_eq_true]
    constructor
    · rintro ⟨⟨id, ps⟩, he, hc⟩
      refine .inr ⟨id, ps, ?_, List.contains_iff_mem.mp hc⟩
      show some ((m.lookup id).getD []) = some ps
      rw [(List.lookup_eq_some_iff_mem h).mpr he]; rfl
    · rintro (h0 | ⟨id, ps, hg, hin⟩)
      · cases h0
      · cases hg
        cases hl : m.lookup id with
        | none => rw [hl] at hin; cases hin
        | some ps' =>
          rw [hl] at hin
          exact ⟨(id, ps'), (List.lookup_eq_some_iff_mem h).mp hl, List.contains_iff_mem.mpr hin⟩

/-- the answer of the filter does not depend on the `ID` field a peer declares -/
theorem c17_idfield_irrelevant (vp : VP) (k : Key) (f f' : PeerId) :
    vp.isValid ⟨k, f⟩ = vp.isValid ⟨k, f'⟩ := rfl

/-- **reading a set back returns exactly its members** (ids of the keys given) -/
theorem c17_get_exact (vp : VP) (id : SetId) (peers : List Ident) :
    (vp.set id peers).get id = some (peers.map Ident.getID) := by
  rw [get_after_set, if_pos rfl]

/-- **replacing one set changes only that set**: once the table exists, every other set reads
back unchanged -/
theorem c17_set_frame (vp : VP) (id id' : SetId) (peers : List Ident) (hinit : vp ≠ none)
    (hne : id' ≠ id) : (vp.set id peers).get id' = vp.get id' := by
  rw [get_after_set, if_neg hne]
  cases vp with
  | none => exact absurd rfl hinit
  | some m => rfl

/-- the first set ever given initialises the table: every other id now reads as the empty set
(nobody), no longer as "uninitialised" (everybody) -/
theorem c17_first_set (id id' : SetId) (peers : List Ident) (hne : id' ≠ id) :
    (VP.set none id peers).get id' = some [] := by
  rw [get_after_set, if_neg hne]; rfl

/-- members of the other sets stay valid when one set is replaced (also by the empty set) -/
theorem c17_set_keeps_others (vp : VP) (id id' : SetId) (peers : List Ident) (ps : List PeerId)
    (k : Key) (hne : id' ≠ id) (hg : vp.get id' = some ps) (hin : idOfKey k ∈ ps) :
    SpecValid (vp.set id peers) k := by
  have hinit : vp ≠ none := by intro e; subst e; simp [VP.get] at hg
  exact .inr ⟨id', ps, by rw [c17_set_frame vp id id' peers hinit hne]; exact hg, hin⟩

/-- after `set id peers`, exactly the peers given are valid through `id` -/
theorem c17_set_members (vp : VP) (id : SetId) (peers : List Ident) (p : Ident) (h : p ∈ peers) :
    SpecValid (vp.set id peers) p.key :=
  .inr ⟨id, _, c17_get_exact vp id peers, List.mem_map.mpr ⟨p, h, rfl⟩⟩

/-! ### histories -/

theorem step_vp (s : State) (op : Op) :
    (step s op).1.vp = (match op with | .setPeers id ps => s.vp.set id ps | _ => s.vp) := by
  cases op with
  | offer p m => simp only [step]; split <;> rfl
  | msg k m => rw [step_msg]
  | _ => rfl

/-- a `SetValidPeers` call never touches the registered connections: whatever it installs, a message
over an existing connection is treated as before (the general form of `c17_not_retroactive`) -/
theorem c17_set_leaves_connections (s : State) (id : SetId) (peers : List Ident) (k : Key) (m : Nat) :
    (step (step s (.setPeers id peers)).1 (.msg k m)).2 = (step s (.msg k m)).2 := by
  rw [step_msg, step_msg]; rfl

/-- connections the router opens itself are registered without any test, whatever the table says
(the general form of `c17_outgoing_unfiltered`) -/
theorem c17_dialled_unfiltered (s : State) (p : Ident) (m : Nat)
    (hnew : s.conns.find? (fun c => c.peer.key == p.key) = none) :
    (step (step s (.dial p)).1 (.msg p.key m)).2 = .dispatched p m := by
  rw [step_msg]
  show (match (s.conns ++ [({ peer := p, origin := .dialled } : Conn)]).find? (fun c => c.peer.key == p.key) with
    | some c => Obs.dispatched c.peer m
    | none => .noConn) = _
  rw [List.find?_append, hnew, Option.none_or, List.find?_singleton, beq_self_eq_true]
  rfl

/-- what holds in every reachable state: the table is a map, and every registered connection was
either dialled by this router or offered by a peer whose **key** was valid at that moment -/
def Inv (s : State) : Prop :=
  s.vp.WF ∧ ∀ c ∈ s.conns, match c.origin with
    | .offered vp0 => SpecValid vp0 c.peer.key
    | .dialled => True

theorem inv_step (s : State) (op : Op) (h : Inv s) : Inv (step s op).1 := by
  refine ⟨?_, fun c hc => ?_⟩
  · rw [step_vp]
    cases op with
    | setPeers id ps => exact set_wf _ id ps h.1
    | _ => exact h.1
  · rcases step_conns hc with ⟨h0, _⟩ | ⟨m, _, hv, ho⟩ | ⟨_, ho⟩
    · exact h.2 c h0
    · rw [ho]; exact (c17_valid_iff s.vp h.1 c.peer).mp hv
    · rw [ho]; trivial

theorem inv_run (ops : List Op) : Inv (run {} ops).1 := by
  suffices h : ∀ s, Inv s → Inv (run s ops).1 from h {} ⟨trivial, fun _ h => nomatch h⟩
  induction ops with
  | nil => exact fun s h => h
  | cons op l ih => exact fun s h => ih _ (inv_step s op h)

/-- **histories**: after *every* sequence of set / replace / read operations, connection attempts,
messages, dialled connections and drops,

* a connection offered by a peer is accepted — and its message dispatched — **iff** the peer's
  *key* is valid at that moment (no table yet, or in some current set): members are never refused,
  non-members never served, whatever `ID` field they declare;
* a refused offer leaves no trace (state unchanged, nothing dispatched);
* a message is dispatched only over a registered connection, and every registered connection was
  either opened by this router itself or accepted while its peer's key was valid. -/
theorem c17_history (ops : List Op) :
    let s := (run {} ops).1
    (∀ p m, ((step s (.offer p m)).2 = .dispatched p m ↔ SpecValid s.vp p.key) ∧
            (¬ SpecValid s.vp p.key → step s (.offer p m) = (s, .refused))) ∧
    (∀ k m q, (step s (.msg k m)).2 = .dispatched q m →
        ∃ c ∈ s.conns, c.peer = q ∧ q.key = k ∧
          (c.origin = .dialled ∨ ∃ vp0, c.origin = .offered vp0 ∧ SpecValid vp0 k)) := by
  intro s
  have hinv : Inv s := inv_run ops
  refine ⟨fun p m => ?_, fun k m q hd => ?_⟩
  · rw [step_offer_obs, ← c17_valid_iff s.vp hinv.1 p]
    refine ⟨⟨fun h => ?_, fun h => if_pos h⟩, fun hn => if_neg hn⟩
    split at h
    · assumption
    · cases h
  · obtain ⟨c, hmem, rfl, rfl⟩ := step_msg_dispatched hd
    refine ⟨c, hmem, rfl, rfl, ?_⟩
    have := hinv.2 c hmem
    cases ho : c.origin with
    | dialled => exact .inl rfl
    | offered vp0 => rw [ho] at this; exact .inr ⟨vp0, rfl, this⟩

/-! ### the table is a map from set identifiers to the last list given -/

/-- any number of `SetValidPeers` calls in a row -/
def applySets (vp : VP) (l : List (SetId × List Ident)) : VP := l.foldl (fun v e => v.set e.1 e.2) vp

/-- the reference: the list given by the last call for `id`, if any -/
def lastSet (l : List (SetId × List Ident)) (id : SetId) : Option (List Ident) :=
  match l with
  | [] => none
  | e :: l => match lastSet l id with
    | some ps => some ps
    | none => if e.1 = id then some e.2 else none

/-- **refinement to a map of sets, over whole histories of calls**: after any sequence of
`SetValidPeers` calls (any identifiers, any lists, repetitions, empty lists) on any table, reading
`id` gives the ids of the keys of the list given by the *last* call for `id`; for an identifier no
call named, what was there before (the empty set once any call was made). -/
theorem c17_get_last_set (vp : VP) (l : List (SetId × List Ident)) (id : SetId) :
    (applySets vp l).get id =
      match lastSet l id with
      | some ps => some (ps.map Ident.getID)
      | none => if l.isEmpty then vp.get id else some ((vp.get id).getD []) := by
  induction l generalizing vp with
  | nil => rfl
  | cons e l ih =>
    show (applySets (vp.set e.1 e.2) l).get id = _
    rw [ih, lastSet]
    cases lastSet l id with
    | some ps => rfl
    | none =>
      -- a table that has seen a call reads as `some _` everywhere, so both branches on `l` agree
      have hX : some (((vp.set e.1 e.2).get id).getD []) = (vp.set e.1 e.2).get id := rfl
      simp only [hX, ite_self]
      rw [get_after_set]
      by_cases he : e.1 = id
      · rw [if_pos he, if_pos he.symm]
      · rw [if_neg he, if_neg (Ne.symm he)]; rfl

theorem applySets_some (m : List (SetId × List PeerId)) (l : List (SetId × List Ident)) :
    ∃ m', applySets (some m) l = some m' := by
  induction l generalizing m with
  | nil => exact ⟨m, rfl⟩
  | cons e l ih => exact ih _

theorem applySets_wf (vp : VP) (l : List (SetId × List Ident)) (h : vp.WF) : (applySets vp l).WF := by
  induction l generalizing vp with
  | nil => exact h
  | cons e l ih => exact ih _ (set_wf vp e.1 e.2 h)

/-- the specification's verdict on a key after the calls `l`: no call was made yet, or the latest list
given for some identifier holds an identity with that key -/
def SpecMember (l : List (SetId × List Ident)) (k : Key) : Prop :=
  l = [] ∨ ∃ id ps, lastSet l id = some ps ∧ ∃ q ∈ ps, q.key = k

/-- **the filter after any calls is the specification**: the table built by the calls `l` answers yes for
an identity iff no call was made or the latest list of some identifier holds its key -/
theorem c17_valid_after_sets (l : List (SetId × List Ident)) (p : Ident) :
    (applySets none l).isValid p = true ↔ SpecMember l p.key := by
  rw [c17_valid_iff _ (applySets_wf none l trivial)]
  cases l with
  | nil => exact ⟨fun _ => .inl rfl, fun _ => .inl rfl⟩
  | cons e l =>
    have hmem (ps : List Ident) : idOfKey p.key ∈ ps.map Ident.getID ↔ ∃ q ∈ ps, q.key = p.key :=
      List.mem_map.trans ⟨fun ⟨q, hq, he⟩ => ⟨q, hq, he⟩, fun ⟨q, hq, he⟩ => ⟨q, hq, he⟩⟩
    constructor
    · rintro (h | ⟨id, ps, hg, hin⟩)
      · obtain ⟨m', hm⟩ := applySets_some [(e.1, e.2.map Ident.getID)] l
        exact nomatch hm.symm.trans h
      · rw [c17_get_last_set] at hg
        cases hl : lastSet (e :: l) id with
        | some ps' =>
          rw [hl] at hg; cases hg
          exact .inr ⟨id, ps', hl, (hmem ps').mp hin⟩
        | none => rw [hl] at hg; cases hg; cases hin
    · rintro (h | ⟨id, ps, hl, hq⟩)
      · cases h
      · exact .inr ⟨id, ps.map Ident.getID, by rw [c17_get_last_set, hl], (hmem ps).mpr hq⟩

/-! ### the statement over traces

The specification of the property, written over the history itself: *the sets are the lists given by the
latest `SetValidPeers` call for each identifier*.  `c17_trace` says what the router answers at every
position of every history in these terms only — no table, no reachable state. -/

/-- the `SetValidPeers` calls of a history, in order -/
def setsOf : List Op → List (SetId × List Ident)
  | [] => []
  | .setPeers id ps :: l => (id, ps) :: setsOf l
  | _ :: l => setsOf l

theorem setsOf_append (a b : List Op) : setsOf (a ++ b) = setsOf a ++ setsOf b := by
  induction a with
  | nil => rfl
  | cons op l ih => cases op <;> simp only [List.cons_append, setsOf, ih]

theorem run_vp (s : State) (ops : List Op) : (run s ops).1.vp = applySets s.vp (setsOf ops) := by
  induction ops generalizing s with
  | nil => rfl
  | cons op l ih =>
    show (run (step s op).1 l).1.vp = _
    rw [ih, step_vp]
    cases op <;> rfl

theorem valid_at (ops : List Op) (p : Ident) :
    (run {} ops).1.vp.isValid p = true ↔ SpecMember (setsOf ops) p.key := by
  rw [run_vp]; exact c17_valid_after_sets _ p

theorem run_append (s : State) (a b : List Op) :
    run s (a ++ b) = ((run (run s a).1 b).1, (run s a).2 ++ (run (run s a).1 b).2) := by
  induction a generalizing s with
  | nil => rfl
  | cons op l ih => simp only [List.cons_append, run, ih]

theorem run_snoc_state (s : State) (ops : List Op) (op : Op) :
    (run s (ops ++ [op])).1 = (step (run s ops).1 op).1 := by
  rw [run_append]; rfl

/-- the observation at a position of a history is the step made there, from the state the prefix leads to -/
theorem run_obs_at (s : State) (pre post : List Op) (op : Op) :
    (run s (pre ++ op :: post)).2[pre.length]? = some (step (run s pre).1 op).2 := by
  rw [run_append, ← run_obs_length s pre]
  show ((run s pre).2 ++ (step (run s pre).1 op).2 :: (run _ post).2)[(run s pre).2.length]? = _
  rw [List.getElem?_append_right (Nat.le_refl _), Nat.sub_self]; rfl

/-- where a registered connection comes from, in terms of the history: the router dialled that peer, or
the peer offered the connection at a position where the specification held its key valid; and the peer's
connections were not dropped since -/
def ConnFrom (ops : List Op) (c : Conn) : Prop :=
  ∃ a b, ops = a ++ b ∧ (∀ op ∈ b.tail, op ≠ .drop c.peer.key) ∧
    ((b.head? = some (.dial c.peer) ∧ c.origin = .dialled) ∨
     (∃ m, b.head? = some (.offer c.peer m)) ∧ c.origin = .offered (applySets none (setsOf a)) ∧
        SpecMember (setsOf a) c.peer.key)

theorem ConnFrom.snoc {ops : List Op} {c : Conn} (h : ConnFrom ops c) (op : Op) (hop : op ≠ .drop c.peer.key) :
    ConnFrom (ops ++ [op]) c := by
  obtain ⟨a, b, he, hnd, hor⟩ := h
  cases b with
  | nil => rcases hor with ⟨h1, _⟩ | ⟨⟨m, h1⟩, _⟩ <;> cases h1
  | cons x b =>
    refine ⟨a, x :: b ++ [op], by rw [he, List.append_assoc], fun y hy => ?_, hor⟩
    rcases List.mem_append.mp hy with hy | hy
    · exact hnd y hy
    · cases List.mem_singleton.mp hy; exact hop

/-- every registered connection of every reachable state is explained by the history -/
theorem conns_from (ops : List Op) : ∀ c ∈ (run {} ops).1.conns, ConnFrom ops c := by
  induction ops using List.snoc_induction with
  | nil => exact fun _ h => nomatch h
  | snoc ops op ih =>
    intro c hc
    rw [run_snoc_state] at hc
    rcases step_conns hc with ⟨h0, hnd⟩ | ⟨m, rfl, hv, ho⟩ | ⟨rfl, ho⟩
    · exact (ih c h0).snoc op hnd
    · rw [run_vp] at ho
      exact ⟨ops, [.offer c.peer m], rfl, (fun _ h => nomatch h), .inr ⟨⟨m, rfl⟩, ho, (valid_at ops _).mp hv⟩⟩
    · exact ⟨ops, [.dial c.peer], rfl, (fun _ h => nomatch h), .inl ⟨rfl, ho⟩⟩

/-- **the property over traces.**  Take any history and any position in it (`pre` = what came before).

* A connection offered at that position is accepted and its message dispatched if no `SetValidPeers`
  call came before or the latest list given for *some* identifier holds the peer's key; otherwise it is
  refused.  Lists given earlier for the same identifier, and the `ID` field, play no part.
* A read at that position returns nil if no call came before, else the ids of the keys of the latest list
  given for that identifier (the empty list if none was).
* A message dispatched at that position over an existing connection comes from a peer the router dialled
  itself, or whose offer — at an earlier position — was accepted under the rule above, and whose
  connections were not dropped in between. -/
theorem c17_trace (pre post : List Op) :
    (∀ p m, (SpecMember (setsOf pre) p.key →
              (run {} (pre ++ .offer p m :: post)).2[pre.length]? = some (.dispatched p m)) ∧
            (¬ SpecMember (setsOf pre) p.key →
              (run {} (pre ++ .offer p m :: post)).2[pre.length]? = some .refused)) ∧
    (∀ id, (run {} (pre ++ .getPeers id :: post)).2[pre.length]? =
        some (.peers (if setsOf pre = [] then none
                      else some (((lastSet (setsOf pre) id).getD []).map Ident.getID)))) ∧
    (∀ k m q, (run {} (pre ++ .msg k m :: post)).2[pre.length]? = some (.dispatched q m) →
        q.key = k ∧ ∃ a b, pre = a ++ b ∧ (∀ op ∈ b.tail, op ≠ .drop k) ∧
          (b.head? = some (.dial q) ∨
           (∃ m', b.head? = some (.offer q m')) ∧ SpecMember (setsOf a) k)) := by
  refine ⟨fun p m => ⟨fun h => ?_, fun h => ?_⟩, fun id => ?_, fun k m q h => ?_⟩
  · rw [run_obs_at, step_offer_obs, if_pos ((valid_at pre p).mpr h)]
  · rw [run_obs_at, step_offer_obs, if_neg fun hv => h ((valid_at pre p).mp hv)]
  · rw [run_obs_at]
    show some (Obs.peers ((run {} pre).1.vp.get id)) = _
    rw [run_vp, c17_get_last_set]
    cases setsOf pre with
    | nil => rfl
    | cons e l => cases lastSet (e :: l) id <;> rfl
  · rw [run_obs_at] at h
    obtain ⟨c, hmem, rfl, rfl⟩ := step_msg_dispatched (Option.some.inj h)
    obtain ⟨a, b, he, hnd, hor⟩ := conns_from pre c hmem
    refine ⟨rfl, a, b, he, hnd, ?_⟩
    rcases hor with ⟨h1, _⟩ | ⟨h1, _, h3⟩
    · exact .inl h1
    · exact .inr ⟨h1, h3⟩

/-- `c17_trace` is not vacuous: in this history the offer at position 4 comes after two calls for the
same identifier; the latest list holds key 2 and not key 1 -/
example :
    SpecMember (setsOf [.setPeers (newPeerSetID [1]) [Ident.honest 1], .offer (Ident.honest 1) 0, .setPeers (newPeerSetID [2]) [],
                        .setPeers (newPeerSetID [1]) [⟨2, 0⟩]]) 2 ∧
    ¬ SpecMember (setsOf [.setPeers (newPeerSetID [1]) [Ident.honest 1], .offer (Ident.honest 1) 0, .setPeers (newPeerSetID [2]) [],
                        .setPeers (newPeerSetID [1]) [⟨2, 0⟩]]) 1 := by
  -- by `c17_valid_after_sets` both are the answer of the table the calls build, which is computed
  exact ⟨(c17_valid_after_sets _ ⟨2, 0⟩).mp (by decide +kernel),
    fun h => absurd ((c17_valid_after_sets _ ⟨1, 0⟩).mpr h) (by decide +kernel)⟩

/-! ### what the property does not promise; witnesses -/

def setA : SetId := newPeerSetID [1]
def setB : SetId := newPeerSetID [2]

/-- connections this router opens itself are not filtered: after dialling a peer that is in none
of the sets, that peer's messages are dispatched -/
theorem c17_outgoing_unfiltered :
    (run {} [.setPeers setA [Ident.honest 1], .dial (Ident.honest 9), .msg 9 5]).2
      = [.done, .done, .dispatched (Ident.honest 9) 5] := by decide +kernel

/-- the filter acts when a connection is offered, not afterwards: a peer accepted while it was a
member keeps its connection when a later `set` removes it (a *new* connection is refused) -/
theorem c17_not_retroactive :
    (run {} [.setPeers setA [Ident.honest 1], .offer (Ident.honest 1) 1, .setPeers setA [],
             .msg 1 2, .offer (Ident.honest 1) 3]).2
      = [.done, .dispatched (Ident.honest 1) 1, .done, .dispatched (Ident.honest 1) 2, .refused] := by
  decide +kernel

/-- the defect that was repaired: tested on the wire-supplied field, a peer in none of the sets
that copies a member's id into its identity passes — its key is not valid. -/
theorem c17_forged_field_witness :
    let vp := VP.set none setA [Ident.honest 1]
    let forged : Ident := ⟨9, idOfKey 1⟩
    vp.isValidByField forged = true ∧ vp.isValid forged = false ∧ ¬ SpecValid vp forged.key := by
  intro vp forged
  have hw : vp.WF := set_wf none _ _ trivial
  refine ⟨by decide, by decide, fun h => ?_⟩
  have := (c17_valid_iff vp hw forged).mpr h
  exact absurd this (by decide)

/-- set ids derived by two services from the same bytes differ; one service's ids are injective
in the bytes (pre-image of the hash; service ids are 16 bytes) -/
theorem c17_ctx_setid_injective (sid sid' d d' : List Nat) (h : sid.length = 16) (h' : sid'.length = 16)
    (heq : ctxPeerSetID sid d = ctxPeerSetID sid' d') : sid = sid' ∧ d = d' :=
  List.append_inj heq (by omega)

/-- **the service-facing wrappers** (`Context.SetValidPeers` / `GetValidPeers` with an identifier made
by `Context.NewPeerSetID`): what one service sets under its bytes `d` is read back exactly by that
service under `d`, and never changes what any service reads under other bytes, nor what another
service reads under any bytes (also the same ones). -/
theorem c17_ctx_sets_independent (vp : VP) (sid sid' d d' : List Nat) (peers : List Ident)
    (hs : sid.length = 16) (hs' : sid'.length = 16) :
    (vp.set (ctxPeerSetID sid d) peers).get (ctxPeerSetID sid d) = some (peers.map Ident.getID) ∧
    (vp ≠ none → (sid, d) ≠ (sid', d') →
      (vp.set (ctxPeerSetID sid d) peers).get (ctxPeerSetID sid' d') = vp.get (ctxPeerSetID sid' d')) := by
  refine ⟨c17_get_exact _ _ _, fun hinit hne => ?_⟩
  apply c17_set_frame vp _ _ peers hinit
  intro heq
  obtain ⟨h1, h2⟩ := c17_ctx_setid_injective sid' sid d' d hs' hs heq
  exact hne (by rw [h1, h2])

/-- router-level ids are the bytes padded with zeros / cut to 32: `[1]` and `[1,0]` name the same set -/
theorem c17_raw_setid_padding : newPeerSetID [1] = newPeerSetID [1, 0] := by decide +kernel

/-- a history over three sets (one empty), replacement, members, an honest non-member and a
non-member with a forged `ID` field -/
example :
    (run {} [.offer (Ident.honest 7) 0,                       -- before any set: everybody
             .setPeers setA [Ident.honest 1, Ident.honest 2],
             .setPeers setB [],
             .offer (Ident.honest 1) 1, .offer (Ident.honest 9) 2, .offer ⟨9, idOfKey 1⟩ 3,
             .setPeers setA [⟨3, 0⟩],                          -- member given with an empty ID field
             .offer (Ident.honest 3) 4, .offer (Ident.honest 2) 5,
             .getPeers setA, .getPeers setB, .getPeers (newPeerSetID [3])]).2
      = [.dispatched (Ident.honest 7) 0, .done, .done,
         .dispatched (Ident.honest 1) 1, .refused, .refused,
         .done, .dispatched (Ident.honest 3) 4, .refused,
         .peers (some [3]), .peers (some []), .peers (some [])] := by decide +kernel

example : SpecValid (VP.set none setA [Ident.honest 1]) 1 :=
  c17_set_members none setA [Ident.honest 1] (Ident.honest 1) (by simp)

/-! ### the accept path as a transition system: any interleaving -/

/-- the table stays a map along every schedule -/
theorem Acc.run_wf (acts : List Acc.Act) : (Acc.run {} acts).vp.WF := by
  induction acts using List.snoc_induction with
  | nil => trivial
  | snoc l a ih =>
    rw [Acc.run_snoc, Acc.step_vp]
    cases a with
    | setPeers id ps => exact set_wf _ id ps ih
    | _ => exact ih

/-- **any interleaving**: the server's goroutine of every accepted connection (identity, validity
test, registration, launch, receive loop — one act per lock region), the peers' writes and closes,
`SetValidPeers` calls and `Stop` scheduled in *any* order: whatever is handed to the dispatcher on
connection `c` with identity `p` attached, connection `c` went through the validity test at some
moment of the schedule, it had delivered exactly the identity `p` before, and at **that** moment the
key of `p` was valid (no set given yet, or in some set of the table as it was then). -/
theorem c17_accept_interleaved (acts : List Acc.Act) (c : Nat) (p : Ident) (m : Nat)
    (h : (c, p, m) ∈ (Acc.run {} acts).log) :
    ∃ pre post, acts = pre ++ .check c :: post ∧
      Acc.phaseOf (Acc.run {} pre) c = some (.gotId p) ∧ SpecValid (Acc.run {} pre).vp p.key := by
  obtain ⟨pre, post, he, hv, hph⟩ := (Acc.inv_all acts).2 _ h
  exact ⟨pre, post, he, hph, (c17_valid_iff _ (Acc.run_wf pre) p).mp hv⟩

/-- … read the other way round: **no message of a peer that was in no set at the time its
connection was checked is ever dispatched, for any interleaving** — whatever `SetValidPeers` calls
come later, also one that makes the peer a member before its first message arrives. -/
theorem c17_accept_never_unchecked (acts : List Acc.Act) (c : Nat) (p : Ident)
    (hno : ∀ pre post, acts = pre ++ .check c :: post →
      Acc.phaseOf (Acc.run {} pre) c = some (.gotId p) → ¬ SpecValid (Acc.run {} pre).vp p.key) :
    ∀ m, (c, p, m) ∉ (Acc.run {} acts).log := by
  intro m hm
  obtain ⟨pre, post, he, hph, hv⟩ := c17_accept_interleaved acts c p m hm
  exact hno pre post he hph hv

/-- … and its dual, **members are never refused, whatever the interleaving**: a connection that the
server closed as "invalid peer" failed the test at a moment of the schedule at which the key of the
identity it had delivered was in no set of the table as it was then. -/
theorem c17_accept_refusal_justified (acts : List Acc.Act) (c : Nat)
    (h : Acc.phaseOf (Acc.run {} acts) c = some (.closed .refused)) :
    ∃ pre post p, acts = pre ++ .check c :: post ∧
      Acc.phaseOf (Acc.run {} pre) c = some (.gotId p) ∧ ¬ SpecValid (Acc.run {} pre).vp p.key := by
  obtain ⟨cn, hcn, hph⟩ := Option.map_eq_some_iff.mp h
  have := (Acc.inv_all acts).1 c cn hcn
  rw [hph] at this
  obtain ⟨p, pre, post, he, hv, hp⟩ := this
  refine ⟨pre, post, p, he, hp, fun hs => ?_⟩
  exact absurd ((c17_valid_iff _ (Acc.run_wf pre) p).mpr hs) (Bool.eq_false_iff.mp hv)

/-- **progress**: an act of a server goroutine (`recvId`, `check`, `register`, `launch`, `recv` of any
connection) either is blocked / not due — it changes nothing — or strictly lowers the distance of
the state from rest (phases still to go plus unread messages, summed over the connections).  So no
schedule can keep the goroutines busy for ever without new input from the peers. -/
theorem c17_accept_progress (s : Acc.State) (c : Nat) (a : Acc.Act) (ha : a ∈ Acc.internal c) :
    Acc.step s a = s ∨ Acc.measure (Acc.step s a) < Acc.measure s := by
  simp only [Acc.internal, List.mem_cons, List.not_mem_nil, or_false] at ha
  rcases ha with rfl | rfl | rfl | rfl | rfl
  · exact Acc.upd_measure s c Acc.recvIdConn_moves
  · exact Acc.upd_measure s c (Acc.checkConn_moves s.vp)
  · exact Acc.upd_measure s c (Acc.registerConn_moves s.closed)
  · exact Acc.upd_measure s c (Acc.launchConn_moves s.closed)
  · exact Acc.recv_measure s c

/-- no act of any server goroutine can change the state -/
def Acc.Quiescent (s : Acc.State) : Prop := ∀ c, ∀ a ∈ Acc.internal c, Acc.step s a = s

/-- **nothing is stuck when no step is enabled**: in a state where no server goroutine can move,
every accepted connection is in one of three situations — the server waits for the peer's identity
(the peer is connected and has written nothing), or the connection is served (`handleConn` runs, the
router is open, every message the peer wrote has been read) or it is closed.  No connection rests
between the identity and the receive loop, and no message rests unread behind an accepted identity. -/
theorem c17_accept_quiescent (s : Acc.State) (hq : Acc.Quiescent s) (c : Nat) (cn : Acc.Conn)
    (hc : s.conns[c]? = some cn) :
    (cn.phase = .waitId ∧ cn.inbox = [] ∧ cn.peerOpen = true) ∨
    (∃ p v, cn.phase = .running p v ∧ cn.inbox = [] ∧ cn.peerOpen = true ∧ s.closed = false) ∨
    (∃ w, cn.phase = .closed w) :=
  (Acc.progress_or_rest s c cn hc).resolve_left fun ⟨a, ha, hlt⟩ =>
    absurd (hq c a ha ▸ hlt) (Nat.lt_irrefl _)

/-- **the sequential model is the transition system run without interleaving**: from any state whose
router is open, the acts of one connection attempt in a row — connect, the peer writes its identity
and a message, the server reads the identity, tests, registers, launches, reads the message — have
exactly the effect of `C17.step … (.offer p m)`: the table is untouched, the connection is registered
(with the table it was tested against) and `(p, m)` dispatched iff `isValid p`; otherwise nothing is
registered and nothing dispatched. -/
theorem c17_offer_is_uninterleaved_accept (s : Acc.State) (p : Ident) (m : Nat) (hopen : s.closed = false) :
    let c := s.conns.length
    let s' := Acc.run s (Acc.offerActs c p m)
    Acc.abs s' = (step (Acc.abs s) (.offer p m)).1 ∧
    s'.log = s.log ++ (if s.vp.isValid p then [(c, p, m)] else []) ∧
    ((step (Acc.abs s) (.offer p m)).2 = if s.vp.isValid p then .dispatched p m else .refused) := by
  intro c s'
  obtain ⟨vp, l, b, lg⟩ := s
  obtain rfl : b = false := hopen
  -- the acts work on the new, last connection, at index `l.length` (`Acc.upd_snoc`); only the test looks at the table
  have key : s' = if vp.isValid p then
        ⟨vp, l ++ [{ phase := .running p vp, inbox := [], peerOpen := true }], false, lg ++ [(c, p, m)]⟩
      else ⟨vp, l ++ [{ phase := .closed .refused, inbox := [.msg m], peerOpen := true }], false, lg⟩ := by
    simp only [s', c, Acc.offerActs, Acc.run, List.foldl_cons, List.foldl_nil, Acc.step, Acc.upd_snoc,
      List.getElem?_concat_length, List.set_append_right, Nat.le_refl, Nat.sub_self, List.set_cons_zero,
      Acc.recvIdConn, Acc.checkConn, ↓reduceIte, List.nil_append, List.cons_append]
    cases vp.isValid p <;> rfl
  refine ⟨?_, ?_, step_offer_obs _ p m⟩
  · rw [key, step_offer_fst]
    show Acc.abs (if vp.isValid p then _ else _) = if vp.isValid p then _ else _
    cases vp.isValid p
    · exact congrArg (C17.State.mk vp) (List.filterMap_append.trans (List.append_nil _))
    · exact congrArg (C17.State.mk vp) List.filterMap_append
  · rw [key]
    show Acc.State.log (if vp.isValid p then _ else _) = lg ++ if vp.isValid p then _ else _
    cases vp.isValid p
    · exact (List.append_nil lg).symm
    · rfl

/-- **`Router.Stop` is final**: from a state in which the router is closed, whatever is scheduled afterwards —
identities arriving, tests, registrations, launches, turns of receive loops, `SetValidPeers` calls, peers
writing — nothing more is handed to the dispatcher and the router stays closed.  Together with
`c17_accept_interleaved`: everything ever dispatched was dispatched before the stop, over a connection that
had passed the test. -/
theorem c17_stop_final (s : Acc.State) (h : s.closed = true) (acts : List Acc.Act) :
    (Acc.run s acts).log = s.log ∧ (Acc.run s acts).closed = true := by
  induction acts generalizing s with
  | nil => exact ⟨rfl, h⟩
  | cons a l ih =>
    obtain ⟨h1, h2⟩ := ih (Acc.step s a) (Acc.step_closed_of_closed h a)
    exact ⟨h1.trans (Acc.step_log_of_closed h a), h2⟩

/-- … read over schedules: what a schedule dispatches after a `stop` act is nothing -/
theorem c17_nothing_after_stop (pre post : List Acc.Act) :
    (Acc.run {} (pre ++ .stop :: post)).log = (Acc.run {} pre).log := by
  rw [Acc.run_append, Acc.run_cons]
  exact (c17_stop_final _ rfl post).1

/-! ### the transition system: witnesses and non-vacuity -/

/-- the filter acts at the test, not afterwards — also inside the accept path: a `SetValidPeers` that
removes the peer between its test and its registration does not stop it (the first message is
dispatched) … -/
def Acc.exRemovedAfterCheck : List Acc.Act :=
  [.connect, .peerSend 0 (.ident (Ident.honest 1)), .setPeers setA [Ident.honest 1], .recvId 0, .check 0,
   .setPeers setA [], .register 0, .launch 0, .peerSend 0 (.msg 7), .recv 0]

theorem c17_accept_not_retroactive :
    (Acc.run {} Acc.exRemovedAfterCheck).log = [(0, Ident.honest 1, 7)] ∧
    (Acc.run {} Acc.exRemovedAfterCheck).vp.isValid (Ident.honest 1) = false := by decide +kernel

/-- … and a `SetValidPeers` that adds the peer after it was refused does not revive the connection:
what it wrote is never read -/
def Acc.exAddedAfterRefusal : List Acc.Act :=
  [.setPeers setA [Ident.honest 1], .connect, .peerSend 0 (.ident (Ident.honest 9)), .recvId 0, .check 0,
   .setPeers setA [Ident.honest 9], .peerSend 0 (.msg 7), .register 0, .launch 0, .recv 0]

theorem c17_accept_refusal_final :
    (Acc.run {} Acc.exAddedAfterRefusal).log = [] ∧
    Acc.phaseOf (Acc.run {} Acc.exAddedAfterRefusal) 0 = some (.closed .refused) ∧
    (Acc.run {} Acc.exAddedAfterRefusal).vp.isValid (Ident.honest 9) = true := by decide +kernel

/-- two connections interleaved with two calls: the member's message is dispatched, the
non-member's is not; a first message that is not an identity ends the connection -/
example :
    let s := Acc.run {} [.connect, .connect, .connect, .peerSend 1 (.ident (Ident.honest 9)),
      .peerSend 0 (.ident ⟨1, 5⟩), .peerSend 2 (.msg 3), .recvId 1, .setPeers setA [Ident.honest 1], .recvId 0,
      .recvId 2, .check 1, .check 0, .setPeers setB [Ident.honest 9], .register 0, .peerSend 0 (.msg 4),
      .peerSend 1 (.msg 5), .launch 0, .register 1, .recv 0, .recv 1, .recv 0]
    s.log = [(0, ⟨1, 5⟩, 4)] ∧ Acc.phaseOf s 1 = some (.closed .refused) ∧
      Acc.phaseOf s 2 = some (.closed .idErr) := by decide +kernel

/-- the hypotheses of `c17_accept_quiescent` are met by a state with a served connection -/
example : Acc.Quiescent (Acc.run {} Acc.exRemovedAfterCheck) := by
  intro c a ha
  cases c with
  | zero =>
    exact (by decide +kernel : ∀ a ∈ Acc.internal 0, Acc.step (Acc.run {} Acc.exRemovedAfterCheck) a = _) a ha
  | succ n =>
    -- there is no connection `n + 1`
    simp only [Acc.internal, List.mem_cons, List.not_mem_nil, or_false] at ha
    rcases ha with rfl | rfl | rfl | rfl | rfl <;> rfl

/-- `Router.Stop` between the test and the registration: the connection is closed, nothing dispatched -/
example :
    let s := Acc.run {} [.connect, .peerSend 0 (.ident (Ident.honest 1)), .peerSend 0 (.msg 7), .recvId 0,
      .check 0, .stop, .register 0, .launch 0, .recv 0]
    s.log = [] ∧ Acc.phaseOf s 0 = some (.closed .routerClosed) := by decide +kernel

/-! ### the peer of a TLS listener (`Model/C17Tls.lean`) -/

/-- Over TLS the key the filter tests is a key whose private half the peer holds: whenever a connection
offered with certificate `c` and identity message `p` ends in a dispatch, the key that made the signature is
the key named in the CommonName, is the key of the identity message, and is valid.  A change of *any* of the
three sites (the verifier proving another name than the CommonName, `receiveServerIdentity` comparing another
name, `isPeerValid` testing another field) falsifies it. -/
theorem c17_tls_tested_key_is_held (vp : VP) (hwf : VP.WF vp) (c : Tls.Cert) (p : Ident)
    (h : Tls.offer false vp c p = .dispatched) :
    c.signer = p.key ∧ c.cn = p.key ∧ c.signedName = p.key ∧ SpecValid vp c.signer := by
  have h1 : Tls.verify false c = true := by
    cases e : Tls.verify false c
    · rw [Tls.offer, e] at h; cases h
    · rfl
  have h2 : Tls.identMatches c p = true := by
    cases e : Tls.identMatches c p
    · rw [Tls.offer, h1, e] at h; cases h
    · rfl
  have h3 : vp.isValid p = true := by
    cases e : vp.isValid p
    · rw [Tls.offer, h1, h2, e] at h; cases h
    · rfl
  have hk : p.key = c.cn := beq_iff_eq.mp h2
  obtain ⟨hs, hn⟩ := Bool.and_eq_true_iff.mp h1
  have hs : c.signer = c.cn := beq_iff_eq.mp hs
  have hn : c.signedName = c.cn := beq_iff_eq.mp hn
  exact ⟨hs.trans hk.symm, hk.symm, hn.trans hk.symm, hs ▸ hk ▸ (c17_valid_iff vp hwf p).mp h3⟩

/-- … hence the holder of a key that is in none of the current sets is never served, whatever certificate
and identity message it makes up -/
theorem c17_tls_non_member_never_served (vp : VP) (hwf : VP.WF vp) (c : Tls.Cert) (p : Ident)
    (hn : ¬ SpecValid vp c.signer) : Tls.offer false vp c p ≠ .dispatched := fun h =>
  hn (c17_tls_tested_key_is_held vp hwf c p h).2.2.2

/-- an honest peer's certificate adds nothing to the plain accept path: served iff its key is valid -/
theorem c17_tls_honest_is_plain_offer (vp : VP) (k : Key) (f : PeerId) :
    Tls.offer false vp (Tls.Cert.honest k) ⟨k, f⟩ = if vp.isValid ⟨k, f⟩ then .dispatched else .refused := by
  simp [Tls.offer, Tls.verify, Tls.provenName, Tls.identMatches, Tls.Cert.honest]

/-- witness for the variant whose verifier proves the key named in the URI (seeded change C17r6-A): the holder
of key 9 — in no set — names member 1 in the CommonName and itself in the URI, and is served as member 1 -/
theorem c17_tls_uri_key_must_not_be_the_proven_one :
    let vp : VP := VP.set none [1] [Ident.honest 1]
    let c : Tls.Cert := { cn := 1, uri := some 9, signer := 9, signedName := 9 }
    vp.isValid (Ident.honest 9) = false ∧
    Tls.offer true vp c (Ident.honest 1) = .dispatched ∧ Tls.offer false vp c (Ident.honest 1) = .handshakeRefused := by
  decide +kernel

example : Tls.offer false (VP.set none [1] [Ident.honest 1]) (Tls.Cert.honest 1) (Ident.honest 1) = .dispatched := by decide +kernel
example : Tls.offer false (VP.set none [1] [Ident.honest 1]) (Tls.Cert.honest 9) (Ident.honest 9) = .refused := by decide +kernel
example : Tls.offer false none { cn := 1, uri := none, signer := 1, signedName := 1 } (Ident.honest 2) = .identityRefused := by decide +kernel

/-! ### dialling and accepting goroutines interleaved (`Model/C17Dial.lean`) -/

/-- **every dispatched message, whatever runs concurrently**: for every interleaving of accepting goroutines,
dialling goroutines (`Router.connect`), `SetValidPeers` calls, receive-loop turns, connections ending and
`Router.Stop` — a message is dispatched only over a connection the router dialled itself, or over an accepted
connection whose peer's key was valid against the table that `isPeerValid` looked at.  Falsified by a path into the
table that skips the test for an *accepted* connection (e.g. registering before the test and testing afterwards, or
a dialling goroutine's connection being reused for the identity of an accepting one). -/
theorem c17_concurrent_dial_accept (acts : List Dial.Act) :
    ∀ e ∈ (Dial.run {} acts).log,
      e.side = .dialled ∨ ∃ v, e.vpThen = some v ∧ v.isValid e.peer = true := by
  intro e he
  have h := (Dial.inv_run acts).2 e he
  cases hs : e.side
  · exact Or.inr (h.1 hs)
  · exact Or.inl rfl

/-- … and the same for what is in the table at any moment: an entry is a connection the router dialled, or one that
passed the test (against the table of that moment — later `SetValidPeers` calls do not take it out) -/
theorem c17_table_entries_justified (acts : List Dial.Act) :
    ∀ t ∈ (Dial.run {} acts).thrs, t.listed = true →
      t.side = .dialled ∨ ∃ v, t.vpThen = some v ∧ v.isValid t.peer = true := by
  intro t ht hl
  have h := (Dial.inv_run acts).1 t ht
  cases hs : t.side
  · refine Or.inr (h.1 hs ?_)
    simp only [Dial.Thr.listed, Bool.or_eq_true, beq_iff_eq] at hl
    rcases hl with hl | hl
    · exact Or.inr (Or.inl hl)
    · exact Or.inr (Or.inr hl)
  · exact Or.inl rfl

/-- the ghost table is the real one: the test of accepted connection `k` reads the table as it is at that moment -/
theorem c17_check_reads_the_current_table (s : Dial.State) (k : Nat) (t : Dial.Thr) (hk : s.thrs[k]? = some t)
    (ha : t.side = .accepted) (hf : t.ph = .fresh) :
    (Dial.step s (.check k)).thrs[k]? =
      some (if s.vp.isValid t.peer then { t with ph := .checked, vpThen := some s.vp } else { t with ph := .ended }) := by
  obtain ⟨hlt, he⟩ := List.getElem?_eq_some_iff.mp hk
  simp only [Dial.step, Dial.upd, hk, List.getElem?_set_self hlt, Dial.checkThr, ha, hf, and_self, if_true]

/-- **the dialling side is not filtered, whatever the sets become meanwhile**: on an open router a connection the
router opens itself goes from `connect` into the table and to its first dispatched message with `SetValidPeers`
calls at every point in between — no table makes a difference.  (The property's statement is about connections
*offered by* a peer; this records that the other direction is outside it.) -/
theorem c17_dialled_is_never_tested (s : Dial.State) (hopen : s.closed = false) (p : Ident) (m : Nat)
    (i1 i2 i3 : SetId) (l1 l2 l3 : List Ident) :
    let k := s.thrs.length
    let s' := Dial.run s [.dial p, .setPeers i1 l1, .register k, .setPeers i2 l2, .launch k, .setPeers i3 l3, .recv k m]
    s'.log = s.log ++ [{ peer := p, m := m, side := .dialled, vpThen := none }] ∧
    s'.thrs[k]? = some { side := .dialled, peer := p, ph := .running } := by
  -- by computation: `register`, `launch` and `recv` look at side, phase and `closed` only; `setPeers` writes the table alone
  simp [Dial.run, Dial.step, Dial.upd, Dial.registerThr, Dial.launchThr, hopen]

/-- witness: the peer with key 9 is in no set; the router dials it and serves its messages -/
theorem c17_dial_to_a_non_member_is_served :
    let s := Dial.run {} [.setPeers [1] [Ident.honest 1], .arrive (Ident.honest 9), .check 0, .dial (Ident.honest 9),
      .register 0, .register 1, .launch 1, .recv 1 7]
    s.vp.isValid (Ident.honest 9) = false ∧ (s.thrs.map (·.ph)) = [.ended, .running] ∧
    s.log = [{ peer := Ident.honest 9, m := 7, side := .dialled, vpThen := none }] := by
  decide +kernel

/-- non-vacuity: an accepted and a dialled connection set up in lock step with a replacement of the set in between;
the accepted one keeps the table it was tested against -/
example :
    let s := Dial.run {} [.setPeers [1] [Ident.honest 1], .arrive (Ident.honest 1), .dial (Ident.honest 2), .check 0,
      .setPeers [1] [], .register 1, .register 0, .launch 0, .launch 1, .recv 0 5, .recv 1 6]
    s.log.map (fun e => (e.peer.key, e.m, e.side)) = [(1, 5, .accepted), (2, 6, .dialled)] ∧
    s.vp.isValid (Ident.honest 1) = false := by
  decide +kernel


/-! ### the code regions the model stands for
Regenerated from /repo's source on every run (`harness/cmd/astfacts` → `OnetVerif/Shapes.lean`): the
calls that matter for synchronisation and data flow, the lock regions and (for decision logic) the
conditions, in source order.  A re-ordering, a dropped call or a changed condition breaks these
obligations even when no sampled input or schedule shows a difference; the check then searches for
a failing input. -/
theorem c17_shape_router_validPeers_set :
    Shapes.network_router_validPeers_set =
   ["peer.GetID", "lock.Lock", "defer:lock.Unlock"] := rfl

theorem c17_shape_router_validPeers_get :
    Shapes.network_router_validPeers_get =
   ["lock.Lock", "defer:lock.Unlock"] := rfl

theorem c17_shape_router_validPeers_isValid :
    Shapes.network_router_validPeers_isValid =
   ["lock.Lock", "defer:lock.Unlock", "if:(vp.peers==nil)", "return:true", "peer.GetID", "if:ok",
     "return:true", "return:false"] := rfl

theorem c17_shape_router_Router_SetValidPeers :
    Shapes.network_router_Router_SetValidPeers =
   ["validPeers.set"] := rfl

theorem c17_shape_router_Router_isPeerValid :
    Shapes.network_router_Router_isPeerValid =
   ["validPeers.isValid"] := rfl

theorem c17_shape_Context_SetValidPeers :
    Shapes.context_Context_SetValidPeers =
   ["server.SetValidPeers"] := rfl

theorem c17_shape_Context_GetValidPeers :
    Shapes.context_Context_GetValidPeers =
   ["server.GetValidPeers"] := rfl

theorem c17_shape_Context_NewPeerSetID :
    Shapes.context_Context_NewPeerSetID =
   ["sha256.New", "h.Write", "h.Write", "h.Sum", "network.NewPeerSetID"] := rfl

theorem c17_shape_struct_ServerIdentity_GetID :
    Shapes.network_struct_ServerIdentity_GetID =
   ["ServerIdentityID", "Public.String", "uuid.NewSHA1", "ServerIdentityID"] := rfl

theorem c17_shape_router_Router_GetValidPeers :
    Shapes.network_router_Router_GetValidPeers =
   ["validPeers.get"] := rfl

theorem c17_shape_router_Router_Start :
    Shapes.network_router_Router_Start =
   ["defer:verifC10Point", "r.receiveServerIdentity", "c.Close", "r.isPeerValid", "c.Close",
     "verifC10Point", "r.registerConnection", "c.Close", "verifC10Point",
     "r.launchHandleRoutine", "host.Listen"] := rfl

theorem c17_shape_router_Router_registerConnection :
    Shapes.network_router_Router_registerConnection =
   ["r.Lock", "defer:r.Unlock", "if:r.isClosed", "return:xerrors.Errorf(\"\",ErrClosed)",
     "remote.GetID", "if:okc", "remote.GetID", "remote.GetID", "return:nil"] := rfl

theorem c17_shape_router_Router_launchHandleRoutine :
    Shapes.network_router_Router_launchHandleRoutine =
   ["r.Lock", "defer:r.Unlock", "if:r.isClosed", "return:xerrors.Errorf(\"\",ErrClosed)",
     "wg.Add", "go{", "r.handleConn", "}", "return:nil"] := rfl

theorem c17_shape_router_validPeers_set_c17 :
    Shapes.network_router_validPeers_set_c17 =
   ["assign:newPeers:=make(peerSet)", "range:_,peer:=peers{",
     "assign:newPeers[peer.GetID()]=?{}", "}", "lock.Lock", "defer:lock.Unlock",
     "if:(vp.peers==nil)", "assign:vp.peers=make(conv)", "assign:vp.peers[peerSetID]=newPeers"] := rfl

theorem c17_shape_router_validPeers_get_c17 :
    Shapes.network_router_validPeers_get_c17 =
   ["lock.Lock", "defer:lock.Unlock", "if:(vp.peers==nil)", "return:nil",
     "assign:peerList:=conv{}", "range:peer,:=vp.peers[peerSetID]{",
     "assign:peerList=append(peerList,peer)", "}", "return:peerList"] := rfl

theorem c17_shape_router_validPeers_isValid_c17 :
    Shapes.network_router_validPeers_isValid_c17 =
   ["lock.Lock", "defer:lock.Unlock", "if:(vp.peers==nil)", "return:true", "peer.GetID",
     "assign:peerID:=peer.GetID()", "range:_,peers:=vp.peers{", "assign:_,ok:=peers[peerID]",
     "if:ok", "return:true", "}", "return:false"] := rfl

theorem c17_shape_router_Router_Start_c17 :
    Shapes.network_router_Router_Start_c17 =
   ["if:!r.Quiet", "defer:verifC10Point", "r.receiveServerIdentity",
     "assign:dst,err:=r.receiveServerIdentity(c)", "if:(err!=nil)",
     "if:!strings.Contains(err.Error(),\"\")", "c.Close", "assign:err:=c.Close()",
     "if:(err!=nil)", "return:", "if:!r.isPeerValid(dst)", "c.Close", "assign:err:=c.Close()",
     "if:(err!=nil)", "return:", "verifC10Point", "r.registerConnection",
     "assign:err:=r.registerConnection(dst,c)", "if:(err!=nil)", "c.Close",
     "assign:err:=c.Close()", "if:(err!=nil)", "return:", "verifC10Point",
     "r.launchHandleRoutine", "assign:err:=r.launchHandleRoutine(dst,c)", "if:(err!=nil)",
     "return:", "host.Listen", "assign:err:=r.host.Listen(func)", "if:(err!=nil)"] := rfl

theorem c17_shape_router_Router_registerConnection_c17 :
    Shapes.network_router_Router_registerConnection_c17 =
   ["r.Lock", "defer:r.Unlock", "if:r.isClosed", "return:xerrors.Errorf(\"\",ErrClosed)",
     "remote.GetID", "assign:_,okc:=r.connections[remote.GetID()]", "if:okc", "remote.GetID",
     "assign:r.connections[remote.GetID()]=append(r.connections[remote.GetID()],c)",
     "return:nil"] := rfl

theorem c17_shape_router_Router_handleConn_c17 :
    Shapes.network_router_Router_handleConn_c17 =
   ["defer{", "c.Close", "assign:err:=c.Close()", "if:(err!=nil)", "c.Rx", "c.Tx",
     "assign:rx,tx:=c.Rx(),c.Tx()", "traffic.updateRx", "traffic.updateTx", "wg.Done",
     "r.removeConnection", "verifC10Point", "}", "verifC10Point", "c.Remote",
     "assign:address:=c.Remote()", "for:{", "c.Receive", "assign:packet,err:=c.Receive()",
     "verifC10Point", "r.Lock", "assign:paused:=r.paused", "r.Unlock", "if:(paused!=nil)",
     "recv:paused", "return:", "if:r.Closed()",
     "return:", "if:(err!=nil)", "if:xerrors.Is(err,ErrTimeout)",
     "r.triggerConnectionErrorHandlers", "return:",
     "if:(xerrors.Is(err,ErrClosed)||xerrors.Is(err,ErrEOF))",
     "r.triggerConnectionErrorHandlers", "return:", "if:xerrors.Is(err,ErrUnknown)",
     "r.triggerConnectionErrorHandlers", "return:", "continue",
     "assign:packet.ServerIdentity=remote", "verifC10Point", "msgTraffic.updateRx", "r.Dispatch",
     "assign:err:=r.Dispatch(packet)", "if:(err!=nil)", "}"] := rfl

theorem c17_shape_Context_NewPeerSetID_c17 :
    Shapes.context_Context_NewPeerSetID_c17 =
   ["sha256.New", "assign:h:=sha256.New()", "h.Write", "h.Write",
     "return:network.NewPeerSetID(h.Sum(nil))"] := rfl

theorem c17_shape_router_Router_receiveServerIdentity_b7d :
    Shapes.network_router_Router_receiveServerIdentity_b7d =
   ["c.Receive", "assign:nm,err:=c.Receive()", "if:(err!=nil)",
     "return:nil,xerrors.Errorf(\"\",err)", "if:(nm.MsgType!=ServerIdentityType)",
     "return:nil,xerrors.Errorf(\"\",nm.MsgType.String())",
     "assign:dst:=nm.Msg.(ServerIdentity)", "assign:tcpConn,ok:=c.(TCPConn)", "if:ok",
     "assign:tlsConn,ok:=tcpConn.conn.(tls.Conn)", "if:ok", "tlsConn.ConnectionState",
     "assign:cs:=tlsConn.ConnectionState()", "if:(len(cs.PeerCertificates)==0)",
     "return:nil,xerrors.New(\"\")", "pubFromCN",
     "assign:pub,err:=pubFromCN(tcpConn.suite,cs.PeerCertificates[0].Subject.CommonName)",
     "if:(err!=nil)", "return:nil,xerrors.Errorf(\"\",err)", "if:!pub.Equal(dst.Public)",
     "return:nil,xerrors.New(\"\")", "else", "if:!r.UnauthOk", "return:dst,nil"] := rfl

end C17

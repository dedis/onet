import OnetVerif.Proofs.C17Table
import OnetVerif.Gen.C17
import OnetVerif.Proofs.GenRt
/-! Property C17 — the definitions regenerated from the Go source (`Gen/C17.lean`, written by `harness/cmd/go2lean`
on every check run from `network/router.go`): the field `peers` of `validPeers` (a Go map from `PeerSetID` to
`peerSet`, itself a map from `ServerIdentityID` to `struct{}`) and `validPeers.isValid`, `set`, `get`.  The translated
table is read as the model's `VP` (`none` = nil map = nobody restricted yet; a peer set is the list of its keys): by `vpOf`
(the entries a `range` visits, each set id once) for `isValid`, by `rawOf` (the association list as it is, an earlier
entry hiding a later one) for the look-ups of `set` and `get`.  `ServerIdentity.GetID` is the model's `Ident.getID`
(configured callee: the id of the *key*).  Nothing imports this file. -/
namespace C17

/-- a translated peer set read as the model's list of ids -/
def setOf (s : Gen.Rt.Map PeerId Unit) : List PeerId := (s.getD []).map (·.1)

/-- the translated table read as the model's: the entries a `range` visits (each set id once) -/
def vpOf (g : Gen.C17.validPeers) : VP := g.peers.map fun l => (Gen.Rt.Map.entries l).map fun e => (e.1, setOf e.2)

private theorem find_isSome (s : Gen.Rt.Map PeerId Unit) (k : PeerId) :
    (Gen.Rt.Map.find s k).isSome = (setOf s).contains k :=
  List.lookup_isSome ..

/-- **`validPeers.isValid` as translated is the model's `VP.isValid`**: everybody while the table is the nil map,
afterwards exactly the peers whose key's id is a member of one of the sets — the loop over the sets returns
`true` at the first set that has the id and `false` after the last one, so the order in which a Go map is
walked does not matter. -/
theorem c17_gen_isValid_eq (g : Gen.C17.validPeers) (p : Ident) :
    Gen.C17.validPeers_isValid g p = (vpOf g).isValid p := by
  obtain ⟨peers⟩ := g
  cases peers with
  | none => rfl
  | some l =>
    simp only [Gen.C17.validPeers_isValid, Gen.Rt.Map.isNil, Option.isNone_some, Bool.false_eq_true, if_false,
      VP.isValid, vpOf, Option.map_some, Gen.Rt.Map.vals, Option.getD_some]
    rw [Gen.Rt.rangeReturn_const _ (fun s => (Gen.Rt.Map.find s p.getID).isSome) true]
    simp only [List.any_map, Function.comp_def, find_isSome]
    cases (Gen.Rt.Map.entries l).any _ <;> rfl

/-- the translated table read entry by entry (an earlier entry hides a later one with the same set id, as `lookup` and
`Map.find` both see it) -/
def rawOf (m : Gen.Rt.Map SetId (Gen.Rt.Map PeerId Unit)) : VP := m.map fun l => l.map fun e => (e.1, setOf e.2)

private theorem fold_put (peers : List Ident) (acc : List (PeerId × Unit)) :
    List.foldl (fun (m : Gen.Rt.Map PeerId Unit) (p : Ident) => Gen.Rt.Map.put m p.getID ()) (some acc) peers =
      some ((peers.reverse.map fun p => (p.getID, ())) ++ acc) := by
  induction peers generalizing acc with
  | nil => rfl
  | cons p rest ih =>
    have step : Gen.Rt.Map.put (some acc) p.getID () = some ((p.getID, ()) :: acc) := rfl
    simp only [List.foldl_cons, step, ih, List.reverse_cons, List.map_append, List.map_cons, List.map_nil,
      List.append_assoc, List.singleton_append]

theorem validPeers_set_value (tbl : Gen.Rt.Map SetId (Gen.Rt.Map PeerId Unit)) (id : SetId) (peers : List Ident) :
    Gen.C17.validPeers_set ⟨tbl⟩ id peers =
      some ⟨some ((id, some (peers.reverse.map fun p => (p.getID, ()))) :: tbl.getD [])⟩ := by
  have hfold := fold_put peers []
  rw [List.append_nil] at hfold
  cases tbl <;> simp only [Gen.C17.validPeers_set, hfold] <;> rfl

/-- **`validPeers.set` as translated is the model's `VP.set`, as an update of a map from set ids to sets of peer
ids**: the call never panics (a nil table is made first); afterwards the set id finds a peer set whose members are
exactly the ids **of the keys** of the given identities (`GetID`, not the wire-supplied field), and every other set id
finds what it found before — entry by entry what `lookup` finds in `VP.set (rawOf …) id peers`. -/
theorem c17_gen_set_eq (g : Gen.C17.validPeers) (id : SetId) (peers : List Ident) :
    ∃ g', Gen.C17.validPeers_set g id peers = some g' ∧
      (∀ j, (j == id) = false →
        ((rawOf g'.peers).getD []).lookup j = ((VP.set (rawOf g.peers) id peers).getD []).lookup j) ∧
      ∃ s, ((rawOf g'.peers).getD []).lookup id = some s ∧
        ((VP.set (rawOf g.peers) id peers).getD []).lookup id = some (peers.map Ident.getID) ∧
        ∀ x, s.contains x = (peers.map Ident.getID).contains x := by
  obtain ⟨tbl⟩ := g
  have hraw : (rawOf tbl).getD [] = (tbl.getD []).map fun e => (e.1, setOf e.2) := by
    cases tbl <;> rfl
  refine ⟨_, validPeers_set_value tbl id peers, fun j hj => ?_, _, List.lookup_cons_self, ?_, fun x => ?_⟩
  · rw [lookup_set, if_neg (ne_of_beq_false hj), hraw]
    show List.lookup j ((id, _) :: _) = _
    rw [List.lookup_cons, hj]
  · rw [lookup_set, if_pos rfl]
  · simp only [setOf, Option.getD_some, List.map_map, List.map_reverse, List.contains_reverse, Function.comp_def]

/-! ### `validPeers.get`

The function returns the members of a set by ranging over a Go map (`peerList = append(peerList, peer)`): the order of
the result is unspecified.  The translation (`"map_order_canonical"`) walks the keys in the one order of
`Gen.Rt.Map.keys`; the theorem therefore speaks about the result as a *set without repetitions*.  `"nil_slices"`:
the nil slice (returned while the table is the nil map) is `none`, distinguishable from the empty slice. -/

private theorem entriesAux_keys (l : List (PeerId × Unit)) (seen : List PeerId) :
    ((Gen.Rt.Map.entriesAux l seen).map (·.1)).Nodup ∧
    ∀ x, x ∈ (Gen.Rt.Map.entriesAux l seen).map (·.1) ↔ (x ∈ l.map (·.1) ∧ x ∉ seen) := by
  induction l generalizing seen with
  | nil => exact ⟨List.nodup_nil, fun x => ⟨(fun h => nomatch h), fun h => nomatch h.1⟩⟩
  | cons e r ih =>
    obtain ⟨k, u⟩ := e
    rw [Gen.Rt.Map.entriesAux, List.map_cons]
    by_cases hk : seen.contains k = true
    · -- `k` was seen: the entry is skipped, and `k` is not among the new keys anyway
      rw [if_pos hk]
      have hk' : k ∈ seen := List.contains_iff_mem.mp hk
      refine ⟨(ih seen).1, fun x => ((ih seen).2 x).trans (and_congr_left fun hx => ?_)⟩
      exact ⟨List.mem_cons_of_mem _, fun h => (List.mem_cons.mp h).resolve_left fun e => hx (e ▸ hk')⟩
    · rw [if_neg hk]
      have hk' : k ∉ seen := fun h => hk (List.contains_iff_mem.mpr h)
      have ih' := ih (k :: seen)
      rw [List.map_cons, List.nodup_cons]
      refine ⟨⟨fun hmem => ((ih'.2 k).mp hmem).2 List.mem_cons_self, ih'.1⟩, fun x => ?_⟩
      rw [List.mem_cons, List.mem_cons, ih'.2 x, List.mem_cons, not_or]
      by_cases hx : x = k
      · subst hx; exact ⟨fun _ => ⟨.inl rfl, hk'⟩, fun _ => .inl rfl⟩
      · exact ⟨fun h => (h.resolve_left hx).imp .inr And.right, fun h => .inr ⟨h.1.resolve_left hx, hx, h.2⟩⟩

private theorem loop_append (ks acc : List PeerId) :
    Gen.Rt.loop (ρ := Option (List PeerId)) ks acc (fun peerList peer => Gen.Rt.Step.next (peerList ++ [peer])) =
      Sum.inr (acc ++ ks) := by
  induction ks generalizing acc with
  | nil => rw [Gen.Rt.loop, List.append_nil]
  | cons k r ih => exact (ih (acc ++ [k])).trans (congrArg Sum.inr (List.append_assoc ..))

/-- **`validPeers.get` as translated**: the nil slice exactly while the table is the nil map (as `VP.get`); otherwise a
list **without repetitions** whose members are exactly the members of the set the model's `VP.get` returns for that set
id (the empty list for an id never set) — the result of the Go function up to the order in which the map is walked. -/
theorem c17_gen_get_eq (g : Gen.C17.validPeers) (id : SetId) :
    ((Gen.C17.validPeers_get g id).isNone = (VP.get (rawOf g.peers) id).isNone) ∧
    ∀ r, Gen.C17.validPeers_get g id = some r →
      r.Nodup ∧ ∀ x, x ∈ r ↔ x ∈ (VP.get (rawOf g.peers) id).getD [] := by
  obtain ⟨tbl⟩ := g
  cases tbl with
  | none => exact ⟨rfl, fun r h => nomatch h⟩
  | some l =>
    -- the peer set found under `id`, as an association list (empty when there is none)
    have hget : Gen.C17.validPeers_get ⟨some l⟩ id =
        some ((Gen.Rt.Map.entriesAux (((l.lookup id).getD none).getD []) []).map (·.1)) := by
      simp only [Gen.C17.validPeers_get, loop_append]; rfl
    have hM : (VP.get (rawOf (some l)) id).getD [] = (((l.lookup id).getD none).getD []).map (·.1) := by
      show (((l.map fun e => (e.1, setOf e.2)).lookup id).getD []) = _
      rw [List.lookup_map_snd]
      cases List.lookup id l <;> rfl
    refine ⟨by rw [hget]; rfl, fun r hr => ?_⟩
    cases hget.symm.trans hr
    have hk := entriesAux_keys (((l.lookup id).getD none).getD []) []
    refine ⟨hk.1, fun x => ?_⟩
    rw [hM, hk.2 x]
    exact and_iff_left (List.not_mem_nil)

end C17

import OnetVerif.Proofs.C08
import OnetVerif.Gen.C08
/-! Property C08 — decisions regenerated from the Go source (`Gen/C08.lean`, written by `harness/cmd/go2lean` on every
check run from `network/tls.go`).  `NewTLSConn` dials a socket and `pubFromCN` calls into kyber; their **decisions** are
lifted out as predicates over the variables they read (`"extract"` in `meta/go2lean.json`): the condition of the
dialler's retry loop, the test that decides whether it waits before the next attempt, the test for an empty common
name, the nonce-size test of `certMaker.get`.  Nothing imports this file. -/
namespace C08

/-- the translator renders a Go condition as `if c then true else false` -/
theorem ite_true_false {b : Bool} : (if b then true else false) = b := by
  cases b <;> rfl

/-- the three conditions as read from the source -/
theorem c08_gen_conditions (i max : Int) (cn : List Nat) :
    Gen.C08.NewTLSConn_moreAttempts i max = decide (i ≤ max) ∧
    Gen.C08.NewTLSConn_waitsBeforeRetry i max = decide (i < max) ∧
    Gen.C08.pubFromCN_empty cn = decide (cn.length < 1) := by
  refine ⟨rfl, rfl, ?_⟩
  rw [Gen.C08.pubFromCN_empty, ite_true_false]
  exact decide_eq_decide.mpr Int.ofNat_lt

/-- **the model's retry loop is the translated one**: `for i := 1; i <= MaxRetryConnect; i++` makes attempt number
`j + 1` exactly when the translated loop condition holds for it — the attempts the model's `newTLSConn` looks at
(`attempts.take maxRetry`) are those and no others, and after the last one the loop does not wait again.
(Falsified by: `<` instead of `<=`, a loop that starts at 0, a retry bound read from elsewhere.) -/
theorem c08_gen_retry_loop (maxRetry : Nat) (attempts : List (Option (List Cert))) (j : Nat) :
    (attempts.take maxRetry)[j]? =
      (if Gen.C08.NewTLSConn_moreAttempts ((j : Int) + 1) (maxRetry : Int) then attempts[j]? else none) ∧
    Gen.C08.NewTLSConn_waitsBeforeRetry (maxRetry : Int) (maxRetry : Int) = false := by
  constructor
  · have : ((j : Int) + 1 ≤ maxRetry) ↔ j < maxRetry := Int.add_one_le_iff.trans Int.ofNat_lt
    simp only [List.getElem?_take, Gen.C08.NewTLSConn_moreAttempts, decide_eq_true_eq, this]
  · exact decide_eq_false (Int.lt_irrefl _)

/-- **the empty-name test of the byte-level model is the translated one**: `pubFromCN` answers "missing a type byte"
exactly for the names the translated test selects, under every group -/
theorem c08_gen_empty_name {P : Type} (g : NameBytes.Group P) (cn : List Nat) :
    (NameBytes.pubFromCN g cn = .error .empty) ↔ Gen.C08.pubFromCN_empty cn = true := by
  rw [(c08_gen_conditions 0 0 cn).2.2, NameBytes.pubFromCN_eq_empty_iff, decide_eq_true_eq, Nat.lt_one_iff,
    List.length_eq_zero_iff]

/-- **the nonce-size test** (`certMaker.get`, tls.go:127): the certificate maker refuses exactly the strings that are not
`nonceSize = 256 / 8 = 32` bytes long — the `Nonce.badSize` of the symbolic model (`certFor … .badSize = none`); what
`mkNonce` draws, a `[nonceSize]byte`, always passes.  (Falsified by: a test `<` instead of `!=`, another constant on one
of the two sides.) -/
theorem c08_gen_nonce_size (nonce : List Nat) :
    Gen.C08.nonceSize = 32 ∧ (Gen.C08.certMaker_get_badNonce nonce = true ↔ nonce.length ≠ 32) := by
  refine ⟨rfl, ?_⟩
  rw [Gen.C08.certMaker_get_badNonce, ite_true_false, bne_iff_ne]
  exact not_congr (Int.ofNat_inj (n := 32))
end C08

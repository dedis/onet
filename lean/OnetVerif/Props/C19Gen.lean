import OnetVerif.Model.C19Core
import OnetVerif.Model.C19Files
import OnetVerif.Gen.C19
import OnetVerif.Proofs.GenRt
import OnetVerif.Proofs.C19Files
/-! Property C19 — the definitions regenerated from the Go source (`Gen/C19.lean`, written by `harness/cmd/go2lean`
on every check run from `simul/monitor` and `simul/build.go`) equal the hand-written model (`Model/C19Core.lean`,
`Model/C19Files.lean`).  `Value.ofGen` and `Rule.ofGen` read the translated structs as the model's.  Nothing imports this file. -/
namespace C19
variable {α : Type} [Num α]

/-- the translated struct read as the model's (`name` has no counterpart: the model keys values by name) -/
def Value.ofGen (t : Gen.C19.Value α) : Value α :=
  { n := t.n.toNat, min := t.min, max := t.max, sum := t.sum, oldM := t.oldM, newM := t.newM,
    oldS := t.oldS, newS := t.newS, dev := t.dev, store := t.store }

/-- `Value.Store` as translated appends to the store, like the model's `put` -/
theorem c19_gen_Value_Store_eq (t : Gen.C19.Value α) (x : α) :
    Value.ofGen (Gen.C19.Value_Store t x) = (Value.ofGen t).put x := rfl

theorem natCast_beq_zero (k : Nat) : ((k : Int) == 0) = (k == 0) :=
  Bool.eq_iff_iff.mpr (by rw [beq_iff_eq, beq_iff_eq]; exact Int.natCast_inj (n := 0))

theorem natCast_beq_one (k : Nat) : ((k : Int) == 1) = (k == 1) :=
  Bool.eq_iff_iff.mpr (by rw [beq_iff_eq, beq_iff_eq]; exact Int.natCast_inj (n := 1))

theorem natCast_succ_sub_one (k : Nat) : ((k + 1 : Nat) : Int) - 1 = k := Int.add_sub_cancel (k : Int) 1

theorem natCast_not_neg (k : Nat) : ¬ (k : Int) < 0 := Int.not_lt.mpr (Int.natCast_nonneg k)

omit [Num α] in
/-- for the translated loop body, which updates the record under one `if` after the other; one pair of arguments per
field of the Go struct, in its order -/
theorem gen_ite_mk (c : Prop) [Decidable c] (a₁ b₁ : List Nat) (a₂ b₂ a₃ b₃ a₄ b₄ : α) (a₅ b₅ : Int)
    (a₆ b₆ a₇ b₇ a₈ b₈ a₉ b₉ a₁₀ b₁₀ : α) (a₁₁ b₁₁ : List α) :
    (if c then Gen.C19.Value.mk a₁ a₂ a₃ a₄ a₅ a₆ a₇ a₈ a₉ a₁₀ a₁₁ else ⟨b₁, b₂, b₃, b₄, b₅, b₆, b₇, b₈, b₉, b₁₀, b₁₁⟩) =
      ⟨if c then a₁ else b₁, if c then a₂ else b₂, if c then a₃ else b₃, if c then a₄ else b₄, if c then a₅ else b₅,
       if c then a₆ else b₆, if c then a₇ else b₇, if c then a₈ else b₈, if c then a₉ else b₉, if c then a₁₀ else b₁₀,
       if c then a₁₁ else b₁₁⟩ := by
  cases ‹Decidable c› <;> rfl

/-- **`Value.Collect` as translated computes the model's `collect`**: the reset, then for every stored value one
`step` (minimum, maximum, count, running mean and variance, deviation, sum) in the order of the source; the Go
counter `n` (an `int`, translated without wrap-around) stays non-negative, so it reads as the model's natural
number throughout. -/
theorem c19_gen_Value_Collect_eq (t : Gen.C19.Value α) :
    Value.ofGen (Gen.C19.Value_Collect t) = (Value.ofGen t).collect := by
  unfold Gen.C19.Value_Collect Value.collect
  refine (List.foldl_rel (g := Value.step) (r := fun g m => Value.ofGen g = m ∧ 0 ≤ g.n) ⟨rfl, Int.le_refl 0⟩ ?_).1
  rintro x - g m ⟨rfl, hn⟩
  obtain ⟨k, hk⟩ := Int.eq_ofNat_of_zero_le hn
  obtain ⟨name, mn, mx, sm, n, oM, nM, oS, nS, dv, st⟩ := g
  simp only at hk
  subst hk
  simp only [gen_ite_mk, ite_self, ← Int.natCast_add_one, natCast_succ_sub_one, natCast_beq_zero, natCast_beq_one,
    natCast_not_neg, if_false, Int.toNat_natCast]
  refine ⟨?_, Int.natCast_nonneg _⟩
  simp only [Value.ofGen, Value.step, zero, Int.toNat_natCast, Nat.add_sub_cancel]
  cases k + 1 == 1 <;> rfl

/-- the translated rule read as the model's -/
def Rule.ofGen (r : Gen.C19.bucketRule α) : Rule := { low := r.low, high := r.high }

/-- **`bucketRule.Match` as translated is the model's `Rule.matches`**: lower bound inclusive, upper bound exclusive -/
theorem c19_gen_bucketRule_Match_eq (r : Gen.C19.bucketRule α) (i : Int) :
    Gen.C19.bucketRule_Match r i = (Rule.ofGen r).matches i := rfl

/-- **`bucketRules.Match` as translated is the model's `rulesMatch`**: a negative host index matches nothing, any
other index matches when one of the rules does (the loop returns at the first rule that matches) -/
theorem c19_gen_bucketRules_Match_eq (rr : List (Gen.C19.bucketRule α)) (h : Int) :
    Gen.C19.bucketRules_Match rr h = rulesMatch (rr.map Rule.ofGen) h := by
  unfold Gen.C19.bucketRules_Match rulesMatch
  -- the loop answers whether any rule matches, and the translated `Match` of a rule is the model's
  rw [Gen.Rt.rangeReturn_const rr (Gen.C19.bucketRule_Match · h) true, List.any_map]
  simp only [decide_eq_true_eq, Function.comp_def, ← c19_gen_bucketRule_Match_eq]
  split
  · rfl
  · cases rr.any (Gen.C19.bucketRule_Match · h) <;> rfl

/-- the zero `Value` of the translation (`new(Value)`, `var t Value`) -/
def genZero : Gen.C19.Value α :=
  { name := [], min := Num.ofNat 0, max := Num.ofNat 0, sum := Num.ofNat 0, n := 0, oldM := Num.ofNat 0,
    newM := Num.ofNat 0, oldS := Num.ofNat 0, newS := Num.ofNat 0, dev := Num.ofNat 0, store := [] }

private theorem avg_fold (name : List Nat) (xs : List (Gen.C19.Value α)) (t : Gen.C19.Value α)
    (h : ∀ s ∈ xs, s.name = name) :
    Gen.Rt.foldReturn xs t (fun t s =>
      if (s.name != name) then Sum.inl (some (genZero : Gen.C19.Value α))
      else Sum.inr { t with store := t.store ++ s.store }) =
    Sum.inr { t with store := t.store ++ xs.flatMap (·.store) } := by
  induction xs generalizing t with
  | nil => simp [Gen.Rt.foldReturn]
  | cons x rest ih =>
    have hx : x.name = name := h x List.mem_cons_self
    have hne : (x.name != name) = false := by simp [hx]
    simp only [Gen.Rt.foldReturn, hne, Bool.false_eq_true, if_false]
    rw [ih _ (fun s hs => h s (List.mem_cons_of_mem _ hs))]
    simp [List.flatMap_cons, List.append_assoc]

/-- **`AverageValue` as translated computes the model's `averageValue`** on values of one name (what `AverageStats`
hands it: the values found under one key): it does not panic, and the result carries the stores of all arguments
joined in argument order and zero everywhere else (nothing is computed before the next `Collect`) -/
theorem c19_gen_AverageValue_eq (st : List (Gen.C19.Value α))
    (h : ∀ s ∈ st, ∀ s' ∈ st, s.name = s'.name) :
    (Gen.C19.AverageValue st).map Value.ofGen = some (averageValue (st.map Value.ofGen)) := by
  cases st with
  | nil => simp [Gen.C19.AverageValue, Gen.Rt.len, averageValue, Value.ofGen, Value.new, zero]
  | cons a rest =>
    have hlen : ¬ (Gen.Rt.len (a :: rest) < 1) := by simp [Gen.Rt.len]; omega
    have hall : ∀ s ∈ a :: rest, s.name = a.name := fun s hs => h s hs a List.mem_cons_self
    have hf := avg_fold a.name (a :: rest) (genZero : Gen.C19.Value α) hall
    unfold genZero at hf
    simp only [Gen.C19.AverageValue, hlen, decide_false, Bool.false_eq_true, if_false, Gen.Rt.idx, Int.toNat_zero,
      List.getElem?_cons_zero, Int.lt_irrefl, hf]
    simp [averageValue, Value.ofGen, Value.new, zero, List.flatMap_cons, List.map_cons, List.flatMap_map]

/-- arguments of different names: the zero value (after the log line), whatever was joined before -/
theorem c19_gen_AverageValue_mismatch (a b : Gen.C19.Value α) (hn : a.name ≠ b.name) :
    Gen.C19.AverageValue [a, b] = some genZero := by
  have h2 : (b.name != a.name) = true := by simp; exact fun e => hn e.symm
  simp [Gen.C19.AverageValue, Gen.Rt.len, Gen.Rt.idx, Gen.Rt.foldReturn, h2, genZero]

/-- `generateResultFileName` as translated is the model's `resultFileNameB` (which the driver's file names are made
with): the global result set's file carries no index, every other file its bucket index -/
theorem c19_gen_generateResultFileName_eq (name : List Nat) (index : Int) :
    Gen.C19.generateResultFileName (α := α) name index = resultFileNameB name index := by
  unfold Gen.C19.generateResultFileName resultFileNameB
  by_cases h : index = 0 <;> simp [h]

/-- `Value.HeaderFields` as translated: the name with the five suffixes, in the order `_min _max _avg _sum _dev` -/
theorem c19_gen_Value_HeaderFields_eq (t : Gen.C19.Value α) :
    Gen.C19.Value_HeaderFields t = headerFields t.name := by
  simp [Gen.C19.Value_HeaderFields, headerFields, strBytes]

/-- `Value.Values` as translated formats, in the same order, the five numbers the model's `Value.values` lists
(`Min Max Avg Sum Dev` read the fields `min max newM sum dev`): column i of the values line is the statistic the
header's column i names -/
theorem c19_gen_Value_Values_eq (t : Gen.C19.Value α) (fmtF : α → List Nat) :
    Gen.C19.Value_Values t fmtF = (Value.ofGen t).values.map fmtF := rfl

/-- **`getStartStop` as translated** (the flag variable `simRange` read as a parameter, `strconv.Atoi` as the pair
it returns) never panics — `strings.Split` returns at least one field — and computes the model's `getStartStop`,
the function `Model/C19Files.lean`'s `runTests` (and with it `c19_runtests_files`, `c19_runtests_header_once`)
decides with which runs are executed. -/
theorem c19_gen_getStartStop_eq (rcs : Int) (simRange : List Nat) :
    Gen.C19.getStartStop (α := α) rcs simRange = some (getStartStop simRange rcs) := by
  unfold Gen.C19.getStartStop getStartStop
  cases h : splitColon simRange with
  | nil => exact absurd h (splitColon_ne_nil _)
  | cons f0 rest =>
    simp only [Gen.Rt.idx, Gen.Rt.len]
    cases h0 : (atoiPair f0).2 with
    | true => simp [h0]
    | false =>
      cases rest with
      | nil => simp [h0]
      | cons f1 t =>
        have hl : (1 : Int) < (t.length : Int) + 1 + 1 := by omega
        cases h1 : (atoiPair f1).2 <;> simp [h0, h1, hl]

end C19

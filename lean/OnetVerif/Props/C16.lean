import OnetVerif.Model.C16
import OnetVerif.Proofs.C16
import OnetVerif.Proofs.C16Sim
import OnetVerif.Proofs.C16Dir
import OnetVerif.Proofs.C18Slices
import OnetVerif.Shapes
/-! Property C16 — service storage returns what was saved, per service, across restarts.

`Db` = bucket name → key → bytes is the bbolt file; `step` is one storage call of a service's
`Context`; `run` a history of calls by any number of services and of server restarts.  `Spec` is
"one map, one version cell and one family of named buckets per service" (`Proofs/C16.lean`).
A stored value is identified with its `network.Marshal` encoding (the codec round trip is an
assumption, see meta/C16.json).  bbolt's atomicity makes every concurrent execution one of these
sequential histories; that, and durability, are assumptions too. -/
namespace C16

/-- for two different service names neither of which is the other
plus `"version"` or plus `"_"…`, no bucket name the one can derive (main, version, any additional
bucket) is a bucket name the other can derive. -/
theorem c16_bucket_names_disjoint (a b : Bytes) (h : Indep a b) (n : Bytes) : ¬ (Owns a n ∧ Owns b n) :=
  fun ⟨ha, hb⟩ => names_disjoint h ha hb

/-- without the premise the names do collide (why the premise is there) -/
theorem c16_names_collide_without_premise :
    Owns [97] (versionName [97]) ∧ Owns ([97] ++ sVersion) (versionName [97]) ∧
    Owns [97] (extraName [97] [120]) ∧ Owns ([97] ++ [cUnderscore] ++ [120]) (extraName [97] [120]) :=
  ⟨Owns.version, Owns.main, Owns.extra _, Owns.main⟩

/-- the events of a history mention services of `S` only -/
def EvIn (S : List Bytes) : Ev → Prop
  | .call s _ => s ∈ S
  | .restart l => ∀ t ∈ l, t ∈ S

/-- every history of calls by services of a pairwise independent set `S` —
save, load, raw load, version, additional buckets, in any interleaving, with server restarts (with
any subset of `S` registered) in between — returns exactly the results the per-service
specification returns, and the database keeps representing the specification state. -/
theorem c16_refines_map (known : List Bytes) (S : List Bytes) (hS : PairwiseIndep S) (evs : List Ev)
    (hev : ∀ e ∈ evs, EvIn S e) (db : Db) (hr : ∀ t ∈ S, Ready db t) (σ : Spec)
    (ha : AgreeOn S (abs db) σ) :
    (run known db evs).2 = (specRun known σ evs).2 ∧
    AgreeOn S (abs (run known db evs).1) (specRun known σ evs).1 ∧
    ∀ t ∈ S, Ready (run known db evs).1 t := by
  induction evs generalizing db σ with
  | nil => exact ⟨rfl, ha, hr⟩
  | cons e evs ih =>
    have hrest : ∀ e ∈ evs, EvIn S e := fun e he => hev e (List.mem_cons_of_mem _ he)
    cases e with
    | call s op =>
      have hs : s ∈ S := hev _ List.mem_cons_self
      obtain ⟨h1, h2, h3⟩ := sim_step known hS db σ hs hr ha op
      obtain ⟨i1, i2, i3⟩ := ih hrest _ h3 _ h2
      dsimp only [run, specRun]
      exact ⟨by rw [h1, i1], i2, i3⟩
    | restart l =>
      have hl : ∀ t ∈ l, t ∈ S := hev _ List.mem_cons_self
      dsimp only [run, specRun]
      exact ih hrest _ (fun t ht => ready_startServer db l t (Or.inl (hr t ht)))
        _ ((sim_restart hS db l hl).trans ha)

theorem step_after_run (known : List Bytes) (S : List Bytes) (hS : PairwiseIndep S) (evs : List Ev)
    (hev : ∀ e ∈ evs, EvIn S e) (db : Db) (hr : ∀ t ∈ S, Ready db t) (s : Bytes) (hs : s ∈ S) (op : Op) :
    (step known (run known db evs).1 s op).2 = (specStep known (specRun known (abs db) evs).1 s op).2 := by
  obtain ⟨_, h2, h3⟩ := c16_refines_map known S hS evs hev db hr (abs db) (.refl S _)
  exact (step_own known _ _ s op (h3 s hs) (h2 s hs)).1

/-- **read your writes, across restarts**: after any history over `S`, a raw load of `k` by `s`
returns the value of the latest successful `Save` of `k` by the same service `s` — whatever the
other services saved under the same key, and however often the server was restarted — and if
there was none, what the data directory held for `(s, k)` at the beginning. -/
theorem c16_load_latest (known : List Bytes) (S : List Bytes) (hS : PairwiseIndep S) (evs : List Ev)
    (hev : ∀ e ∈ evs, EvIn S e) (db : Db) (hr : ∀ t ∈ S, Ready db t) (s k : Bytes) (hs : s ∈ S) :
    (step known (run known db evs).1 s (.loadRaw k)).2 =
      match lastSaved s k evs (content db (mainName s) k) with
      | none => .nothing
      | some raw => .val raw := by
  rw [step_after_run known S hS evs hev db hr s hs]
  dsimp only [specStep]
  rw [spec_main_run]
  rfl

/-- (one call) a key under which the service's bucket holds nothing
loads as `(nil, nil)` — `nothing`, not an error — with `Load` and with `LoadRaw`; (histories) on a
fresh data directory, after any history over `S` in which `s` never successfully saved `k`, the
load of `k` by `s` yields nothing, whatever the other services saved under `k`. -/
theorem c16_missing_is_nothing (known : List Bytes) :
    (∀ (db : Db) (s k : Bytes), Ready db s → content db (mainName s) k = none →
      step known db s (.load k) = (db, .nothing) ∧ step known db s (.loadRaw k) = (db, .nothing)) ∧
    (∀ (S : List Bytes), PairwiseIndep S → ∀ (evs : List Ev), (∀ e ∈ evs, EvIn S e) →
      ∀ (s k : Bytes), s ∈ S → lastSaved s k evs none = none →
      (step known (run known (startServer Db.empty S) evs).1 s (.loadRaw k)).2 = .nothing) := by
  constructor
  · intro db s k hr hc
    obtain ⟨b, hb⟩ := Option.isSome_iff_exists.mp hr.1
    have hk : b k = none := by simpa [content, hb] using hc
    have hg : getFrom db (mainName s) k = some none := by rw [getFrom_eq, hb, Option.map_some, hk]
    exact ⟨by simp only [step, hg], by simp only [step, hg]⟩
  · intro S hS evs hev s k hs hl
    rw [c16_load_latest known S hS evs hev _ (ready_startServer_self _ S) s k hs]
    have : content (startServer Db.empty S) (mainName s) k = none := by
      rw [content_startServer]; rfl
    rw [this, hl]

/-- the frame property: a call of service `a` leaves every bucket that an independent
service `b` can name exactly as it was — keys, version cell, additional buckets — and therefore
every call `b` makes afterwards returns what it would have returned without `a`'s call. -/
theorem c16_isolation (known : List Bytes) (a b : Bytes) (h : Indep a b) (db : Db) (op : Op) :
    (∀ n, Owns b n → (step known db a op).1 n = db n) ∧
    ∀ op', (step known (step known db a op).1 b op').2 = (step known db b op').2 := by
  have hf : ∀ n, Owns b n → (step known db a op).1 n = db n :=
    fun n hn => step_frame known db a op n (fun ha => names_disjoint h ha hn)
  exact ⟨hf, fun op' => step_local known _ _ b op' hf⟩

/-- the version a service saves is the version it loads, for every
version in the `int32` range; outside that range it loads `int32(v)` (the truncation is in the
code: the cell is four bytes). -/
theorem c16_version_roundtrip (known : List Bytes) (db : Db) (s : Bytes) (hr : Ready db s) (v : Int) :
    (step known (step known db s (.saveVersion v)).1 s .loadVersion).2 = .ver (toInt32 v) ∧
    (-2147483648 ≤ v → v < 2147483648 → toInt32 v = v) := by
  refine ⟨(step_own₂ known db s _ _ hr).trans ?_, fun h1 h2 => ?_⟩
  · -- the cell of the specification holds `encodeVersion v`, which is not empty
    obtain ⟨c, r, hcr⟩ : ∃ c r, encodeVersion v = c :: r := ⟨_, _, rfl⟩
    dsimp only [specStep]
    rw [if_pos rfl, hcr]
    dsimp only
    rw [← hcr, decode_encode_version]
  · exact (toInt32_eq v).trans (Int.bmod_eq_of_le h1 h2)

private theorem lastSaved_decodable (known : List Bytes) (s k : Bytes) (evs : List Ev) (acc : Option Bytes)
    (hdec : ∀ s' k' raw, Ev.call s' (.save k' raw) ∈ evs → decodable known raw = true)
    (h0 : ∀ raw, acc = some raw → decodable known raw = true) :
    ∀ raw, lastSaved s k evs acc = some raw → decodable known raw = true := by
  fun_induction lastSaved s k evs acc with
  | case1 acc => exact h0
  | case2 s' k' raw r acc _ ih =>
    exact ih (fun a b c hm => hdec a b c (List.mem_cons_of_mem _ hm))
      fun _ e => Option.some.inj e ▸ hdec s' k' raw List.mem_cons_self
  | case3 s' k' raw r acc _ ih => exact ih (fun a b c hm => hdec a b c (List.mem_cons_of_mem _ hm)) h0
  | case4 e r acc _ ih => exact ih (fun a b c hm => hdec a b c (List.mem_cons_of_mem _ hm)) h0

/-- `Load` (the decoding load) of `k` by `s` after any history over `S` returns
the value of the latest successful `Save` of `k` by `s` — never "nothing", never an error — as long as
what was saved are encodings of registered types (`network.Marshal` output: a registered 16-byte
type id followed by a body of *any* length, the empty body included); with no such save it returns
what the directory held, and nothing if it held nothing. -/
theorem c16_load_typed (known : List Bytes) (S : List Bytes) (hS : PairwiseIndep S) (evs : List Ev)
    (hev : ∀ e ∈ evs, EvIn S e) (db : Db) (hr : ∀ t ∈ S, Ready db t) (s k : Bytes) (hs : s ∈ S)
    (hdec : ∀ s' k' raw, Ev.call s' (.save k' raw) ∈ evs → decodable known raw = true)
    (h0 : ∀ raw, content db (mainName s) k = some raw → decodable known raw = true) :
    (step known (run known db evs).1 s (.load k)).2 =
      match lastSaved s k evs (content db (mainName s) k) with
      | none => .nothing
      | some raw => .val raw := by
  have hd := lastSaved_decodable known s k evs (content db (mainName s) k) hdec h0
  rw [step_after_run known S hS evs hev db hr s hs]
  dsimp only [specStep]
  rw [spec_main_run]
  dsimp only [abs]
  cases hl : lastSaved s k evs (content db (mainName s) k) with
  | none => rfl
  | some raw => exact if_pos (hd raw hl)

/-- an encoding that is a registered type id and nothing else (a value without fields, or with
empty lists only) is decodable: it loads as that value, not as "never saved" -/
theorem c16_empty_body_is_a_value (known : List Bytes) (t : Bytes) (ht : t ∈ known) (hl : t.length = 16)
    (db : Db) (s k : Bytes) (hr : Ready db s) (hk : validKey k) :
    (step known (step known db s (.save k t)).1 s (.load k)).2 = .val t := by
  have hd : decodable known t = true := by
    simp [decodable, hl, List.take_of_length_le (Nat.le_of_eq hl), ht]
  rw [step_own₂ known db s _ _ hr]
  dsimp only [specStep]
  rw [if_pos hk]
  dsimp only
  rw [if_pos ⟨rfl, rfl⟩]
  dsimp only
  rw [if_pos hd]

/-- the database file is named after the server's key alone; two keys give
the same (legacy) name only if they are the same key, and — hexadecimal notation being injective —
the names of two servers are apart as soon as their keys and the hashes of their keys are
(`h` = SHA-256 in the code: collision and fixed-point freedom on the keys in use is the premise). -/
theorem c16_dbfile_names (h : Bytes → Bytes) (pub q : Bytes) (hp : IsBytes pub) (hq : IsBytes q)
    (hhp : IsBytes (h pub)) (hhq : IsBytes (h q)) :
    (oldName pub = oldName q → pub = q) ∧
    (newName h pub = newName h q → h pub = h q) ∧
    (h pub ≠ pub → newName h pub ≠ oldName pub) ∧
    (h q ≠ h pub → q ≠ h pub → h q ≠ pub → q ≠ pub → Apart h pub q) :=
  ⟨fun e => dbName_inj hp hq e, fun e => dbName_inj hhp hhq e, self_apart h pub hp hhp,
   apart_of_hash h pub q hp hq hhp hhq⟩

/-- what a server finds when it is made on a directory (`newServiceManager`):
a file with the legacy name is taken over — it becomes the server's file, replacing one that has
the new name already, and the legacy name is gone; without one the server's own file is opened as it
is; without either a new database is created.  In all cases the contexts of the registered services
are made and nothing stored is touched. -/
theorem c16_first_start (h : Bytes → Bytes) (d : Dir) (pub : Bytes) (services : List Bytes)
    (hself : newName h pub ≠ oldName pub) :
    startOn h d pub services (oldName pub) = none ∧
    (∀ c, d (oldName pub) = some c →
      startOn h d pub services (newName h pub) = some (startServer c services)) ∧
    (∀ c, d (oldName pub) = none → d (newName h pub) = some c →
      startOn h d pub services (newName h pub) = some (startServer c services)) ∧
    (d (oldName pub) = none → d (newName h pub) = none →
      startOn h d pub services (newName h pub) = some (startServer Db.empty services)) ∧
    ∀ n k, content ((startOn h d pub services (newName h pub)).getD Db.empty) n k = content (initialDb h d pub) n k := by
  obtain ⟨f1, f2⟩ := startOn_file h d pub services hself
  refine ⟨f2, ?_, ?_, ?_, ?_⟩
  · intro c hc; rw [f1, initialDb_old hc]
  · intro c ho hc; rw [f1, initialDb_new ho, hc]; rfl
  · intro ho hc; rw [f1, initialDb_new ho, hc]; rfl
  · intro n k; rw [f1]; exact content_startServer _ _ _ _

/-- from its first start on, everything the server with key `pub` does on a
data directory — calls of its services, being closed (keeping its file) and started again any number
of times with any services, while servers with other keys are started on, use and are closed on the
same directory — returns exactly what the database history `proj pub` returns on the database the
server found at its first start; its file holds the database after that history; and no legacy file
re-appears.  (This is where "a restart leaves the contents alone", which `run` builds in, is proved
from the file operations of the code.) -/
theorem c16_dir_refines_db (h : Bytes → Bytes) (known : List Bytes) (pub : Bytes)
    (hself : newName h pub ≠ oldName pub) (d : Dir) (srv : Server) (hsrv : srv.pub = pub) (services : List Bytes)
    (rest : List DEv) (hok : ∀ e ∈ rest, Fits h pub e) :
    resultsOf pub (drun h known d (.start srv services :: rest)).2 =
      (run known (initialDb h d pub) (.restart services :: proj pub rest)).2 ∧
    (drun h known d (.start srv services :: rest)).1 (newName h pub) =
      some (run known (initialDb h d pub) (.restart services :: proj pub rest)).1 ∧
    (drun h known d (.start srv services :: rest)).1 (oldName pub) = none := by
  obtain ⟨f1, f2⟩ := startOn_file h d pub services hself
  dsimp only [drun, run]
  rw [hsrv]
  exact dir_sim h known pub hself rest hok _ _ f1 f2

/-- a value a service saved is what a raw load returns later — also
after the server was closed and started again on the same data directory, any number of times, with
other servers using the directory in between — until the same service overwrites it; a key never
saved returns what the server found in the directory at its first start (the values a file with the
legacy name held, if there was one; nothing on a fresh directory). -/
theorem c16_restart_same_directory (h : Bytes → Bytes) (known : List Bytes) (S : List Bytes)
    (hS : PairwiseIndep S) (pub : Bytes) (hself : newName h pub ≠ oldName pub) (d : Dir) (srv : Server)
    (hsrv : srv.pub = pub) (rest : List DEv) (hok : ∀ e ∈ rest, Fits h pub e)
    (hev : ∀ e ∈ proj pub rest, EvIn S e) (s k : Bytes) (hs : s ∈ S) :
    ∃ db', (drun h known d (.start srv S :: rest)).1 (newName h pub) = some db' ∧
      (step known db' s (.loadRaw k)).2 =
        match lastSaved s k (proj pub rest) (content (initialDb h d pub) (mainName s) k) with
        | none => .nothing
        | some raw => .val raw := by
  obtain ⟨_, g2, _⟩ := c16_dir_refines_db h known pub hself d srv hsrv S rest hok
  refine ⟨_, g2, ?_⟩
  dsimp only [run]
  rw [c16_load_latest known S hS (proj pub rest) hev _ (ready_startServer_self _ S) s k hs, content_startServer]

/-- a directory event of the server with key `pub` that is not a close: a start (as a regular or as a
temporary-directory server) or a storage call -/
def OwnNoClose (pub : Bytes) : DEv → Prop
  | .start srv _ => srv.pub = pub
  | .call p _ _ => p = pub
  | .close _ => False

/-- **unclean stops**: a server that is never closed — the process dies and a new one is started on the same
directory, any number of times, at any point of the history, as a regular or as a temporary-directory server
(whose `closeDatabase` would have deleted the file) — finds every value a service saved before: a raw load
returns the latest save of the same service under that key.  Nothing is kept back until `Close`: every call
has reached the file when it returns (`db.Update`). -/
theorem c16_unclean_stop_keeps (h : Bytes → Bytes) (known : List Bytes) (S : List Bytes)
    (hS : PairwiseIndep S) (pub : Bytes) (hself : newName h pub ≠ oldName pub) (d : Dir) (srv : Server)
    (hsrv : srv.pub = pub) (rest : List DEv) (hown : ∀ e ∈ rest, OwnNoClose pub e)
    (hev : ∀ e ∈ proj pub rest, EvIn S e) (s k : Bytes) (hs : s ∈ S) :
    ∃ db', (drun h known d (.start srv S :: rest)).1 (newName h pub) = some db' ∧
      (step known db' s (.loadRaw k)).2 =
        match lastSaved s k (proj pub rest) (content (initialDb h d pub) (mainName s) k) with
        | none => .nothing
        | some raw => .val raw := by
  refine c16_restart_same_directory h known S hS pub hself d srv hsrv rest (fun e he => ?_) hev s k hs
  have := hown e he
  cases e with
  | start sv l => exact .inl this
  | call p sv op => exact .inl this
  | close sv => exact this.elim

/-- on a fresh directory: nothing but what the service itself saved -/
theorem c16_fresh_directory (h : Bytes → Bytes) (pub : Bytes) (n k : Bytes) :
    content (initialDb h Dir.empty pub) n k = none := rfl

/-- (so that nobody reads more into the theorems above than they say) a
server made for a temporary directory (`newServer` with a path: the test helpers of local.go)
removes its file when it is closed; started again on the same directory it finds a new, empty
database.  The restart clause of the property is about servers made without a path. -/
theorem c16_tmp_dir_forgets (h : Bytes → Bytes) (d : Dir) (pub : Bytes) (services : List Bytes)
    (hself : newName h pub ≠ oldName pub) (hold : d (oldName pub) = none) :
    closeOn h d { pub := pub, delDb := true } (newName h pub) = none ∧
    startOn h (closeOn h d { pub := pub, delDb := true }) pub services (newName h pub) =
      some (startServer Db.empty services) := by
  have hc : closeOn h d { pub := pub, delDb := true } (newName h pub) = none := setFile_same d _ none
  refine ⟨hc, ?_⟩
  have ho : closeOn h d { pub := pub, delDb := true } (oldName pub) = none := by
    rw [closeOn_other _ _ _ _ hself.symm]; exact hold
  exact (c16_first_start h _ pub services hself).2.2.2.1 ho hc

/-- a server that keeps its file: `closeOn` changes nothing at all -/
theorem c16_close_keeps (h : Bytes → Bytes) (d : Dir) (pub : Bytes) :
    closeOn h d { pub := pub, delDb := false } = d := rfl

/-- `"c16a"`, `"c16b"`, `"c16svc"` -/
example : PairwiseIndep [[99, 49, 54, 97], [99, 49, 54, 98], [99, 49, 54, 115, 118, 99]] :=
  pairwiseIndep_of_not_prefix (by decide)

example : ∀ t ∈ [[99, 49, 54, 97], [99, 49, 54, 98]],
    Ready (startServer Db.empty [[99, 49, 54, 97], [99, 49, 54, 98]]) t :=
  ready_startServer_self _ _

example : lastSaved [1] [2] [.call [1] (.save [2] [7]), .restart [[1]], .call [3] (.save [2] [8])] none = some [7] := by
  decide

example : toInt32 5 = 5 ∧ toInt32 2147483648 = -2147483648 ∧ toInt32 (4294967296 + 5) = 5 := by decide

theorem apart_sample : Apart (fun b => 0 :: b) [1, 2] [3, 4] :=
  apart_of_hash _ _ _ (by decide) (by decide) (by decide) (by decide) (by decide) (by decide) (by decide) (by decide)

/-- a hash under which two keys and their hashes are all different: the premises of
`c16_dbfile_names` / `Fits` can be met (in the code the hash is SHA-256) -/
example : Apart (fun b => 0 :: b) [1, 2] [3, 4] ∧ newName (fun b => 0 :: b) [1, 2] ≠ oldName [1, 2] :=
  ⟨apart_sample, self_apart _ _ (by decide) (by decide) (by decide)⟩

/-- a directory history the restart theorem speaks about: start, save, close, another server uses the
directory, start again -/
example : ∀ e ∈ [DEv.call [1, 2] [97] (.save [107] [7]), .close { pub := [1, 2], delDb := false },
      .start { pub := [3, 4], delDb := true } [[97]], .call [3, 4] [97] (.save [107] [8]),
      .close { pub := [3, 4], delDb := true }, .start { pub := [1, 2], delDb := false } [[97]]],
    Fits (fun b => 0 :: b) [1, 2] e := by
  intro e he
  simp only [List.mem_cons, List.not_mem_nil, or_false] at he
  rcases he with rfl | rfl | rfl | rfl | rfl | rfl
  · exact Or.inl rfl
  · exact Or.inl ⟨rfl, rfl⟩
  · exact Or.inr apart_sample
  · exact Or.inr apart_sample
  · exact Or.inr apart_sample
  · exact Or.inl rfl

/-- a type id alone is a decodable encoding -/
example : decodable [List.replicate 16 7] (List.replicate 16 7) = true := by decide

/-! ### the bucket name `GetAdditionalBucket` hands out is the service's to keep

Names are values in the model above.  In the code they are byte slices, and a service keeps the name it was given
in order to open the bucket later.  With the slices-over-arrays model of `Model/C18Slices.lean` (bytes as `Nat`):
`GetAdditionalBucket` (context.go:292-296) copies `c.bucketName` into a fresh array (`make` + `copy`) and appends `_` and
the caller's name to the **copy**. -/

open C18 in
/-- the name construction of `GetAdditionalBucket` -/
def addbName (h : Sl.Heap Nat) (bucketName : Sl.Slice) (name : List Nat) : Sl.Heap Nat × Sl.Slice :=
  name.foldl (fun st b => Sl.push st.1 st.2 b 0) (Sl.push (Sl.alloc h (Sl.read h bucketName) 0 0).1 (Sl.alloc h (Sl.read h bucketName) 0 0).2 95 0)

open C18 in
/-- without the copy (seeded change C16r2-A): `append(append(c.bucketName, '_'), name...)` -/
def addbNameShared (h : Sl.Heap Nat) (bucketName : Sl.Slice) (name : List Nat) : Sl.Heap Nat × Sl.Slice :=
  name.foldl (fun st b => Sl.push st.1 st.2 b 0) (Sl.push h bucketName 95 0)

open C18 in
theorem pushes_below (n : Nat) (name : List Nat) :
    ∀ (h : Sl.Heap Nat) (s : Sl.Slice), n ≤ h.length → n ≤ s.arr →
      Sl.Below n h (name.foldl (fun st b => Sl.push st.1 st.2 b 0) (h, s)).1 ∧
      n ≤ (name.foldl (fun st b => Sl.push st.1 st.2 b 0) (h, s)).2.arr := by
  induction name with
  | nil => intro h s _ hs; exact ⟨Sl.Below.refl _ _, hs⟩
  | cons b name ih =>
    intro h s hn hs
    have hp := Sl.push_below n h s b 0 hn hs
    have := ih (Sl.push h s b 0).1 (Sl.push h s b 0).2 (Nat.le_trans hn hp.1.1) hp.2
    exact ⟨hp.1.trans this.1, this.2⟩

open C18 in
/-- **every call of `GetAdditionalBucket` leaves all existing byte arrays alone and returns a name in an array of
its own**: `c.bucketName`, the names returned by earlier calls (of this or any other service) and whatever else a
service holds read the same afterwards — for every service name, every bucket name, any capacity behind
`c.bucketName`. -/
theorem c16_addb_name_fresh (h : Sl.Heap Nat) (bucketName : Sl.Slice) (name : List Nat) :
    Sl.Below h.length h (addbName h bucketName name).1 ∧ h.length ≤ (addbName h bucketName name).2.arr ∧
    ∀ s : Sl.Slice, s.arr < h.length → Sl.read (addbName h bucketName name).1 s = Sl.read h s := by
  have ha := Sl.alloc_below h (Sl.read h bucketName) 0 0
  have hp := Sl.push_below h.length (Sl.alloc h (Sl.read h bucketName) 0 0).1 (Sl.alloc h (Sl.read h bucketName) 0 0).2 95 0
    ha.1.1 (by rw [ha.2]; exact Nat.le_refl _)
  have hf := pushes_below h.length name _ _ (Nat.le_trans ha.1.1 hp.1.1) hp.2
  have hb : Sl.Below h.length h (addbName h bucketName name).1 := (ha.1.trans hp.1).trans hf.1
  exact ⟨hb, hf.2, fun s hs => Sl.read_below hb s hs⟩

open C18 in
/-- the witness (what seeded change C16r2-A did): a 4-byte service name in an array of 8 cells; the name returned for
bucket `x` reads `svc_k…` after the same service asked for bucket `k` when the append goes onto `c.bucketName` itself —
and stays `svc_x` with the copy; both constructions return the right bytes at the time of the call. -/
theorem c16_addb_shared_name_witness :
    let h0 : Sl.Heap Nat := [[99, 49, 54, 97, 0, 0, 0, 0]]
    let bn : Sl.Slice := { arr := 0, off := 0, len := 4, cap := 8 }
    (let a := addbNameShared h0 bn [120]; let b := addbNameShared a.1 bn [107]
     Sl.read a.1 a.2 = [99, 49, 54, 97, 95, 120] ∧ Sl.read b.1 a.2 = [99, 49, 54, 97, 95, 107]) ∧
    (let a := addbName h0 bn [120]; let b := addbName a.1 bn [107]
     Sl.read a.1 a.2 = [99, 49, 54, 97, 95, 120] ∧ Sl.read b.1 a.2 = [99, 49, 54, 97, 95, 120] ∧
     Sl.read b.1 b.2 = [99, 49, 54, 97, 95, 107] ∧ Sl.read b.1 bn = [99, 49, 54, 97]) := by
  decide

/-! ### the code regions the model stands for
Regenerated from /repo's source on every run (`harness/cmd/astfacts` → `OnetVerif/Shapes.lean`): the
calls that matter for synchronisation and data flow, the lock regions and (for decision logic) the
conditions, in source order.  A re-ordering, a dropped call or a changed condition breaks these
obligations even when no sampled input or schedule shows a difference; the check then searches for
a failing input. -/
theorem c16_shape_Context_Save :
    Shapes.context_Context_Save =
   ["network.Marshal", "tx.Bucket", "b.Put", "db.Update"] := rfl

theorem c16_shape_Context_Load :
    Shapes.context_Context_Load =
   ["tx.Bucket", "Bucket().Get", "copy", "db.View", "network.Unmarshal"] := rfl

theorem c16_shape_Context_LoadRaw :
    Shapes.context_Context_LoadRaw =
   ["tx.Bucket", "Bucket().Get", "copy", "db.View"] := rfl

theorem c16_shape_Context_LoadVersion :
    Shapes.context_Context_LoadVersion =
   ["tx.Bucket", "Bucket().Get", "copy", "db.View", "bytes.NewReader", "binary.Read"] := rfl

theorem c16_shape_Context_SaveVersion :
    Shapes.context_Context_SaveVersion =
   ["bytes.NewBuffer", "int32", "binary.Write", "tx.Bucket", "buf.Bytes", "b.Put", "db.Update"] := rfl

theorem c16_shape_Context_GetAdditionalBucket :
    Shapes.context_Context_GetAdditionalBucket =
   ["copy", "byte", "tx.CreateBucketIfNotExists", "db.Update"] := rfl

theorem c16_shape_newServer :
    Shapes.server_newServer =
   ["if:(dbPath==\"\")", "dbPathFromEnv", "else", "newStatusReporterStruct",
     "newProtocolStorage", "NewOverlay", "NewWebSocket", "newServiceManager",
     "statusReporterStruct.RegisterStatusReporter", "return:c"] := rfl

theorem c16_shape_newContext :
    Shapes.context_newContext =
   ["ServiceFactory.Name", "ServiceFactory.Name", "tx.CreateBucketIfNotExists",
     "tx.CreateBucketIfNotExists", "db.Update"] := rfl

theorem c16_shape_dbPathFromEnv :
    Shapes.server_dbPathFromEnv =
   ["os.Getenv", "if:(p==\"\")", "cfgpath.GetDataPath", "return:p"] := rfl

theorem c16_shape_newServiceManager :
    Shapes.service_newServiceManager =
   ["network.NewRoutineDispatcher", "s.updateDbFileName", "s.dbFileName", "openDb",
     "srv.ProtocolRegister", "ServiceFactory.registeredServiceIDs", "ServiceFactory.Name",
     "newContext", "ServiceFactory.start", "servicesMutex.Lock", "servicesMutex.Unlock",
     "WebSocket.registerService", "statusReporterStruct.RegisterStatusReporter"] := rfl

theorem c16_shape_openDb :
    Shapes.service_openDb =
   ["bbolt.Open"] := rfl

theorem c16_shape_serviceManager_dbFileNameOld :
    Shapes.service_serviceManager_dbFileNameOld =
   ["Public.MarshalBinary", "path.Join"] := rfl

theorem c16_shape_serviceManager_dbFileName :
    Shapes.service_serviceManager_dbFileName =
   ["Public.MarshalBinary", "sha256.New", "h.Write", "path.Join"] := rfl

theorem c16_shape_serviceManager_updateDbFileName :
    Shapes.service_serviceManager_updateDbFileName =
   ["s.dbFileNameOld", "os.Stat", "if:(err==nil)", "s.dbFileNameOld", "s.dbFileName",
     "os.Rename", "if:(err!=nil)"] := rfl

theorem c16_shape_serviceManager_closeDatabase :
    Shapes.service_serviceManager_closeDatabase =
   ["if:(s.db!=nil)", "db.Close", "if:(err!=nil)", "if:s.delDb", "s.dbFileName", "os.Remove",
     "if:(err!=nil)", "return:xerrors.Errorf(\"\",err)", "return:nil"] := rfl

theorem c16_shape_newContext_c16 :
    Shapes.context_newContext_c16 =
   ["ServiceFactory.Name", "ServiceFactory.Name",
     "assign:ctx:=&Context{overlay:o,server:c,serviceID:servID,manager:manager,bucketName:conv(ServiceFactory.Name(servID)),bucketVersionName:conv((ServiceFactory.Name(servID)+\"\"))}",
     "tx.CreateBucketIfNotExists", "assign:_,err:=tx.CreateBucketIfNotExists(ctx.bucketName)",
     "if:(err!=nil)", "return:xerrors.Errorf(\"\",err)", "tx.CreateBucketIfNotExists",
     "assign:_,err=tx.CreateBucketIfNotExists(ctx.bucketVersionName)", "if:(err!=nil)",
     "return:xerrors.Errorf(\"\",err)", "return:nil", "db.Update",
     "assign:err:=manager.db.Update(func)", "if:(err!=nil)", "return:ctx"] := rfl

theorem c16_shape_Context_Save_c16 :
    Shapes.context_Context_Save_c16 =
   ["network.Marshal", "assign:buf,err:=network.Marshal(data)", "if:(err!=nil)",
     "return:xerrors.Errorf(\"\",err)", "tx.Bucket", "assign:b:=tx.Bucket(c.bucketName)",
     "return:b.Put(key,buf)", "db.Update", "assign:err=c.manager.db.Update(func)",
     "if:(err!=nil)", "return:xerrors.Errorf(\"\",err)", "return:nil"] := rfl

theorem c16_shape_Context_Load_c16 :
    Shapes.context_Context_Load_c16 =
   ["tx.Bucket", "Bucket().Get", "assign:v:=tx.Bucket().Get(key)", "if:(v==nil)", "return:nil",
     "assign:buf=make(conv,len(v))", "copy", "return:nil", "db.View",
     "assign:err:=c.manager.db.View(func)", "if:(err!=nil)",
     "return:nil,xerrors.Errorf(\"\",err)", "if:(buf==nil)", "return:nil,nil",
     "network.Unmarshal", "assign:_,ret,err:=network.Unmarshal(buf,c.server.suite)",
     "if:(err!=nil)", "return:nil,xerrors.Errorf(\"\")", "return:ret,nil"] := rfl

theorem c16_shape_Context_LoadRaw_c16 :
    Shapes.context_Context_LoadRaw_c16 =
   ["tx.Bucket", "Bucket().Get", "assign:v:=tx.Bucket().Get(key)", "if:(v==nil)", "return:nil",
     "assign:buf=make(conv,len(v))", "copy", "return:nil", "db.View",
     "assign:err:=c.manager.db.View(func)", "if:(err!=nil)",
     "return:nil,xerrors.Errorf(\"\",err)", "return:buf,nil"] := rfl

theorem c16_shape_Context_LoadVersion_c16 :
    Shapes.context_Context_LoadVersion_c16 =
   ["tx.Bucket", "Bucket().Get", "assign:v:=tx.Bucket().Get(dbVersion)", "if:(v==nil)",
     "return:nil", "assign:buf=make(conv,len(v))", "copy", "return:nil", "db.View",
     "assign:err:=c.manager.db.View(func)", "if:(err!=nil)",
     "return:-1,xerrors.Errorf(\"\",err)", "if:(len(buf)==0)", "return:0,nil", "bytes.NewReader",
     "binary.Read", "assign:err=binary.Read(bytes.NewReader(buf),binary.LittleEndian,&version)",
     "if:(err!=nil)", "return:-1,xerrors.Errorf(\"\",err)", "return:int(version),nil"] := rfl

theorem c16_shape_Context_SaveVersion_c16 :
    Shapes.context_Context_SaveVersion_c16 =
   ["bytes.NewBuffer", "assign:buf:=bytes.NewBuffer(nil)", "int32", "binary.Write",
     "assign:err:=binary.Write(buf,binary.LittleEndian,int32(version))", "if:(err!=nil)",
     "return:xerrors.Errorf(\"\",err)", "tx.Bucket", "assign:b:=tx.Bucket(c.bucketVersionName)",
     "return:b.Put(dbVersion,buf.Bytes())", "db.Update", "assign:err=c.manager.db.Update(func)",
     "if:(err!=nil)", "return:xerrors.Errorf(\"\",err)", "return:nil"] := rfl

theorem c16_shape_Context_GetAdditionalBucket_c16 :
    Shapes.context_Context_GetAdditionalBucket_c16 =
   ["assign:bucketName:=make(conv,len(c.bucketName))", "copy", "byte",
     "assign:fullName:=append(append(bucketName,byte('_')),name)", "tx.CreateBucketIfNotExists",
     "assign:_,err:=tx.CreateBucketIfNotExists(fullName)", "if:(err!=nil)",
     "return:xerrors.Errorf(\"\",err)", "return:nil", "db.Update",
     "assign:err:=c.manager.db.Update(func)", "if:(err!=nil)", "return:c.manager.db,fullName"] := rfl

theorem c16_shape_serviceManager_dbFileNameOld_c16 :
    Shapes.service_serviceManager_dbFileNameOld_c16 =
   ["Public.MarshalBinary", "assign:pub,_:=s.server.ServerIdentity.Public.MarshalBinary()",
     "return:path.Join(s.dbPath,fmt.Sprintf(\"\",pub))"] := rfl

theorem c16_shape_serviceManager_dbFileName_c16 :
    Shapes.service_serviceManager_dbFileName_c16 =
   ["Public.MarshalBinary", "assign:pub,_:=s.server.ServerIdentity.Public.MarshalBinary()",
     "sha256.New", "assign:h:=sha256.New()", "h.Write",
     "return:path.Join(s.dbPath,fmt.Sprintf(\"\",h.Sum(nil)))"] := rfl

theorem c16_shape_serviceManager_updateDbFileName_c16 :
    Shapes.service_serviceManager_updateDbFileName_c16 =
   ["s.dbFileNameOld", "os.Stat", "assign:_,err:=os.Stat(s.dbFileNameOld())", "if:(err==nil)",
     "s.dbFileNameOld", "s.dbFileName", "os.Rename",
     "assign:err:=os.Rename(s.dbFileNameOld(),s.dbFileName())", "if:(err!=nil)"] := rfl

theorem c16_shape_serviceManager_closeDatabase_c16 :
    Shapes.service_serviceManager_closeDatabase_c16 =
   ["if:(s.db!=nil)", "db.Close", "assign:err:=s.db.Close()", "if:(err!=nil)", "if:s.delDb",
     "s.dbFileName", "os.Remove", "assign:err:=os.Remove(s.dbFileName())", "if:(err!=nil)",
     "return:xerrors.Errorf(\"\",err)", "return:nil"] := rfl


end C16

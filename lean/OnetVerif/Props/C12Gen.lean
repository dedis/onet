import OnetVerif.Model.C12
import OnetVerif.Gen.C12
import OnetVerif.Gen.C12Nary
import OnetVerif.Gen.C12Uses
import OnetVerif.Proofs.C12NaryGen
import OnetVerif.Props.C12
import OnetVerif.Props.C12Flat
import OnetVerif.Props.C12BigDec
import OnetVerif.Props.C12BigSrc
/-! Property C12 — the functions of `tree.go` regenerated from the Go source by `harness/cmd/go2lean` on every check run,
tied to the model.  The wrappers take `GenerateNaryTreeWithRoot` as a **parameter** (`genWithRoot`, `meta/go2lean.json`):
what they add holds for every such function and is then instantiated with the model's `genNaryKeys`.  The obligations
`c12_gen_big_*` are instances of the lemmas of `Props/C12BigDec.lean` and `Props/C12BigSrc.lean`.  Nothing imports this file. -/
namespace C12

/-- the wrappers for an arbitrary `GenerateNaryTreeWithRoot`: the first server is the root (`nil`), a binary tree
has `N = 2`, a star has `N = len(ro.List) - 1` -/
theorem c12_gen_wrappers (g : Gen.C12.Roster → Int → Option Nat → Outcome Nodes) (ro : Gen.C12.Roster) (N : Int) :
    Gen.C12.Roster_GenerateNaryTree ro N g = g ro N none ∧
    Gen.C12.Roster_GenerateBinaryTree ro g = g ro 2 none ∧
    Gen.C12.Roster_GenerateStar ro g = g ro (Gen.Rt.len ro.List - 1) none := ⟨rfl, rfl, rfl⟩

/-- a roster of the translation over these keys (no nil entry) -/
def rosterOfKeys (keys : List Nat) : Gen.C12.Roster := { List := keys.map some }

/-- the model's `GenerateNaryTreeWithRoot` as the parameter: the keys of the roster, `N` as a natural number -/
def modelGen (ro : Gen.C12.Roster) (N : Int) (root : Option Nat) : Outcome Nodes :=
  genNaryKeys N.toNat (ro.List.filterMap id) root

private theorem modelGen_none (keys : List Nat) (hne : keys ≠ []) (N : Int) :
    modelGen (rosterOfKeys keys) N none = genNaryFirst N.toNat keys.length := by
  have hkeys : (rosterOfKeys keys).List.filterMap id = keys := by simp [rosterOfKeys, List.filterMap_map]
  rw [modelGen, hkeys, genNaryKeys, if_neg hne]
  rfl

/-- **the translated wrappers over the model's generator are the model's `genNaryFirst`, `genBinary`, `genStar`** on a
roster of `n ≥ 1` servers -/
theorem c12_gen_wrappers_model (keys : List Nat) (hne : keys ≠ []) (N : Nat) :
    Gen.C12.Roster_GenerateNaryTree (rosterOfKeys keys) N modelGen = genNaryFirst N keys.length ∧
    Gen.C12.Roster_GenerateBinaryTree (rosterOfKeys keys) modelGen = genBinary keys.length ∧
    Gen.C12.Roster_GenerateStar (rosterOfKeys keys) modelGen = genStar keys.length := by
  obtain ⟨h1, h2, h3⟩ := c12_gen_wrappers modelGen (rosterOfKeys keys) N
  refine ⟨?_, ?_, ?_⟩
  · rw [h1, modelGen_none keys hne]; rfl
  · rw [h2, modelGen_none keys hne]; rfl
  · rw [h3, modelGen_none keys hne, Gen.Rt.len, rosterOfKeys, List.length_map, Int.ofNat_eq_natCast,
      show ((keys.length : Int) - 1).toNat = keys.length - 1 from Int.toNat_sub keys.length 1]
    rfl

/-- on the empty roster every wrapper is the index panic of `ro.List[0]` -/
theorem c12_gen_wrappers_empty :
    Gen.C12.Roster_GenerateBinaryTree (rosterOfKeys []) modelGen = .panic ∧
    Gen.C12.Roster_GenerateStar (rosterOfKeys []) modelGen = .panic := ⟨rfl, rfl⟩

/-! ### `TreeNode.IsRoot`, `TreeNode.IsLeaf`, `Tree.IsNary` on the pointer tree

The translated `TreeNode` keeps `Parent` (a pointer that may be nil: an option) and `Children`.  `Tree.IsNary` calls
itself on every child: the translation takes fuel, one unit per call, and `none` is "out of fuel". -/

/-- `IsRoot`: no parent -/
theorem c12_gen_IsRoot_eq (t : Gen.C12.TreeNode) : Gen.C12.TreeNode_IsRoot t = t.Parent.isNone := rfl

/-- `IsLeaf`: no children -/
theorem c12_gen_IsLeaf_eq (t : Gen.C12.TreeNode) : Gen.C12.TreeNode_IsLeaf t = t.Children.isEmpty := by
  unfold Gen.C12.TreeNode_IsLeaf
  exact Gen.Rt.len_eq_zero _

/-- the height of a pointer tree (a leaf has height 0), with fuel of its own -/
def heightF : Nat → Gen.C12.TreeNode → Nat
  | 0, _ => 0
  | f + 1, t => (t.Children.map fun c => heightF f c + 1).foldl max 0

/-- what `IsNary` decides, on `f` levels: every node has `N` children or none -/
def naryF (N : Int) : Nat → Gen.C12.TreeNode → Bool
  | 0, _ => true
  | f + 1, t => ((Int.ofNat t.Children.length == N) || t.Children.isEmpty) && t.Children.all (naryF N f)

private theorem foldl_max_le_iff (B : Nat) : ∀ (l : List Nat) (a : Nat), l.foldl max a ≤ B ↔ a ≤ B ∧ ∀ x ∈ l, x ≤ B := by
  intro l
  induction l with
  | nil => intro a; simp only [List.foldl_nil, List.not_mem_nil, false_imp_iff, implies_true, and_true]
  | cons y ys ih => intro a; simp only [List.foldl_cons, ih, Nat.max_le, List.mem_cons, forall_eq_or_imp, and_assoc]

theorem heightF_succ_le (f : Nat) (t : Gen.C12.TreeNode) (B : Nat) :
    heightF (f + 1) t ≤ B ↔ ∀ c ∈ t.Children, heightF f c + 1 ≤ B := by
  simp only [heightF, foldl_max_le_iff, Nat.zero_le, true_and, List.forall_mem_map]

/-- `g`: the recursive call (`none`: out of fuel); the loop stands in an equation `… = o`, in the shape the unfolded
`Tree_IsNary` has, so that it applies there as it is -/
theorem isNary_loop {α : Type} (g : α → Option Bool) (p : α → Bool) (cs : List α) (o : Option Bool)
    (ho : (match Gen.Rt.rangeReturn cs (fun c =>
              match g c with
              | none => some none
              | some b => if (!b) = true then some (some false) else none) with
            | some x => x
            | none => some true) = o) :
    ((∀ c ∈ cs, ∀ b, g c = some b → b = p c) → ∀ r, o = some r → r = cs.all p) ∧
    ((∀ c ∈ cs, ∃ b, g c = some b) → ∃ r, o = some r) := by
  induction cs with
  | nil => cases ho; exact ⟨fun _ r hr => by cases hr; rfl, fun _ => ⟨true, rfl⟩⟩
  | cons c rest ih =>
    simp only [Gen.Rt.rangeReturn, List.findSome?_cons] at ho ih
    cases hc : g c with
    | none =>
      rw [hc] at ho
      cases ho
      refine ⟨fun _ r hr => (nomatch hr), fun hall => ?_⟩
      obtain ⟨b, hb⟩ := hall c List.mem_cons_self
      cases hc.symm.trans hb
    | some b =>
      rw [hc] at ho
      cases b with
      | false =>
        cases ho
        refine ⟨fun hg r hr => ?_, fun _ => ⟨false, rfl⟩⟩
        cases hr
        rw [List.all_cons, ← hg c List.mem_cons_self false hc, Bool.false_and]
      | true =>
        obtain ⟨h1, h2⟩ := ih ho
        refine ⟨fun hg r hr => ?_, fun hall => h2 fun c' hc' => hall c' (List.mem_cons_of_mem _ hc')⟩
        rw [List.all_cons, ← hg c List.mem_cons_self true hc, Bool.true_and]
        exact h1 (fun c' hc' => hg c' (List.mem_cons_of_mem _ hc')) r hr

theorem isNary_run (t : Outcome Nodes) (N : Int) : ∀ (fuel : Nat) (root : Gen.C12.TreeNode),
    (∀ r, Gen.C12.Tree_IsNary fuel t root N = some r → r = naryF N fuel root) ∧
    (heightF fuel root < fuel → ∃ r, Gen.C12.Tree_IsNary fuel t root N = some r) := by
  intro fuel
  induction fuel with
  | zero => intro root; exact ⟨nofun, fun h => absurd h (Nat.not_lt_zero _)⟩
  | succ f ih =>
    intro root
    have hlen : ((Gen.Rt.len root.Children != N) && (Gen.Rt.len root.Children != 0)) =
        !((Int.ofNat root.Children.length == N) || root.Children.isEmpty) := by
      rw [bne, bne, Gen.Rt.len_eq_zero, Bool.not_or]
      rfl
    rw [Gen.C12.Tree_IsNary, naryF, hlen]
    cases ((Int.ofNat root.Children.length == N) || root.Children.isEmpty)
    · exact ⟨fun r h => (Option.some.inj h).symm, fun _ => ⟨false, rfl⟩⟩
    · -- each recursive call decides `naryF` if it decides, and decides below the height (`ih`)
      obtain ⟨h1, h2⟩ := isNary_loop (fun c => Gen.C12.Tree_IsNary f t c N) (naryF N f) root.Children _ rfl
      exact ⟨fun r hr => (h1 (fun c _ b => (ih c).1 b) r hr).trans (Bool.true_and _).symm,
        fun h => h2 fun c hc => (ih c).2 ((heightF_succ_le f root f).mp (Nat.le_of_lt_succ h) c hc)⟩

/-- **`Tree.IsNary` as translated**: with fuel it either runs out (`none`) or decides exactly "every node down to the
level the fuel reaches has `N` children or none" — the loop returns `false` at the first child that is not `N`-ary
and `true` after the last -/
theorem c12_gen_IsNary_eq (t : Outcome Nodes) (N : Int) :
    ∀ (fuel : Nat) (root : Gen.C12.TreeNode) (r : Bool),
      Gen.C12.Tree_IsNary fuel t root N = some r → r = naryF N fuel root :=
  fun fuel root => (isNary_run t N fuel root).1

/-- fuel beyond the height of the tree is never used up: the call decides (with `c12_gen_IsNary_eq`: it decides
`naryF` on the whole tree) -/
theorem c12_gen_IsNary_total (t : Outcome Nodes) (N : Int) :
    ∀ (fuel : Nat) (root : Gen.C12.TreeNode), heightF fuel root < fuel →
      ∃ r, Gen.C12.Tree_IsNary fuel t root N = some r :=
  fun fuel root => (isNary_run t N fuel root).2

/-- a binary tree of three nodes is 2-ary and not 3-ary; its root is a root and no leaf (the hypotheses can be met) -/
example : let leaf : Gen.C12.TreeNode := { Parent := none, Children := [] }
    let root : Gen.C12.TreeNode := { Parent := none, Children := [leaf, leaf] }
    Gen.C12.Tree_IsNary 3 .noTree root 2 = some true ∧ Gen.C12.Tree_IsNary 3 .noTree root 3 = some false ∧
    Gen.C12.TreeNode_IsRoot root = true ∧ Gen.C12.TreeNode_IsLeaf root = false ∧ heightF 3 root < 3 := by
  decide +kernel

/-! ### the pointer tree of a tree in creation order, and `Tree.IsNary` on it = the model's flat `isNary` -/

/-- the pointer tree (as far as the translation keeps it: `Parent` nil or not, `Children`) below position `p` of a
parent list, `f` levels deep; a non-root node points to a stub parent (the translated predicates only test it for nil) -/
def toPtr (par : List Nat) : Nat → Nat → Gen.C12.TreeNode
  | 0, p => { Parent := if p = 0 then none else some { Parent := none, Children := [] }, Children := [] }
  | f + 1, p => { Parent := if p = 0 then none else some { Parent := none, Children := [] },
                  Children := (kidsP par p).map (toPtr par f) }

private theorem isEmpty_eq_length_beq {α} (l : List α) : l.isEmpty = (l.length == 0) := by
  cases l <;> rfl

theorem toPtr_children_length (par : List Nat) (f p : Nat) :
    (toPtr par (f + 1) p).Children.length = par.count p := by
  simp [toPtr, kidsP_length]

/-- `IsRoot` / `IsLeaf` as translated, on the pointer tree of a list: position 0 is the root; a node is a leaf iff
no later node names it as its parent (`arity = 0`) -/
theorem c12_gen_IsRoot_IsLeaf_flat (t : Nodes) (f p : Nat) :
    Gen.C12.TreeNode_IsRoot (toPtr (parentsOf t) (f + 1) p) = (p == 0) ∧
    Gen.C12.TreeNode_IsLeaf (toPtr (parentsOf t) (f + 1) p) = (arity t p == 0) := by
  constructor
  · rw [c12_gen_IsRoot_eq]
    by_cases h : p = 0 <;> simp [toPtr, h]
  · rw [c12_gen_IsLeaf_eq, arity_eq_count, ← kidsP_length]
    simp only [toPtr, List.isEmpty_map]
    exact isEmpty_eq_length_beq _

private theorem naryF_toPtr (par : List Nat) (M : Nat) :
    ∀ (f p : Nat), naryF (Int.ofNat M) f (toPtr par f p) = naryAtP par M f p := by
  intro f
  induction f with
  | zero => intro p; rfl
  | succ f ih =>
    intro p
    have hl := toPtr_children_length par f p
    have h1 : (Int.ofNat (toPtr par (f + 1) p).Children.length == Int.ofNat M) = (par.count p == M) := by
      rw [hl]; exact int_beq _ _
    have h2 : (toPtr par (f + 1) p).Children.isEmpty = (par.count p == 0) := by
      rw [isEmpty_eq_length_beq, hl]
    simp only [naryF, naryAtP, okP, h1, h2]
    congr 1
    simp only [toPtr, List.all_map]
    apply List.all_congr rfl
    intro q
    exact ih q

/-- **the translated `Tree.IsNary` on the pointer tree of a well-formed node list = the model's flat `isNary`**:
for every list in creation order in which every parent precedes its child, with fuel above the number of nodes the
call returns, and it returns `isNary t M` — the recursion from the root reaches every node, the flat predicate looks
at every position.  Falsified by: a recursion that skips a child, stops after the first level, or tests `<= N`. -/
theorem c12_gen_IsNary_flat (t : Nodes) (hne : t ≠ []) (wf : ∀ i m p, 1 ≤ i → t[i]? = some (m, p) → p < i)
    (M fuel : Nat) (hf : t.length ≤ fuel) (x : Outcome Nodes) (r : Bool)
    (h : Gen.C12.Tree_IsNary fuel x (toPtr (parentsOf t) fuel 0) (Int.ofNat M) = some r) :
    r = isNary t M := by
  rw [c12_gen_IsNary_eq x _ fuel _ r h, naryF_toPtr, isNary_eq_allOkP t hne]
  exact naryAtP_root_eq _ _ _ (wfp_of_nodes t wf) (length_parentsOf hne ▸ hf)


private theorem height_toPtr (par : List Nat) (wf : WFP par) :
    ∀ (f p : Nat), p ≤ par.length → heightF f (toPtr par f p) + p ≤ par.length := by
  intro f
  induction f with
  | zero => intro p hp; rw [heightF, Nat.zero_add]; exact hp
  | succ f ih =>
    intro p hp
    refine Nat.add_le_of_le_sub hp ((heightF_succ_le f _ _).mpr ?_)
    -- a child sits at a later position `j + 1 > p`
    intro q hq
    obtain ⟨_, hk, rfl⟩ := List.mem_map.mp hq
    obtain ⟨j, hj, rfl, rfl⟩ := mem_kidsP.mp hk
    apply Nat.le_sub_of_add_le
    calc heightF f (toPtr par f (j + 1)) + 1 + par.getD j 0
        ≤ heightF f (toPtr par f (j + 1)) + 1 + j := Nat.add_le_add_left (wf j hj) _
      _ = heightF f (toPtr par f (j + 1)) + (j + 1) := by rw [Nat.add_assoc, Nat.add_comm 1 j]
      _ ≤ par.length := ih (j + 1) hj

/-- … and with fuel above the number of nodes the call does return (the height of the pointer tree of a well-formed
list is below the number of its nodes): together with `c12_gen_IsNary_flat`, the translated `IsNary` *is* `isNary` -/
theorem c12_gen_IsNary_flat_total (t : Nodes) (hne : t ≠ []) (wf : ∀ i m p, 1 ≤ i → t[i]? = some (m, p) → p < i)
    (M fuel : Nat) (hf : t.length ≤ fuel) (x : Outcome Nodes) :
    Gen.C12.Tree_IsNary fuel x (toPtr (parentsOf t) fuel 0) (Int.ofNat M) = some (isNary t M) := by
  have hh := height_toPtr _ (wfp_of_nodes t wf) fuel 0 (Nat.zero_le _)
  obtain ⟨r, hr⟩ := c12_gen_IsNary_total x (Int.ofNat M) fuel (toPtr (parentsOf t) fuel 0)
    (Nat.lt_of_le_of_lt hh (Nat.lt_of_lt_of_le (Nat.lt_of_lt_of_eq (Nat.lt_succ_self _) (length_parentsOf hne).symm) hf))
  rw [hr, c12_gen_IsNary_flat t hne wf M fuel hf x r hr]

/-- **for the generated n-ary tree the translated `IsNary(N)`, run on its pointer tree, answers "`N` divides `n − 1`"**
(`c12_nary_isNary_iff` carried over to the code's own recursive predicate) -/
theorem c12_gen_IsNary_generated (N n root fuel : Nat) (hN : 1 ≤ N) (hn : 1 ≤ n) (hr : root < n) (hf : n ≤ fuel)
    (x : Outcome Nodes) :
    Gen.C12.Tree_IsNary fuel x (toPtr (parentsOf (naryClosed N root n)) fuel 0) (Int.ofNat N) =
      some (decide ((n - 1) % N = 0)) := by
  have hne : naryClosed N root n ≠ [] :=
    List.ne_nil_of_length_pos (Nat.lt_of_lt_of_eq hn (naryClosed_length N root n).symm)
  rw [c12_gen_IsNary_flat_total _ hne (c12_nary_shape N n root hn hr).2.2.2 N fuel
    (Nat.le_trans (Nat.le_of_eq (naryClosed_length N root n)) hf) x]
  congr 1
  rw [Bool.eq_iff_iff, c12_nary_isNary_iff N n root hN hn, decide_eq_true_iff]

/-- non-vacuity: the call does return on the pointer tree of the generated binary tree of 5 and of 6 servers -/
example : Gen.C12.Tree_IsNary 7 .noTree (toPtr (parentsOf (naryClosed 2 1 5)) 7 0) 2 = some true ∧
    Gen.C12.Tree_IsNary 7 .noTree (toPtr (parentsOf (naryClosed 2 1 6)) 7 0) 2 = some false := by
  decide +kernel


/-! ### the decisions of `GenerateBigNaryTree` (module `Gen.C12Big`), its pick loop and its loop nest

The function as a whole (a `for cond { … }` with `continue` / `break`, slices of pointers) is hand-modelled; every
*decision* it takes is lifted from the source by `"extract"` and the model is shown to take exactly those. -/

/-- **one turn of the host-avoidance / use-all loop of the model is the source's**: under the loop's invariant
(`0 < ilLen = len(used)`, `roIndex < ilLen`) `pickLoop` tests the extracted loop condition, advances by the extracted
`(roIndex + 1) % ilLen`, `continue`s on the extracted `useAll && used[roIndex]` (dropping `notSameHost` on the extracted
`roIndex == roIndexFirst`), `break`s on the second `roIndex == roIndexFirst`.  Falsified by: `ilLen > 0` for `ilLen > 1`,
`||` for `&&`, the `used` test on the old index, a missing `break` (seed C12r2-B), `roIndex + 2`. -/
theorem c12_gen_big_pickLoop_step (c : BigCfg) (used : List Bool) (parentHost first fuel ro ch : Nat) (ns : Bool)
    (hl : used.length = c.ilLen) (hro : ro < c.ilLen) :
    pickLoop c used parentHost first (fuel + 1) ro ch ns =
      (if Gen.C12Big.pickCond used (Gen.C12Big.useAll c.ilLen c.nodes) c.ilLen parentHost ro ch ns = some true then
        let ro' := ((Gen.C12Big.roIndexNext ro c.ilLen).getD 0).toNat
        if Gen.C12Big.pickUsed used (Gen.C12Big.useAll c.ilLen c.nodes) ro' = some true then
          pickLoop c used parentHost first fuel ro' ch (if Gen.C12Big.pickRound ro' first then false else ns)
        else if Gen.C12Big.pickRound2 ro' first then some ro'
        else pickLoop c used parentHost first fuel ro' (c.hosts.getD ro' 0) ns
      else some ro) := by
  -- one unfolding of the source's loop, which the model's loop equals for every fuel
  have h := bigdec_pickLoop_eq c used parentHost first (Nat.zero_lt_of_lt hro)
  rw [h, pickLoopSrc]
  simp only [← h]

/-- **the child-count arithmetic of the model is the source's**: inside the level loop (`totalNodes ≤ nodes`, a level is
never empty) the extracted `(nodes - totalNodes) * (i + 1) / len(levelNodes)` does not panic, is the model's quotient,
and `childCount` is that number capped by the extracted `children > N`.  Falsified by: `i` for `i + 1`, `>=` for `>`
(mutant `C12_big_no_branching_cap`), a rounded-up quotient (seed C12r2-A). -/
theorem c12_gen_big_children (c : BigCfg) (levelNodes : List Int) (i total : Nat) (hL : 0 < levelNodes.length)
    (ht : total ≤ c.nodes) :
    ∃ ch : Nat, Gen.C12Big.children c.nodes total i levelNodes = some (ch : Int) ∧
      ch = (c.nodes - total) * (i + 1) / levelNodes.length ∧
      childCount c levelNodes.length i total = (if Gen.C12Big.childrenCap ch c.N then c.N else ch) :=
  bigdec_children c levelNodes i total hL ht

/-- the remaining conditions: `useAll := ilLen == nodes`, the level loop `totalNodes < nodes` (the test of `bigLoop`),
the child loop `n < children`, the first index `1 % ilLen` -/
theorem c12_gen_big_conditions (c : BigCfg) (total n ch : Nat) :
    Gen.C12Big.useAll c.ilLen c.nodes = c.useAll ∧
    Gen.C12Big.levelCond total c.nodes = decide (total < c.nodes) ∧
    Gen.C12Big.childCond n ch = decide (n < ch) ∧
    (0 < c.ilLen → Gen.C12Big.roIndex0 c.ilLen = some ((1 % c.ilLen : Nat) : Int)) :=
  ⟨bigdec_useAll c, bigdec_levelCond total c.nodes, bigdec_childCond n ch, bigdec_roIndex0 c.ilLen⟩

/-- non-vacuity: on the roster of the known finding (5 servers on two alternating hosts) the loop condition holds at
the first pick below the root (the candidate sits on the parent's host), and the search moves to server 2 -/
example : Gen.C12Big.pickCond [true, false, false, false, false] false 5 0 1 1 true = some false ∧
    Gen.C12Big.pickCond [true, true, false, false, false] false 5 0 2 0 true = some true ∧
    Gen.C12Big.roIndexNext 2 5 = some 3 := by decide +kernel

/-- **the model's host-avoidance / use-all loop is the loop of the source's decisions, for every number of turns**:
`pickLoopSrc` (Props/C12BigDec.lean) is the Go loop written with the extracted conditions and arithmetic only;
`pickLoop` equals it (the decisions agree on every state of a non-empty roster, `bigdec_pickLoop_eq`; the hypotheses here
describe the states the generator reaches), and so does `pick` — the server of the next child — started as the source
starts the loop.  With it `c12_big_terminates`, `c12_big_use_all`, `c12_big_wellformed` are statements about a loop every
decision of which is regenerated. -/
theorem c12_gen_big_pickLoop_eq (c : BigCfg) (used : List Bool) (parentHost first : Nat) (hl : used.length = c.ilLen)
    (fuel ro ch : Nat) (ns : Bool) (hro : ro < c.ilLen) :
    pickLoop c used parentHost first fuel ro ch ns = pickLoopSrc c used parentHost first fuel ro ch ns :=
  bigdec_pickLoop_eq c used parentHost first (Nat.zero_lt_of_lt hro) fuel ro ch ns

theorem c12_gen_big_pick_eq (c : BigCfg) (st : BigSt) (parentHost : Nat) (hl : st.used.length = c.ilLen)
    (hro : st.roIndex < c.ilLen) :
    pick c st parentHost =
      pickLoopSrc c st.used parentHost st.roIndex (2 * c.ilLen + 3) st.roIndex (c.hosts.getD st.roIndex 0) true :=
  bigdec_pick_eq c st parentHost (Nat.zero_lt_of_lt hro)

/-- non-vacuity (the known finding's roster, 5 servers on two alternating hosts, N 3, 4 nodes): the source's loop picks
server 1 for the first child of the root, as the model does -/
example : pickLoopSrc ⟨3, 4, [0, 1, 0, 1, 0]⟩ [true, false, false, false, false] 0 1 13 1 1 true = some 1 ∧
    pick ⟨3, 4, [0, 1, 0, 1, 0]⟩ ⟨[true, false, false, false, false], 1, 1⟩ 0 = some 1 := by decide +kernel

/-- **the hand model of `GenerateBigNaryTree` is the loop nest of the source's decisions**: `genBigSrc`
(Props/C12BigSrc.lean) is the function written with the extracted `Gen.C12Big.*` only — the empty-roster panic, `useAll`,
`1 % ilLen`, the level loop `totalNodes < nodes`, `children` with its cap, the child loop `n < children`, the pick loop —
and `genBig` equals it for every branching factor, every host layout and every `nodes` (one induction per loop; no
invariant is carried, because the model takes the source's decisions on every state: `bigdec_pickCond_iff`).  Every theorem
about the big generator (`c12_big_wellformed`, `c12_big_terminates`, `c12_big_use_all`, the two negation witnesses) is
thereby a theorem about a function all of whose decisions are regenerated from `tree.go` on every run; what stays by
hand is the nesting and the four bookkeeping statements, pinned by the `+full` shape. -/
theorem c12_gen_big_eq_src (c : BigCfg) (hnodes : 1 ≤ c.nodes) : genBig c = genBigSrc c :=
  genBig_eq_src c

/-- non-vacuity: on the input of `c12_big_repeats_servers` (3 servers on one host, N 2, 7 nodes) the source's loop nest
returns the tree with the repeated servers -/
example : genBigSrc ⟨2, 7, [0, 0, 0]⟩ = .tree [[(0, 0)], [(1, 0), (2, 0)], [(0, 0), (1, 0), (2, 1), (0, 1)]] := by
  decide +kernel

/-! ### `GenerateNaryTreeWithRoot` itself

`Gen/C12Nary.lean` is the translation of the whole function: the counted `for` is `Gen.Rt.loop` over `Gen.Rt.upto 1 len`,
the state are the slices `parents`, `children` (positions of nodes) and the heap of nodes (`C12.Nodes`: `NewTreeNode`
appends a node, `AddChild` names its parent, `SubtreeCount` is the model's `subtreeCount` — the table of
`meta/go2lean.json`, module `Gen.C12Nary`); index and slice panics and the division by zero of `%` are `none`. -/

/-- **the regenerated `GenerateNaryTreeWithRoot` is the model's `genNaryKeys`**, for every roster (by keys, empty
included), every `N` and every root (`nil`, a member, a stranger): same tree, same `nil` answer, and a run-time panic
exactly where the model says `panic` (`ro.List[0]` on the empty roster, `parents[0]` when `N = 0`).  A change of the
loop (the order of the two tests, the index arithmetic, which slice a new node joins, the parent it gets) changes the
generated text and breaks this theorem. -/
theorem c12_gen_WithRoot_eq (keys : List Nat) (N : Nat) (root : Option Nat) :
    (Gen.C12Nary.Roster_GenerateNaryTreeWithRoot (NaryGen.roster keys) (Int.ofNat N)
        (root.map fun k => { Public := k }) []).map (·.1) = NaryGen.ofOutcome (genNaryKeys N keys root) := by
  cases root with
  | none =>
    by_cases hne : keys = []
    · subst hne; rfl
    · simpa [genNaryKeys, hne] using NaryGen.withRoot_nil keys N hne
  | some k => simpa [genNaryKeys] using NaryGen.withRoot_some keys N k

/-- non-vacuity: a binary tree over seven servers rooted at the third, as generated -/
example : (Gen.C12Nary.Roster_GenerateNaryTreeWithRoot (NaryGen.roster [10, 11, 12, 13, 14, 15, 16]) 2 (some { Public := 12 }) []).map (·.1) =
    some (.tree [(2, 0), (3, 0), (4, 0), (5, 1), (6, 1), (0, 2), (1, 2)]) := by decide +kernel

/-- the translation panics on `N = 0` with two servers (`parents[0]` of an empty slice), as the code does -/
example : Gen.C12Nary.Roster_GenerateNaryTreeWithRoot (NaryGen.roster [1, 2, 3]) 0 none [] = none := by decide +kernel

/-! ### `Tree.UsesList` (`Gen/C12Uses.lean`) -/

section UsesList
open Gen.C12Uses

/-- **`Tree.UsesList` as regenerated (two nested `range` loops, `break` out of the inner one, `return false` out of the outer)
says: every roster member's id is the id of some node of `t.List()`** (the node list is a parameter) -/
theorem c12_gen_UsesList_spec (t : Tree) (nodesOf : Tree → List TreeNode) :
    Tree_UsesList t nodesOf = t.Roster.List.all fun p => (nodesOf t).any fun n => n.ServerIdentity.ID == p.ID := by
  unfold Tree_UsesList
  simp only [Gen.Rt.loop_any (fun n : TreeNode => n.ServerIdentity.ID == _), Bool.if_true_left, Bool.or_false,
    Bool.decide_eq_true]
  rw [Gen.Rt.loop_all fun p : ServerIdentity => (nodesOf t).any fun n => n.ServerIdentity.ID == p.ID]
  generalize (t.Roster.List.all fun p => (nodesOf t).any fun n => n.ServerIdentity.ID == p.ID) = b
  cases b <;> rfl

/-- on a roster of distinct keys and a tree given by its node list (roster indices in range) that is the model's `usesList` -/
theorem c12_gen_UsesList_model (keys : List Nat) (hnd : keys.Nodup) (t : Nodes) (hin : ∀ x ∈ t, x.1 < keys.length) :
    Tree_UsesList { Roster := { List := keys.map fun k => { ID := k } } }
      (fun _ => t.map fun x => { ServerIdentity := { ID := keys.getD x.1 0 } }) = usesList t keys.length := by
  rw [c12_gen_UsesList_spec]
  unfold usesList
  rw [Bool.eq_iff_iff]
  simp only [List.all_eq_true, List.any_eq_true, List.mem_map, List.mem_range, beq_iff_eq]
  constructor
  · intro h m hm
    obtain ⟨n, ⟨x, hx, rfl⟩, hn⟩ := h { ID := keys[m] } ⟨keys[m], List.getElem_mem hm, rfl⟩
    refine ⟨x, hx, ?_⟩
    have hx1 := hin x hx
    simp only [List.getD_eq_getElem?_getD, List.getElem?_eq_getElem hx1, Option.getD_some] at hn
    exact (List.getElem?_inj hx1 hnd (j := m)).mp (by simp [hx1, hm, hn])
  · rintro h p ⟨k, hk, rfl⟩
    obtain ⟨m, hm, rfl⟩ := List.mem_iff_getElem.mp hk
    obtain ⟨x, hx, hxm⟩ := h m hm
    refine ⟨_, ⟨x, hx, rfl⟩, ?_⟩
    subst hxm
    simp [List.getElem?_eq_getElem hm]

end UsesList

/-! ### the guard of `NewRosterWithRoot` -/

/-- `rootIndex, _ := ro.Search(root.ID)` as the Go `int` it is: −1 when the root is not a member -/
def searchInt (keys : List Nat) (k : Nat) : Int :=
  match search keys k with
  | none => -1
  | some r => (r : Int)

/-- **the guard of `NewRosterWithRoot`, lifted from the source, is the model's "no roster"**: with `rootIndex` the
result of `Search` (−1: not found) the extracted `rootIndex < 0` holds exactly when `withRootKeys` is `none`
(`c12_withroot_tree`: exactly when the root is no member).  Falsified by the seeded change C12r7-A (the guard replaced
by `rootIndex > 0` around the exchange: a stranger gets the roster in its old order). -/
theorem c12_gen_withRoot_guard (keys : List Nat) (k : Nat) :
    Gen.C12Big.withRoot_guard (searchInt keys k) = (withRootKeys keys k).isNone := by
  unfold searchInt withRootKeys Gen.C12Big.withRoot_guard
  cases search keys k with
  | none => simp
  | some r =>
    simp [Int.not_lt.mpr (Int.natCast_nonneg r)]

example : Gen.C12Big.withRoot_guard (searchInt [5, 6, 7] 9) = true ∧ Gen.C12Big.withRoot_guard (searchInt [5, 6, 7] 7) = false := by
  decide +kernel

end C12

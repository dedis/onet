import OnetVerif.Proofs.C05Inst
import OnetVerif.Proofs.C05Chan
import OnetVerif.Proofs.C05Agg
import OnetVerif.Proofs.C04
import OnetVerif.Props.C04Gen
import OnetVerif.Proofs.GenRt
import OnetVerif.Gen.C05
/-! Property C05 — the tie of the aggregation step of `Model/C05Agg.lean` to the Go source.  `TreeNodeInstance.aggregate`
is translated from `treenode.go` on every check run (`Gen/C04.lean`, `Gen.C04.TreeNodeInstance_aggregate`) and proved
equal to the hand model `C04.aggregate` in `Props/C04Gen.lean` (`C04.c04_gen_aggregate_eq`, imported here so that this
module is rebuilt against the regenerated text).  This file proves that the reader step of the C05 model **is** that
function: for a non-root node with `nch` children whose type 1 is aggregated and whose buffer for it is `s.buf`, the
reader that pops `x` dispatches exactly the batch `C04.aggregate` returns (none: "not done aggregating") and leaves
exactly its queue.  The tests of `dispatchChannel`, of the reader's loop and of the hand-over, regenerated from `treenode.go`
as conditions (`Gen/C05.lean`), are tied to the branches of the models' steps in the same way.  Nothing imports this file. -/
namespace C05
namespace Agg

/-- a message of the C05 model as a message of the C04 model: type 1 is the aggregated type, type 3 a plain one -/
def cm (x : Msg) : C04.Msg := { ty := if x.agg then 1 else 3, src := x.src, val := x.m }

def cfgOf (s : St) : C04.Cfg := { isRoot := false, nChildren := s.nch, agg := fun t => t == 1 }

def queuesOf (s : St) : C04.Queues := fun t => if t = 1 then s.buf.map cm else []

theorem bypass_cm (s : St) (x : Msg) : C04.bypass (cfgOf s) (cm x) = direct x := by
  cases x with
  | mk a src m => cases a <;> cases src <;> simp [C04.bypass, C04.fromParent, cfgOf, cm, direct]

/-- **the reader's step on a popped message is `aggregate`**: the batch it enters the handler with (if any) and the
buffer it leaves are the ones `C04.aggregate` — the function `Props/C04Gen.lean` proves equal to the translation of
`TreeNodeInstance.aggregate` — computes from the buffer and the message. -/
theorem c05_gen_reader_step_is_aggregate (s : St) (x : Msg) (q : List Msg) (hpc : s.pc = .top)
    (hc : s.closing = false) (hq : s.queue = x :: q) :
    ∃ s', step s .reader = some s' ∧
      (C04.aggregate (cfgOf s) (queuesOf s) (cm x)).2.map (·.map (·.val)) =
        (match s'.pc with | .handling _ ms => some ms | _ => none) ∧
      (C04.aggregate (cfgOf s) (queuesOf s) (cm x)).1 1 = s'.buf.map cm ∧ s'.queue = q := by
  by_cases hd : direct x = true
  · -- direct: `aggregate`'s first branch, move `single`
    have hagg : C04.aggregate (cfgOf s) (queuesOf s) (cm x) = (queuesOf s, some [cm x]) :=
      if_pos ((bypass_cm s x).trans hd)
    rw [hagg]
    exact ⟨_, (Move.single x q hpc hc hq hd).step_eq, rfl, rfl, rfl⟩
  · have hd' : direct x = false := Bool.eq_false_iff.mpr hd
    have hagg : x.agg = true := by
      cases h : x.agg
      · rw [direct, h, Bool.not_false, Bool.or_true] at hd'; cases hd'
      · rfl
    -- a child's message of the aggregated type: the queue of type 1 is the buffer
    obtain ⟨h1, h2⟩ := C04.aggregate_kid (cfg := cfgOf s) (t := 1) (m := cm x)
      (C04.kid_iff.mpr ⟨if_pos hagg, (bypass_cm s x).trans hd'⟩) (queuesOf s)
    have hlen : (queuesOf s 1).length + 1 = (s.buf ++ [x]).length := by
      rw [List.length_append]; exact congrArg (· + 1) (List.length_map _)
    have hqueue : queuesOf s 1 ++ [cm x] = (s.buf ++ [x]).map cm := by rw [List.map_append]; rfl
    rw [h1, h2, hlen, hqueue]
    by_cases hfull : (s.buf ++ [x]).length = (cfgOf s).nChildren
    · -- the round is complete: move `batch`
      rw [if_pos hfull, if_pos hfull]
      exact ⟨_, (Move.batch x q hpc hc hq hd' hfull).step_eq, by rw [Option.map_some, List.map_map]; rfl, rfl, rfl⟩
    · -- not complete: move `buffer`
      rw [if_neg hfull, if_neg hfull]
      exact ⟨_, (Move.buffer x q hpc hc hq hd' hfull).step_eq, by rw [Option.map_none, hpc], rfl, rfl⟩

/-- the regenerated `aggregate` is `C04.aggregate` (re-stated from `Props/C04Gen.lean`; with the theorem above: the
reader step of the C05 model is the translated function) -/
theorem c05_gen_aggregate_is_translated (n : Gen.C04.TreeNodeInstance) (hq : n.msgQueue.isSome) (pm : Gen.C04.ProtocolMsg)
    (root : Bool) (par : Gen.C04.TreeNode) (kids : List Gen.C04.TreeNode) :
    ∃ msgs due n', Gen.C04.TreeNodeInstance_aggregate n pm (fun _ => root) (fun _ => par) (fun _ => kids) =
        some (pm.MsgType, msgs, due, n') ∧
      (if due then some (msgs.map (C04.msgOf par.ID)) else none) =
        (C04.aggregate (C04.cfgOf n root kids) (C04.queuesOf par.ID n.msgQueue) (C04.msgOf par.ID pm)).2 := by
  obtain ⟨msgs, due, n', h1, _, _, h4⟩ := C04.c04_gen_aggregate_eq n hq pm root par kids
  exact ⟨msgs, due, n', h1, h4⟩

end Agg

namespace Chan

/-- **the look at `closing` in `dispatchChannel` is the model's**: `Gen.C05.dispatchChannel_sends` is the condition of the
`if` that guards `out.Send(m)` (regenerated from `treenode.go` on every run, over the local `closing` read under the
queue mutex); with room in the channel, the reader's step on a popped channel message sends exactly when it says so,
and otherwise records the message as `late`. -/
theorem c05_gen_channel_send_decision (s : St) (m : Nat) (hp : s.pc = .sending m) (hroom : s.chan.length < s.cap) :
    Gen.C05.dispatchChannel_sends s.closing = !s.closing ∧
    step s .reader = some (if Gen.C05.dispatchChannel_sends s.closing
      then { s with pc := .top, chan := s.chan ++ [m], log := s.log ++ [(m, .put)] }
      else { s with pc := .top, log := s.log ++ [(m, .late)] }) := by
  refine ⟨rfl, ?_⟩
  rw [step_sending hp, if_pos hroom]
  cases s.closing <;> rfl

theorem room_eq (a b : Nat) :
    Gen.C05.dispatchChannel_room (a, b) (fun p => (p.1 : Int)) (fun p => (p.2 : Int)) = decide (a < b) := by
  simp [Gen.C05.dispatchChannel_room]

/-- **the whole step of the reader on a popped channel message, written with the translated tests**: room is
`out.Len() < out.Cap()` (`Gen.C05.dispatchChannel_room`, strict), and with room the message is sent iff
`Gen.C05.dispatchChannel_sends` (`!closing`); no room: "channel too small", the message is dropped. -/
theorem c05_gen_channel_step (s : St) (m : Nat) (hp : s.pc = .sending m) :
    step s .reader = some (
      if Gen.C05.dispatchChannel_room (s.chan.length, s.cap) (fun p => (p.1 : Int)) (fun p => (p.2 : Int)) then
        if Gen.C05.dispatchChannel_sends s.closing
        then { s with pc := .top, chan := s.chan ++ [m], log := s.log ++ [(m, .put)] }
        else { s with pc := .top, log := s.log ++ [(m, .late)] }
      else { s with pc := .top, log := s.log ++ [(m, .full)] }) := by
  rw [room_eq]
  by_cases hroom : s.chan.length < s.cap
  · -- room
    rw [decide_eq_true hroom, if_pos rfl]
    exact (c05_gen_channel_send_decision s m hp hroom).2
  · -- no room: the branch `full`
    rw [decide_eq_false hroom, if_neg Bool.false_ne_true, step_sending hp, if_neg hroom]

/-- the boundary: a channel with one free place takes the message, a full one does not -/
theorem c05_gen_channel_room_boundary (c : Nat) :
    Gen.C05.dispatchChannel_room (c, c + 1) (fun p => (p.1 : Int)) (fun p => (p.2 : Int)) = true ∧
    Gen.C05.dispatchChannel_room (c, c) (fun p => (p.1 : Int)) (fun p => (p.2 : Int)) = false := by
  rw [room_eq, room_eq]
  exact ⟨decide_eq_true (Nat.lt_succ_self c), decide_eq_false (Nat.lt_irrefl c)⟩

end Chan

theorem reader_rest_cons (m : Nat) (q : List Nat) : Gen.C05.reader_rest (m :: q) = some q := by
  rw [Gen.C05.reader_rest, Gen.Rt.slice_tail]

theorem reader_has_message_cons (m : Nat) (q : List Nat) : Gen.C05.reader_has_message (m :: q) = true := by
  simp [Gen.C05.reader_has_message, Gen.Rt.len]

/-- **the reader's loop decides with the translated conditions**: at the top of its loop (`dispatchMsgReader`, under
the queue mutex) the model's reader stops iff `Gen.C05.reader_stops` (the `if n.closing`), else takes a message iff
`Gen.C05.reader_has_message` (`len(n.msgDispatchQueue) > 0`) — the message `Gen.C05.reader_head` gives
(`n.msgDispatchQueue[0]`), leaving the queue `Gen.C05.reader_rest` gives (`n.msgDispatchQueue[1:]`) — else goes to
sleep.  All four are regenerated from `treenode.go` on every run. -/
theorem c05_gen_reader_top (s : St) (hp : s.pc = .top) :
    step s .reader = some (
      if Gen.C05.reader_stops s.closing then { s with pc := .stopped }
      else if Gen.C05.reader_has_message s.queue then
        match Gen.C05.reader_head s.queue, Gen.C05.reader_rest s.queue with
        | some m, some q => { s with queue := q, pc := .handling m, started := s.started ++ [m] }
        | _, _ => s
      else { s with pc := .waiting }) := by
  cases hc : s.closing with
  | true => simp only [step, hp, hc]; rfl
  | false =>
    cases hq : s.queue with
    | nil => simp only [step, hp, hc, hq]; rfl
    | cons m q =>
      simp only [step, hp, hc, hq, reader_has_message_cons, reader_rest_cons]
      rfl

/-- the queue always has a head and a rest when the translated test says it is not empty (the `| _, _ => s`
branch above is never taken) -/
theorem c05_gen_reader_pop_defined (q : List Nat) (h : Gen.C05.reader_has_message q = true) :
    ∃ m r, q = m :: r ∧ Gen.C05.reader_head q = some m ∧ Gen.C05.reader_rest q = some r := by
  cases q with
  | nil => cases h
  | cons m r => exact ⟨m, r, rfl, rfl, reader_rest_cons m r⟩

/-- **the hand-over is the translated one** (`ProcessProtocolMsg`): refused iff `Gen.C05.accept_refused` (`if n.closing`),
else appended at the end of the queue as `Gen.C05.accept_queue` (`append(n.msgDispatchQueue, msg)`) says -/
theorem c05_gen_accept (s : St) (m : Nat) :
    step s (.accept m) = some (if Gen.C05.accept_refused s.closing then s
      else { s with queue := Gen.C05.accept_queue s.queue m, token := true, accepted := s.accepted ++ [m] }) := by
  rw [step_accept]
  cases s.closing <;> rfl

end C05

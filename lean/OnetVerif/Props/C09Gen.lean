import OnetVerif.Model.C09Recv
import OnetVerif.Gen.C09
/-! Property C09 — the definition regenerated from the Go source (`Gen/C09.lean`, written by `harness/cmd/go2lean` on
every check run from `network/tcp.go`): `handleError`, the classification of a network-layer error into the
package's sentinel errors.  The error parameter is read through the seven observations of `C09.NetErr`
(`strings.Contains(err.Error(), "<text>")` for the four texts, `err == io.EOF`, the success of `err.(net.Error)`,
`netErr.Timeout()`), the sentinel variables `ErrClosed` … `ErrUnknown` as the constructors of `C09.ErrClass`
(`meta/go2lean.json`, module `Gen.C09`).  The asserted value `netErr` is nil when the assertion fails; calling
`Timeout` on it would be the panic outcome `none` — the theorem says it is never reached.  Nothing imports this file. -/
namespace C09

/-- **`handleError` as translated is the model's `handleError`**, for every error value, and it never panics -/
theorem c09_gen_handleError_eq (e : NetErr) : Gen.C09.handleError e = some (handleError e) := by
  obtain ⟨a, b, c, d, f, g, h⟩ := e
  -- down the chain of tests: the first one that succeeds decides both sides, whatever the later fields are
  cases a
  · cases b
    · cases c
      · cases d
        · cases f
          · cases g
            · rfl
            · cases h <;> rfl
          · rfl
        · rfl
      · rfl
    · rfl
  · rfl
end C09

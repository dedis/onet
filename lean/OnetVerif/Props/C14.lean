import OnetVerif.Proofs.C14Server
import OnetVerif.Proofs.C14Client
import OnetVerif.Shapes
/-! Property C14 — every client request gets the reply computed for exactly that request.
Property theorems, negation witnesses, non-vacuity examples.  The predicates of their statements (`wsRespond`, `Sys.Ok`,
`KInv`, `MCl.Keyed` …) are defined in `Proofs/C14Server.lean` and `Proofs/C14Client.lean`. -/
namespace C14

variable {σ M R O B : Type}

/-! ### websocket -/

/-- **the i-th answer on a connection is a function of the i-th message alone** (state-independent
handlers): whatever the service state and whatever was sent before, the connection shows exactly
the answers owed to its messages, one per message, in order, up to the first error. -/
theorem c14_ws_reply_function (svc : WsSvc σ M R) (hp : svc.Pure) (path : String) (s s₀ : σ)
    (msgs : List Bytes) :
    (wsConn svc path s msgs).2 = upToClose (msgs.map (wsRespond svc s₀ path)) := by
  induction msgs generalizing s with
  | nil => simp [wsConn, upToClose]
  | cons b bs ih =>
    have e : (processClientRequest svc s path b).2 = wsRespond svc s₀ path b := wsRespond_pure svc hp s s₀ path b
    simp only [wsConn, List.map_cons, upToClose, e]
    split
    · simp [ih]
    · rfl

/-- the same for handlers with a state of their own: the i-th answer is the answer owed to the
i-th message in *some* service state — nothing of any other message enters it. -/
theorem c14_ws_reply_of_own_request (svc : WsSvc σ M R) (path : String) (s : σ) (msgs : List Bytes) :
    ∀ (i : Nat) o, (wsConn svc path s msgs).2[i]? = some o →
      ∃ b sᵢ, msgs[i]? = some b ∧ o = wsRespond svc sᵢ path b := by
  induction msgs generalizing s with
  | nil => intro i o h; simp [wsConn] at h
  | cons b bs ih =>
    intro i o h
    simp only [wsConn] at h
    split at h
    · cases i with
      | zero => simp at h; exact ⟨b, s, by simp, by simp [wsRespond, h]⟩
      | succ j =>
        simp only [List.getElem?_cons_succ] at h
        obtain ⟨b', s', hb, ho⟩ := ih _ j o h
        exact ⟨b', s', by simpa using hb, ho⟩
    · cases i with
      | zero => simp at h; exact ⟨b, s, by simp, by simp [wsRespond, h]⟩
      | succ j => simp at h

/-- one answer per message, and only the last one can be a close -/
theorem c14_ws_one_answer_per_message (svc : WsSvc σ M R) (path : String) (s : σ) (msgs : List Bytes) :
    (wsConn svc path s msgs).2.length ≤ msgs.length ∧
    (∀ (i : Nat) o, (wsConn svc path s msgs).2[i]? = some o → i + 1 < (wsConn svc path s msgs).2.length →
      o.isReply = true) := by
  induction msgs generalizing s with
  | nil => simp [wsConn]
  | cons b bs ih =>
    simp only [wsConn]
    split
    · rename_i hr
      refine ⟨by simpa using (ih _).1, ?_⟩
      intro i o h hlt
      cases i with
      | zero => simp at h; rw [← h]; exact hr
      | succ j =>
        simp only [List.getElem?_cons_succ] at h
        exact (ih _).2 j o h (by simpa using hlt)
    · refine ⟨by simp, ?_⟩
      intro i o _ hlt
      simp at hlt

/-! ### REST -/

theorem rest_perRequest_slot (h : RestH σ O B R) (slot : O) (s : σ) (q : RestReq B) :
    (restHandle h .perRequest slot s q).1 = slot := by
  rw [restHandle_perRequest]

theorem rest_perRequest_state (h : RestH σ O B R) (slot slot' : O) (s : σ) (q : RestReq B) :
    (restHandle h .perRequest slot s q).2.1 = (restHandle h .perRequest slot' s q).2.1 := by
  rw [restHandle_perRequest, restHandle_perRequest h slot']

/-- **the REST reply to a request does not depend on earlier requests** (state-independent
handlers, full strength): a sequence of requests to a handler, whatever the registration-time
object and the service state, is answered request by request with the answer owed to that request
alone. -/
theorem c14_rest_independent (h : RestH σ O B R) (hp : h.Pure) (slot : O) (s s₀ : σ)
    (qs : List (RestReq B)) :
    restSeq h .perRequest slot s qs = qs.map (restRespond h s₀) := by
  induction qs generalizing slot s with
  | nil => rfl
  | cons q qs ih =>
    simp only [restSeq, List.map_cons, ih, rest_perRequest_out, restRespond_pure h hp s s₀]

/-- the same for handlers with a state of their own: the i-th reply is the one owed to the i-th
request in some service state, and the registration-time object never changes -/
theorem c14_rest_reply_of_own_request (h : RestH σ O B R) (slot : O) (s : σ) (qs : List (RestReq B)) :
    ∀ (i : Nat) o, (restSeq h .perRequest slot s qs)[i]? = some o →
      ∃ q sᵢ, qs[i]? = some q ∧ o = restRespond h sᵢ q := by
  induction qs generalizing slot s with
  | nil => intro i o h; simp [restSeq] at h
  | cons q qs ih =>
    intro i o h
    simp only [restSeq] at h
    cases i with
    | zero =>
      simp at h
      exact ⟨q, s, by simp, by rw [← h, rest_perRequest_out]⟩
    | succ j =>
      simp only [List.getElem?_cons_succ] at h
      obtain ⟨q', s', hq, ho⟩ := ih _ _ j o h
      exact ⟨q', s', by simpa using hq, ho⟩

/-! the code before the fix (`Alloc.shared`): the statement is false — witness of the probe -/

/-- POST body with the given items, `Content-Type: application/json` -/
def post (items : List Item) : RestReq Body := { method := .POST, jsonCT := true, tail := "", body := .obj items }

/-- **with one argument object per handler the reply depends on the previous request**: after
`{"S":"42"}`, the body `{}` is answered as if it carried `S = "42"`. -/
theorem c14_rest_shared_object_fails :
    restSeq (concreteRest 0) .shared {} 0 [post [.setS [52, 50]], post []]
      ≠ [post [.setS [52, 50]], post []].map (restRespond (concreteRest 0) 0) := by
  decide +kernel

/-- the same two requests under the per-request allocation: independent (instance of the theorem,
evaluated) -/
example :
    restSeq (concreteRest 0) .perRequest {} 0 [post [.setS [52, 50]], post []]
      = [post [.setS [52, 50]], post []].map (restRespond (concreteRest 0) 0) := by
  decide +kernel

/-! ### errors and panics of a handler -/

/-- **a websocket handler error or panic is reported to that client**: the message is answered by
a close with the reason (never by a reply, never by nothing), and the only state that moves is what
the handler itself did to the service state. -/
theorem c14_error_reported_ws (svc : WsSvc σ M R) (s : σ) (path : String) (buf : Bytes) (m : M)
    (hreg : svc.registered path = true) (hdec : svc.decode path buf = .ok m)
    (hbad : ∀ r, (svc.call s path m).2 ≠ .ret r) :
    ∃ w v, processClientRequest svc s path buf = ((svc.call s path m).1, .close w v) ∧
      (w = .handler ∨ w = .panic) := by
  rw [processClientRequest_decoded hreg hdec]
  cases hc : (svc.call s path m).2 with
  | ret r => exact absurd hc (hbad r)
  | fail f => exact ⟨.handler, f, rfl, Or.inl rfl⟩
  | panics v f => exact ⟨.panic, f, rfl, Or.inr rfl⟩

/-- **a REST handler error or panic is reported to that client** with status 400, leaves the
registration-time object alone and moves only what the handler did to the service state. -/
theorem c14_error_reported_rest (h : RestH σ O B R) (slot : O) (s : σ) (q : RestReq B) (obj : O)
    (hm : q.method = h.method) (hdec : restDecode h h.zero q = (obj, none))
    (hbad : ∀ r, (h.call s obj).2 ≠ .ret r) :
    ∃ e, restHandle h .perRequest slot s q = (slot, (h.call s obj).1, .err e) ∧
      (e = .handler ∨ e = .panic) ∧ e.status = 400 := by
  rw [restHandle_decoded hm hdec, restCall]
  cases hc : (h.call s obj).2 with
  | ret r => exact absurd hc (hbad r)
  | fail f => exact ⟨.handler, rfl, Or.inl rfl, rfl⟩
  | panics v f => exact ⟨.panic, rfl, Or.inr rfl, rfl⟩

/-- **a panicking handler is always an error, whatever it panics with**: an `error`, a `string` or
any other value (`panic(42)`, a struct, the argument list of `log.Panicf`) -/
theorem c14_panic_any_value_is_error {R : Type} (v : PanicVal) (fits : Bool) :
    callBarrier (R := R) (.panics v fits) = .error (.panic, fits) := rfl

/-- … hence the websocket client gets a close with reason "panic" and the REST client status 400,
never a reply, for every kind of panic value -/
theorem c14_panic_reported (svc : WsSvc σ M R) (h : RestH σ O B R) (s : σ) (path : String) (buf : Bytes) (m : M)
    (v : PanicVal) (fits : Bool) (slot obj : O) (q : RestReq B)
    (hreg : svc.registered path = true) (hdec : svc.decode path buf = .ok m)
    (hp : (svc.call s path m).2 = .panics v fits)
    (hm : q.method = h.method) (hd : restDecode h h.zero q = (obj, none))
    (hp' : (h.call s obj).2 = .panics v fits) :
    (processClientRequest svc s path buf).2 = .close .panic fits ∧
    (restHandle h .perRequest slot s q).2.2 = .err .panic := by
  rw [processClientRequest_decoded hreg hdec, restHandle_decoded hm hd, restCall, hp, hp']
  exact ⟨rfl, rfl⟩

/-! ### the server under concurrent clients -/

/-- **any number of connections, any interleaving**: under the per-request allocation, in every
state reachable from a state where the recorded answers are right (in particular from the start,
where nothing is recorded), every answer recorded for every websocket and HTTP connection is the
answer owed to exactly the request at the same position of that connection — whatever the other
connections sent and whenever their goroutines ran. -/
theorem c14_concurrent_replies (cfg : Cfg σ M R O B) (hal : cfg.alloc = .perRequest)
    (y : Sys σ O B R) (hy : y.Ok cfg) (sched : List Act) : (run cfg y sched).Ok cfg :=
  (run_skips cfg).inv (fun y y' a hy h => step_ok cfg hal y y' a h hy) sched y hy

/-- with state-independent handlers the recorded answers of every connection are *the function*
`request ↦ answer` mapped over the requests served so far — for every schedule -/
theorem c14_concurrent_function (cfg : Cfg σ M R O B) (hal : cfg.alloc = .perRequest)
    (hpw : cfg.ws.Pure) (hpr : ∀ k, (cfg.rest k).Pure) (s₀ : σ)
    (y : Sys σ O B R) (hf : y.Fresh) (sched : List Act) :
    (∀ t ∈ (run cfg y sched).ws, t.outs = t.done.map (wsRespond cfg.ws s₀ t.path)) ∧
    (∀ t ∈ (run cfg y sched).http, t.outs = t.done.map (fun kq => restRespond (cfg.rest kq.1) s₀ kq.2)) := by
  have h := c14_concurrent_replies cfg hal y (fresh_ok cfg y hf) sched
  refine ⟨fun t ht => ?_, fun t ht => ?_⟩
  · refine paired_map (h.1 t ht) ?_
    rintro b o ⟨s, rfl⟩
    exact wsRespond_pure cfg.ws hpw s s₀ t.path b
  · refine paired_map (h.2 t ht).1 ?_
    rintro kq o ⟨s, rfl⟩
    exact restRespond_pure (cfg.rest kq.1) (hpr kq.1) s s₀ kq.2

/-- **whatever a request does — handler errors and panics included — a step changes only its own
connection**: the other connections, and the REST argument objects, are exactly as before; nothing
is consumed or answered on behalf of another connection. (The service state moves only through the
handler: `wsStep`/`httpStep`.) -/
theorem c14_error_contained (cfg : Cfg σ M R O B) (hal : cfg.alloc = .perRequest)
    (y y' : Sys σ O B R) (a : Act) (h : step cfg y a = some y') :
    y'.slots = y.slots ∧
    (match a with
     | .ws i => y'.http = y.http ∧ ∀ j, j ≠ i → y'.ws[j]? = y.ws[j]?
     | .http i => y'.ws = y.ws ∧ ∀ j, j ≠ i → y'.http[j]? = y.http[j]?) ∧
    (∀ i : Nat, (y'.ws[i]?).map (fun (t : WsThread) => (t.path, t.done ++ t.todo)) = (y.ws[i]?).map (fun (t : WsThread) => (t.path, t.done ++ t.todo))) := by
  cases a with
  | ws i =>
    obtain ⟨t, s', t', hi, hs, rfl⟩ := step_ws h
    refine ⟨rfl, ⟨rfl, fun j hj => List.getElem?_set_ne (Ne.symm hj)⟩, fun j => ?_⟩
    by_cases hj : i = j
    · subst hj
      obtain ⟨hp, hd, _⟩ := wsStep_ok hs
      simp [List.getElem?_set_self_of_some hi, hi, hp, hd]
    · simp [List.getElem?_set_ne hj]
  | http i =>
    obtain ⟨t, s', sl', t', hi, hs, rfl⟩ := step_http h
    exact ⟨(httpStep_ok hal hs).1, ⟨rfl, fun j hj => List.getElem?_set_ne (Ne.symm hj)⟩, fun j => rfl⟩

/-- the allocation before the fix, two concurrent requests to one handler on two connections:
request 0 carries `S = "42"`, request 1 is `{}`; schedule: 1 decodes, 0 decodes, 1 calls — the
reply to `{}` is the one owed to the *other* connection's request. -/
theorem c14_concurrent_shared_object_fails :
    ∃ sched : List Act,
      ((run (concreteCfg .shared)
          { svc := 0, slots := fun _ => {}, ws := [],
            http := [{ todo := [(0, post [.setS [52, 50]])] }, { todo := [(0, post [])] }] } sched).http.map (·.outs))
        ≠ [[restRespond (concreteRest 0) 0 (post [.setS [52, 50]])], [restRespond (concreteRest 0) 0 (post [])]] :=
  ⟨[.http 1, .http 0, .http 1, .http 0], by decide +kernel⟩

/-! ### non-vacuity of the server theorems: a fresh system and a schedule that serves everything -/

example :
    let y : Sys Nat Msg Body Reply :=
      { svc := 0, slots := fun _ => {},
        ws := [{ path := "C14Echo", todo := [[8, 10], [0xff], [8, 2]] }],
        http := [{ todo := [(0, post [.setS [52, 50]]), (0, post [])] }, { todo := [(0, post [.setA 7])] }] }
    y.Fresh ∧
    ((run (concreteCfg .perRequest) y
        [.http 1, .http 0, .ws 0, .http 1, .http 0, .http 0, .ws 0, .http 0, .ws 0]).http.map (·.outs))
      = [[restRespond (concreteRest 0) 0 (post [.setS [52, 50]]), restRespond (concreteRest 0) 0 (post [])],
         [restRespond (concreteRest 0) 0 (post [.setA 7])]] := by
  refine ⟨⟨?_, ?_⟩, by decide +kernel⟩
  · intro t ht; simp at ht; subst ht; exact ⟨rfl, rfl⟩
  · intro t ht; simp at ht; rcases ht with rfl | rfl <;> exact ⟨rfl, rfl, rfl⟩

/-! ### any number of open connections -/

theorem step_with_idle (cfg : Cfg σ M R O B) (y : Sys σ O B R) (idle : List WsThread)
    (hidle : ∀ t ∈ idle, t.todo = []) (a : Act) :
    step cfg { y with ws := y.ws ++ idle } a = (step cfg y a).map (fun y' => { y' with ws := y'.ws ++ idle }) := by
  cases a with
  | http i =>
    simp only [step]
    cases hi : y.http[i]? with
    | none => rfl
    | some t =>
      simp only []
      cases hs : httpStep cfg y.svc y.slots t with
      | none => rfl
      | some r => obtain ⟨s', sl', t'⟩ := r; rfl
  | ws i =>
    simp only [step]
    by_cases hlt : i < y.ws.length
    · rw [List.getElem?_append_left hlt]
      cases hi : y.ws[i]? with
      | none => rfl
      | some t =>
        simp only []
        cases hs : wsStep cfg.ws y.svc t with
        | none => rfl
        | some r =>
          obtain ⟨s', t'⟩ := r
          simp only [Option.map_some, List.set_append_left _ _ hlt]
    · have hn : y.ws[i]? = none := List.getElem?_eq_none (by omega)
      rw [hn]
      rw [List.getElem?_append_right (by omega)]
      cases hi : idle[i - y.ws.length]? with
      | none => rfl
      | some t =>
        have := wsStep_idle cfg.ws y.svc t (hidle t (List.mem_of_getElem? hi))
        simp [this]

/-- **no bound on the connections that are open at the same time** (seed C14r6-B: a counting
semaphore of 128 around every service handler, held by a websocket connection for its whole life):
any number of further connections that are open and idle — kept-alive clients between two requests —
changes nothing for anybody: for every schedule the system with them is, connection by connection,
request by request, answer by answer, the system without them (plus the idle connections, untouched). -/
theorem c14_open_connections_unbounded (cfg : Cfg σ M R O B) (y : Sys σ O B R) (idle : List WsThread)
    (hidle : ∀ t ∈ idle, t.todo = []) (sched : List Act) :
    run cfg { y with ws := y.ws ++ idle } sched = { run cfg y sched with ws := (run cfg y sched).ws ++ idle } := by
  induction sched generalizing y with
  | nil => rfl
  | cons a as ih =>
    rw [(run_skips cfg).cons, (run_skips cfg).cons, step_with_idle cfg y idle hidle a]
    cases hs : step cfg y a with
    | none => exact ih y
    | some y' => exact ih y'

/-- … and a connection with a request waiting can always be served, whatever else is open: whether
its goroutine can move depends on that connection alone -/
theorem c14_request_served_whatever_else_is_open (cfg : Cfg σ M R O B) (y : Sys σ O B R) (i : Nat) (t : WsThread)
    (hi : y.ws[i]? = some t) (hc : t.closed = false) (b : Bytes) (bs : List Bytes) (ht : t.todo = b :: bs) :
    (step cfg y (.ws i)).isSome = true := by
  have hw : (wsStep cfg.ws y.svc t).isSome = true := by
    unfold wsStep
    rw [hc, ht]; rfl
  obtain ⟨⟨s', t'⟩, hs⟩ := Option.isSome_iff_exists.mp hw
  simp only [step, hi, hs, Option.isSome_some]

/-- **every request of every connection is answered** (server side, liveness at quiescence): when
no connection goroutine of the server can move any more, every websocket connection has had all its
messages answered or was closed by the first error on it, and every HTTP connection has had all its
requests answered — with as many answers as requests served. -/
theorem c14_server_quiescent_all_answered {σ M R O B : Type} (cfg : Cfg σ M R O B) (y : Sys σ O B R)
    (hq : ∀ a, step cfg y a = none) :
    (∀ t ∈ y.ws, t.todo = [] ∨ t.closed = true) ∧ (∀ t ∈ y.http, t.todo = []) := by
  constructor
  · intro t ht
    obtain ⟨i, hi⟩ := List.getElem?_of_mem ht
    cases hc : t.closed with
    | true => exact Or.inr rfl
    | false =>
      cases htd : t.todo with
      | nil => exact Or.inl rfl
      | cons b bs =>
        have := c14_request_served_whatever_else_is_open cfg y i t hi hc b bs htd
        rw [hq] at this
        cases this
  · intro t ht
    obtain ⟨i, hi⟩ := List.getElem?_of_mem ht
    cases htd : t.todo with
    | nil => rfl
    | cons kq qs =>
      have := httpStep_isSome cfg y.svc y.slots (t := t) (by rw [htd]; exact List.cons_ne_nil _ _)
      have hn := hq (.http i)
      simp only [step, hi] at hn
      cases hs : httpStep cfg y.svc y.slots t with
      | none => rw [hs] at this; cases this
      | some r => rw [hs] at hn; cases hn

/-- non-vacuity: any number n of idle connections (the correspondence run opens 300 and 1100) -/
example (n : Nat) : ∀ t ∈ List.replicate n ({ path := "C14Echo", todo := [] } : WsThread), t.todo = [] := by
  intro t ht
  rw [List.eq_of_mem_replicate ht]

/-! ### the client: one request in flight per connection -/

/-- **replies are never attributed to another request** (client side): any number of goroutines
calling `Send` on one kept connection, any interleaving with each other and with the server — every
caller that returns holds the reply to *its own* request; the requests themselves are untouched. -/
theorem c14_client_lock_pairs (f : Bytes → Bytes) (c : Cl)
    (hfresh : c.lock = false ∧ c.up = [] ∧ c.down = [] ∧ ∀ (i : Nat) q pc, c.callers[i]? = some (q, pc) → pc = .start)
    (sched : List ClAct) :
    (∀ (i : Nat) q r, (clRun true f c sched).callers[i]? = some (q, .finished r) → r = f q) ∧
    (clRun true f c sched).callers.map (·.1) = c.callers.map (·.1) := by
  -- the run is a run of `KCl` on the kept connection; a finished caller of `KCl` holds what the server owes it
  obtain ⟨as, has⟩ := clRun_toK f sched c
  obtain ⟨hI, hreq⟩ := kRun_inv _ as _ (kInv_toK f c hfresh)
  rw [has] at hI hreq
  refine ⟨fun i q r hc => Option.some.inj (hI.fin i q _ (Cl.toK_get hc)), ?_⟩
  simpa [Cl.toK, Function.comp_def] using hreq

/-- non-vacuity: three callers on one connection, one schedule under which all of them finish -/
example :
    (clRun true (fun b => b ++ [0]) { callers := [([1], .start), ([2], .start), ([3], .start)] }
      [.caller 1, .caller 0, .caller 1, .server, .caller 1, .caller 0, .caller 0, .caller 2, .server,
       .caller 0, .caller 2, .caller 2, .server, .caller 2]).callers
      = [([1], .finished [1, 0]), ([2], .finished [2, 0]), ([3], .finished [3, 0])] := by decide +kernel

/-- the lock is what makes it true: without it two callers can receive each other's reply -/
theorem c14_client_without_lock_swaps :
    ∃ sched : List ClAct,
      (clRun false (fun b => b ++ [0]) { callers := [([1], .start), ([2], .start)] } sched).callers
        = [([1], .finished [2, 0]), ([2], .finished [1, 0])] :=
  ⟨[.caller 0, .caller 1, .caller 1, .caller 0, .server, .server, .caller 0, .caller 1], by decide +kernel⟩

/-! ### the client: kept and single-use connections, failures, redial -/

/-- **the reply handed back by `Send` is the one owed to the caller's own request — with kept and
with single-use connections, through failures and redials**: any number of goroutines calling
`Send` on one `Client` for one destination, any requests (answered, or refused by the server, which
then closes the connection), every interleaving of the callers with each other and with the
server's connection goroutines:
1. a caller that returns holds exactly what the server owes to *its own* request — the reply, or an
   error if and only if the server refused it (so: no reply of another request, and no error
   inherited from another request's failure);
2. the requests themselves are untouched;
3. **one request in flight per connection**: every connection ever dialed carries at most one
   unanswered request or unread answer, and only the connection currently in the client's map
   carries anything;
4. whenever no caller is between `Lock` and `Unlock`, the connection in the map (if any) is one the
   server still serves: the next request is not lost to an earlier failure. -/
theorem c14_client_keep_fail_redial (respond : Bytes → Option Bytes) (keep : Bool) (reqs : List Bytes)
    (sched : List KAct) :
    let y := kRun .fixed respond { keep := keep, callers := reqs.map (fun q => (q, .start)) } sched
    (∀ (i : Nat) q res, y.callers[i]? = some (q, .finished res) → res = respond q) ∧
    y.callers.map (·.1) = reqs ∧
    (∀ (c : Nat) k, y.conns[c]? = some k →
      k.up.length + k.down.length ≤ 1 ∧ (k.up ≠ [] ∨ k.down ≠ [] → y.cur = some c)) ∧
    ((∀ (j : Nat) q pc, y.callers[j]? = some (q, pc) → ¬ pc.holding) → CurAlive y) := by
  intro y
  obtain ⟨hI, hreq⟩ := kRun_inv respond sched _ (kInv_fresh respond keep reqs)
  change KInv respond y at hI
  refine ⟨hI.fin, ?_, ?_, ?_⟩
  · rw [hreq]; simp [Function.comp_def]
  · exact hI.in_flight
  · intro hno
    obtain ⟨h, _, hm⟩ := kHolder_iff.mp hI.holder
    cases h with
    | none => exact hm.2.2
    | some i =>
      obtain ⟨_, q, pc, hc, hph⟩ := hm
      exact absurd hph.holder.1 (hno i q pc hc)

/-- a server that refuses the request `[0]` and answers every other request `q` with `q ++ [9]` -/
def respDemo (q : Bytes) : Option Bytes := if q = [0] then none else some (q ++ [9])

/-- a kept connection that is not forgotten after a failed request (the code before 5b2df0e): the
next, valid request of the same client fails without reaching a handler; with the code as it is it is
served over a freshly dialed connection -/
theorem c14_client_kept_dead_connection_fails_next :
    (kRun ⟨false, true⟩ respDemo { keep := true, callers := [([0], .start), ([1], .start)] }
      [.caller 0, .caller 0, .caller 0, .caller 0, .caller 0, .server 0, .caller 0,
       .caller 1, .caller 1, .caller 1, .caller 1, .server 0, .caller 1]).callers
      = [([0], .finished none), ([1], .finished none)] ∧
    (kRun .fixed respDemo { keep := true, callers := [([0], .start), ([1], .start)] }
      [.caller 0, .caller 0, .caller 0, .caller 0, .caller 0, .server 0, .caller 0,
       .caller 1, .caller 1, .caller 1, .caller 1, .caller 1, .server 1, .caller 1]).callers
      = [([0], .finished none), ([1], .finished (some [1, 9]))] := by decide +kernel

/-- the lock object deleted together with the connection (single-use client, three callers): the
second caller still holds the old lock object, the third creates a new one and dials; both then use the
new connection at once and the second is handed the reply to the third's request.  With the code as it
is the second caller is still waiting for its turn on the same schedule. -/
theorem c14_client_lock_deleted_with_connection_swaps :
    let sched : List KAct := [.caller 0, .caller 0, .caller 1, .caller 0, .caller 0, .caller 0, .server 0, .caller 0,
       .caller 2, .caller 2, .caller 2, .caller 2, .caller 2, .caller 1, .caller 1, .caller 1, .server 1, .server 1,
       .caller 1]
    ((kRun ⟨true, false⟩ respDemo { keep := false, callers := [([1], .start), ([2], .start), ([3], .start)] } sched).callers[1]?
      = some ([2], .finished (some [3, 9]))) ∧
    ((kRun .fixed respDemo { keep := false, callers := [([1], .start), ([2], .start), ([3], .start)] } sched).callers[1]?
      = some ([2], .ref 0)) := by decide +kernel

/-- non-vacuity: a kept client, three callers, the second request is refused: everybody returns, the
third request travels on a freshly dialed connection -/
example :
    let y := kRun .fixed respDemo { keep := true, callers := [([1], .start), ([0], .start), ([2], .start)] }
      [.caller 0, .caller 1, .caller 2, .caller 0, .caller 0, .caller 0, .caller 0, .server 0, .caller 0,
       .caller 1, .caller 1, .caller 1, .server 0, .caller 1,
       .caller 2, .caller 2, .caller 2, .caller 2, .server 1, .caller 2]
    y.callers = [([1], .finished (some [1, 9])), ([0], .finished none), ([2], .finished (some [2, 9]))] ∧
    y.conns.length = 2 ∧ y.cur = some 1 := by decide +kernel

/-- **no caller of `Send` is ever stuck** (liveness at quiescence, kept and single-use clients): in
every reachable state in which neither a caller nor the server side of any connection can move,
every caller has returned — the per-destination lock is never left held, a failed request never
leaves a caller waiting on a dead connection, a waiting caller always gets its turn. -/
theorem c14_client_nobody_stuck (respond : Bytes → Option Bytes) (keep : Bool) (reqs : List Bytes)
    (sched : List KAct) :
    let y := kRun .fixed respond { keep := keep, callers := reqs.map (fun q => (q, .start)) } sched
    (∀ a, kStep .fixed respond y a = none) →
      ∀ (i : Nat) q pc, y.callers[i]? = some (q, pc) → ∃ res, pc = .finished res := by
  intro y hq i q pc hc
  obtain ⟨hI, _⟩ := kRun_inv respond sched _ (kInv_fresh respond keep reqs)
  change KInv respond y at hI
  cases pc with
  | finished res => exact ⟨res, rfl⟩
  | _ =>
    obtain ⟨a, ha⟩ := hI.progress hc (fun res e => by cases e)
    exact absurd (hq a) ha

/-- non-vacuity: the final state of the three-caller example is such a state -/
example :
    let y := kRun .fixed respDemo { keep := true, callers := [([1], .start), ([0], .start), ([2], .start)] }
      [.caller 0, .caller 1, .caller 2, .caller 0, .caller 0, .caller 0, .caller 0, .server 0, .caller 0,
       .caller 1, .caller 1, .caller 1, .server 0, .caller 1,
       .caller 2, .caller 2, .caller 2, .caller 2, .server 1, .caller 2]
    (∀ i < 3, kStep .fixed respDemo y (.caller i) = none) ∧ (∀ c < 2, kStep .fixed respDemo y (.server c) = none) := by
  decide +kernel

/-! ### which connection a request travels on (any number of destinations) -/

/-- **a reply comes from the server and handler the request was meant for**: when different destinations
have different keys (the code: the key *is* the destination — identity pointer and path), then for every
sequence of `Send`s to any destinations, answered or failing, kept or single-use, every reply handed to
a caller was produced by the destination that caller named. -/
theorem c14_connection_table_reply_from_asked_destination {K D : Type} [DecidableEq K] (key : D → K)
    (hinj : ∀ a b, key a = key b → a = b) (keep : Bool) :
    ∀ (sends : List (D × Bool)) (c : MCl K D), c.Keyed key →
      ∀ r ∈ mRun key keep c sends, r.2 = none ∨ r.2 = some r.1 := by
  intro sends
  induction sends with
  | nil => intro c _ r hr; simp [mRun] at hr
  | cons s rest ih =>
    intro c hc r hr
    obtain ⟨d, ok⟩ := s
    simp only [mRun, List.mem_cons] at hr
    rcases hr with rfl | hr
    · exact mSend_reply hinj keep hc d ok
    · exact ih _ (mSend_keyed key keep c d ok hc) r hr

/-- non-vacuity: a kept client, three destinations, one failure in between: everybody answered by whom he
asked, and the failed destination is dialed again -/
example : mRun (K := Nat) (D := Nat) id true {} [(0, true), (1, true), (0, false), (0, true), (2, true), (1, true)] =
    [(0, some 0), (1, some 1), (0, none), (0, some 0), (2, some 2), (1, some 1)] := by decide +kernel

/-- **the key must tell destinations apart** (seed C14r5-A: connections kept under the identity's deprecated
`ID`, which literal identities leave empty): two servers whose identities share the key — the request for
the second travels on the connection to the first and is answered by the first.  A single-use client
hides it (every request dials). -/
theorem c14_connection_table_shared_key_asks_wrong_server :
    mRun (K := Nat) (D := Nat) (fun _ => 0) true {} [(0, true), (1, true)] = [(0, some 0), (1, some 0)] ∧
    mRun (K := Nat) (D := Nat) (fun _ => 0) false {} [(0, true), (1, true)] = [(0, some 0), (1, some 1)] ∧
    mRun (K := Nat) (D := Nat) id true {} [(0, true), (1, true)] = [(0, some 0), (1, some 1)] := by decide +kernel

/-- **… also across `Close`**: any sequence of `Send`s and `Close`s — every reply handed back comes from the
destination named, the table stays keyed, and right after a `Close` nothing is stored (the next `Send` to any
destination dials) -/
theorem c14_connection_table_with_close {K D : Type} [DecidableEq K] (key : D → K)
    (hinj : ∀ a b, key a = key b → a = b) (keep : Bool) :
    ∀ (ops : List (MOp D)) (c : MCl K D), c.Keyed key →
      (mOps key keep c ops).1.Keyed key ∧
      (∀ r ∈ (mOps key keep c ops).2, r.2 = none ∨ r.2 = some r.1) ∧
      (∀ pre, ops = pre ++ [.close] → (mOps key keep c ops).1.conns = []) := by
  intro ops c hc
  suffices h : (mOps key keep c ops).1.Keyed key ∧ ∀ r ∈ (mOps key keep c ops).2, r.2 = none ∨ r.2 = some r.1 from
    ⟨h.1, h.2, fun pre e => e ▸ mOps_close_last key keep pre c⟩
  induction ops generalizing c with
  | nil => exact ⟨hc, fun r hr => by cases hr⟩
  | cons o rest ih =>
    cases o with
    | send d ok =>
      obtain ⟨i1, i2⟩ := ih _ (mSend_keyed key keep c d ok hc)
      refine ⟨i1, fun r hr => ?_⟩
      rcases List.mem_cons.mp hr with rfl | hr
      · exact mSend_reply hinj keep hc d ok
      · exact i2 r hr
    | close => exact ih _ (fun e he => by cases he)

example : (mOps (K := Nat) (D := Nat) id true {} [.send 0 true, .send 1 true, .close, .send 1 true]).1.conns = [(1, 1)] ∧
    (mOps (K := Nat) (D := Nat) id true {} [.send 0 true, .send 1 true, .close, .send 1 true]).2 =
      [(0, some 0), (1, some 1), (1, some 1)] := by decide +kernel

/-! ### `Client.SendToAll`: the reply list is indexed like the roster -/

/-- **every server's reply sits at that server's place** (seed C14r5-B): for every client state,
roster and behaviour of the single `Send`s (failures anywhere included) the list `SendToAll` returns
is as long as the roster, its entry `i` is exactly what the `Send` to roster entry `i` returned —
nothing where it failed — and an error is returned iff some `Send` failed. -/
theorem c14_send_to_all_positional {σ α β : Type} (send : σ → α → σ × Option β) (s : σ) (roster : List α) :
    let res := sendToAll false send s roster
    res.2.1.length = roster.length ∧
    (∀ (i : Nat) (e : α), roster[i]? = some e → res.2.1[i]? = some (send (stateAt send s roster i) e).2) ∧
    (res.2.2 = 0 ↔ ∀ r ∈ res.2.1, r.isSome = true) := by
  induction roster generalizing s with
  | nil => simp [sendToAll_nil]
  | cons e es ih =>
    obtain ⟨h1, h2⟩ := sendToAll_cons_false send s e es
    obtain ⟨i1, i2, i3⟩ := ih (send s e).1
    refine ⟨?_, ?_, ?_⟩
    · simp only [h1, List.length_cons, i1]
    · intro i x hx
      cases i with
      | zero =>
        simp only [List.getElem?_cons_zero, Option.some.injEq] at hx
        subst hx
        simp [h1, stateAt]
      | succ j =>
        simp only [List.getElem?_cons_succ] at hx
        simp only [h1, List.getElem?_cons_succ, stateAt]
        exact i2 j x hx
    · simp only [h1, h2, List.mem_cons, forall_eq_or_imp]
      cases hs : (send s e).2 with
      | none => simp
      | some b => simpa using i3

/-- … and the variant that appends only the successful replies does not: with the middle server of
three failing, the third server's reply is handed out as the second's -/
theorem c14_send_to_all_compact_shifts :
    let send := fun (st : Unit) (n : Nat) => (st, if n = 1 then none else some n)
    (sendToAll true send () [0, 1, 2]).2.1 = [some 0, some 2] ∧
    (sendToAll false send () [0, 1, 2]).2.1 = [some 0, none, some 2] ∧
    (sendToAll false send () [0, 1, 2]).2.2 = 1 := by decide +kernel

/-! ### the client: several nodes asked at once -/

/-- **the reply handed back belongs to the node handed back, also when some of the asked nodes cannot be
reached** (`SendProtobufParallel`, `SendProtobufParallelWithDecoder`): any subset of the nodes fails
(`none`), the others answer in any order and with any overlap — a node that is handed back is one
that answered, and `ret` holds exactly its reply; if every node fails nobody is handed back (the
caller gets the first error). -/
theorem c14_parallel_pair_with_failures (replies : List (Option Bytes)) (sched : List Nat) :
    let p := parRun true (parInitF replies) sched
    (p.done = true → ∃ i r, p.winner = some i ∧ replies[i]? = some (some r) ∧ p.ret = some r) ∧
    ((∀ r ∈ replies, r = none) → p.done = false ∧ p.winner = none) := by
  intro p
  obtain ⟨_, _, hw⟩ : p.Inv replies :=
    (parRun_skips true).inv (fun _ _ _ hi h => parStep_inv h hi) sched _ (parInitF_inv replies)
  cases hwi : p.winner with
  | none =>
    rw [hwi] at hw
    exact ⟨fun hd => (by rw [hw] at hd; cases hd), fun _ => ⟨hw, rfl⟩⟩
  | some i =>
    rw [hwi] at hw
    obtain ⟨hd, r, hr, hret⟩ := hw
    exact ⟨fun _ => ⟨i, r, rfl, hr, hret⟩, fun hall => by cases hall _ (List.mem_of_getElem? hr)⟩

/-- **the reply handed back belongs to the node handed back**: any number of nodes asked at once, all of
them answering, replies arriving in any order and with any overlap — whenever a winner has been announced,
`ret` holds the reply of exactly that node, and it never changes afterwards (it is an invariant of every
later state too). -/
theorem c14_parallel_pair (replies : List Bytes) (sched : List Nat) :
    let p := parRun true (parInit replies) sched
    p.done = true → ∃ i r, p.winner = some i ∧ replies[i]? = some r ∧ p.ret = some r := by
  intro p hd
  have h := (c14_parallel_pair_with_failures (replies.map some) sched).1
  rw [parInitF_map_some] at h
  obtain ⟨i, r, hw, hr, hret⟩ := h hd
  rw [List.getElem?_map] at hr
  obtain ⟨r', hr', e⟩ := Option.map_eq_some_iff.mp hr
  cases e
  exact ⟨i, r, hw, hr', hret⟩

/-- decoding outside the mutex breaks it: two replies overlap, node 0 is handed back with node 1's
reply in `ret` -/
theorem c14_parallel_unlocked_decode_mismatch :
    ∃ sched : List Nat,
      let p := parRun false (parInit [[10], [11], [12]]) sched
      p.done = true ∧ p.winner = some 0 ∧ p.ret = some [11] :=
  ⟨[0, 1, 0, 1, 0, 1, 0, 1], by decide +kernel⟩

/-- non-vacuity: with the mutex, the same arrival order hands back node 0 with node 0's reply -/
example :
    let p := parRun true (parInit [[10], [11], [12]]) [0, 1, 0, 1, 2, 2]
    p.done = true ∧ p.winner = some 0 ∧ p.ret = some [10] := by decide +kernel

/-! ### `SendProtobufParallelWithDecoder` with `QuitError`: `done` is closed once -/

/-- **the first error and an accepted reply may come at the same moment; `done` is closed once**
(seed C14r5-A; reproduced on the code before the repair by
`notes/probes/onet_c14_parallel_quit_double_close_probe_test.go.txt`): for every
interleaving of the accepting routines and the caller's error handling there is no close of a closed
channel, and a routine inside its critical section has always found `done` open. -/
theorem c14_parallel_quit_closes_done_once (sched : List QAct) :
    (qRun true {} sched).panic = false :=
  (qRun_inv sched {} ⟨rfl, fun h => by cases h⟩).1

/-- the bare `close(done)` of the code before: both orders end the process — the caller closes
second (panic in the caller, websocket_client.go:411 of 37e8160), or the accepting routine does -/
theorem c14_parallel_quit_unguarded_double_close :
    (qRun false {} [.enter 1, .leave, .quit]).panic = true ∧
    (qRun false {} [.enter 1, .quit, .leave]).panic = true ∧
    (qRun true {} [.enter 1, .leave, .quit]) = { done := true, winner := some 1, quit := true } ∧
    (qRun true {} [.enter 1, .quit, .leave, .quit]) = { done := true, winner := some 1, quit := true } := by decide +kernel

/-! ### whom a parallel request asks (`ParallelOptions.GetList`), and nobody to ask -/

/-- **the numbers of `GetList`**: for every roster with at least one node and every content of the options
(negative and oversized numbers included): at least one routine is started and at most as many as nodes
are asked; at least one and at most `len` nodes are asked; the start lies inside the roster.
(`po.Parallel >= 0` instead of `> 0` would start no routine for the default options: the caller waits for
ever; `po.StartNode <= len` would index past the roster.) -/
theorem c14_getlist_numbers (len : Int) (po : Option ParOpts) (h : 1 ≤ len) :
    let ps := getListParams len po
    1 ≤ ps.parallel ∧ ps.parallel ≤ ps.askNodes ∧ ps.askNodes ≤ len ∧ 0 ≤ ps.startNode ∧ ps.startNode < len ∧
    ps.parallel ≤ (len + 1) / 2 :=
  getListParams_bounds len po h

/-- **whom `GetList` puts into the channel**: for every roster without duplicate nodes, every content of the
options and every permutation `rand.Perm` may draw — no node twice, only nodes of the roster, no ignored
node, at most `askNodes` of them (so the channel of that capacity never blocks the caller), and whenever
somebody is asked a routine is started to ask.  (Walking with `perm[i]` but without `% len`, or comparing
the ignored nodes by pointer, falsify it.) -/
theorem c14_getlist_asked (nodes : List Nat) (po : Option ParOpts) (rp : List Nat) (hn : nodes.Nodup)
    (hp : rp.Nodup) (hl : ∀ p ∈ rp, p < nodes.length) :
    let r := getList nodes po rp
    r.2.Nodup ∧ (∀ n ∈ r.2, n ∈ nodes ∧ n ∉ ignoreOf po) ∧
    ((r.2.length : Int) ≤ (getListParams nodes.length po).askNodes ∨ nodes = []) ∧
    (r.2 ≠ [] → 1 ≤ r.1) := by
  intro r
  by_cases hne : nodes = []
  · subst hne
    have : rp = [] := by
      cases rp with
      | nil => rfl
      | cons p ps => exact absurd (hl p (List.mem_cons_self)) (by simp)
    subst this
    have hr : r.2 = [] := by
      cases po with
      | none => rfl
      | some o => simp [r, getList, permOf, collect]
    simp [hr]
  · have hpos : 0 < nodes.length := List.length_pos_iff.mpr hne
    obtain ⟨h1, _⟩ := c14_getlist_numbers nodes.length po (by omega)
    obtain ⟨hpn, hpl⟩ := permOf_ok nodes.length po rp hp hl
    have hr : r.2 = _ := getList_asked_eq nodes po rp hne
    have hwn := walk_nodup (getListParams nodes.length po).startNode.toNat hn hpn hpl
    refine ⟨?_, ?_, ?_, fun _ => h1⟩
    · rw [hr]
      exact (hwn.sublist List.filter_sublist).sublist (List.take_sublist _ _)
    · intro n hnr
      rw [hr] at hnr
      obtain ⟨hm, hi⟩ := List.mem_filter.mp (List.mem_of_mem_take hnr)
      obtain ⟨p, _, rfl⟩ := List.mem_map.mp hm
      refine ⟨?_, by simpa using hi⟩
      rw [List.getD_eq_getElem?_getD, List.getElem?_eq_getElem (Nat.mod_lt _ hpos)]
      exact List.getElem_mem _
    · left
      rw [hr, List.length_take]
      omega

/-- non-vacuity, and the options at work -/
example : getList [10, 11, 12, 13, 14, 15] (some { startNode := 2, askNodes := 3, parallel := 2, ignore := [14], dontShuffle := true }) [] =
    (2, [12, 13, 15]) := by decide +kernel

example : getList [10, 11, 12] none [2, 0, 1] = (2, [12, 10, 11]) := by decide +kernel

/-- what the bounds exclude: `po.Parallel >= 0` in place of `> 0` starts no routine for options that leave
`Parallel` at its zero value — nobody ever asks the three nodes in the channel -/
theorem c14_getlist_zero_parallel_variant_starts_nobody :
    let parallel0 : Int := ((3 : Int) + 1) / 2
    let o : ParOpts := {}
    (if o.parallel ≥ 0 ∧ o.parallel < parallel0 then o.parallel else parallel0) = 0 ∧
    (getList [10, 11, 12] (some o) [0, 1, 2]) = (2, [10, 11, 12]) := by decide +kernel

/-- **nobody is left out**: when the permutation covers the roster (as `rand.Perm` and the identity do) and
`GetList` put fewer than `askNodes` nodes into the channel, then every node of the roster that is not
ignored is in it — the only reasons not to be asked are being ignored and the limit `askNodes`.  (A walk
that starts at `startNode` but does not wrap around — `nodes[startNode+perm[i]]` guarded by a length test —
leaves the nodes before `startNode` out.) -/
theorem c14_getlist_leaves_nobody_out (nodes : List Nat) (po : Option ParOpts) (rp : List Nat)
    (hcov : ∀ i, i < nodes.length → i ∈ rp) :
    let r := getList nodes po rp
    (r.2.length : Int) < (getListParams nodes.length po).askNodes →
    ∀ x ∈ nodes, x ∉ ignoreOf po → x ∈ r.2 := by
  intro r hlt x hx hni
  have hne : nodes ≠ [] := List.ne_nil_of_mem hx
  have hpos : 0 < nodes.length := List.length_pos_iff.mpr hne
  have hr : r.2 = _ := getList_asked_eq nodes po rp hne
  have hcov' : ∀ i, i < nodes.length → i ∈ permOf nodes.length po rp := by
    intro i hi
    unfold permOf
    cases po with
    | none => exact hcov i hi
    | some o =>
      simp only
      split
      · exact List.mem_range.mpr hi
      · exact hcov i hi
  -- the limit did not cut
  rw [hr, List.length_take] at hlt
  rw [hr, List.take_of_length_le (by omega), List.mem_filter]
  refine ⟨?_, by simpa using hni⟩
  obtain ⟨j, hj, rfl⟩ := List.getElem_of_mem hx
  rw [List.mem_map]
  refine ⟨(j + nodes.length - (getListParams nodes.length po).startNode.toNat % nodes.length) % nodes.length,
    hcov' _ (Nat.mod_lt _ hpos), ?_⟩
  simp only [walk_surj hpos hj]
  rw [List.getD_eq_getElem?_getD, List.getElem?_eq_getElem hj]; rfl

/-- non-vacuity: no number given, so fewer nodes are collected than are asked for -/
example : (getList [10, 11, 12, 13, 14] (some { ignore := [11, 13] }) [4, 2, 0, 1, 3]).2 = [14, 12, 10] ∧
    (getListParams 5 (some { ignore := [11, 13] })).askNodes = 5 := by decide +kernel

/-- **nobody to ask is an error, not a crash**: for every roster, options and permutation, when `GetList`
leaves the channel empty (no node given, every node ignored) the call ends with an error value before any
routine is started; otherwise the routines are started (`Par`, `c14_parallel_pair_with_failures`). The
code before 2f7be2f evaluated `errs[0]` of the empty list: the calling process ended. -/
theorem c14_parallel_nobody_to_ask_is_an_error (nodes : List Nat) (po : Option ParOpts) (rp : List Nat) :
    let asked := (getList nodes po rp).2
    (asked = [] → nobodyToAsk true asked = some .error) ∧
    (asked ≠ [] → nobodyToAsk true asked = none) ∧
    nobodyToAsk true asked ≠ some .crash := by
  intro asked
  unfold nobodyToAsk
  refine ⟨fun h => by simp [h], fun h => ?_, ?_⟩
  · have : asked.length ≠ 0 := fun hl => h (List.eq_nil_of_length_eq_zero hl)
    simp [this]
  · split <;> simp

/-- the witnesses of the probe: every node ignored; no node given -/
theorem c14_parallel_nobody_to_ask_crashed_before :
    nobodyToAsk false (getList [10, 11, 12] (some { ignore := [12, 10, 11] }) [1, 2, 0]).2 = some .crash ∧
    nobodyToAsk false (getList [] none []).2 = some .crash ∧
    nobodyToAsk true (getList [10, 11, 12] (some { ignore := [12, 10, 11] }) [1, 2, 0]).2 = some .error ∧
    nobodyToAsk true (getList [] none []).2 = some .error := by decide +kernel

/-- **a parallel request as a whole** (`GetList`, the nobody test, the routines): for every roster without duplicate
nodes, every content of the options, every permutation, every answering behaviour of the nodes (`answer n = none`: the
`Send` to node `n` fails) and every interleaving of the routines — when a node is handed back it is a node of the
roster that is not ignored and that answered, and `ret` holds exactly its reply; when nobody can be asked the call
ends with an error before any routine starts; when nobody answers nobody is handed back. -/
theorem c14_parallel_call_hands_back_an_asked_node (nodes : List Nat) (po : Option ParOpts) (rp : List Nat)
    (hn : nodes.Nodup) (hp : rp.Nodup) (hl : ∀ p ∈ rp, p < nodes.length)
    (answer : Nat → Option Bytes) (sched : List Nat) :
    let asked := (getList nodes po rp).2
    let p := parRun true (parInitF (asked.map answer)) sched
    (asked = [] → nobodyToAsk true asked = some .error) ∧
    (p.done = true → ∃ i n r, p.winner = some i ∧ asked[i]? = some n ∧ n ∈ nodes ∧ n ∉ ignoreOf po ∧
      answer n = some r ∧ p.ret = some r) ∧
    ((∀ n ∈ asked, answer n = none) → p.done = false ∧ p.winner = none) := by
  intro asked p
  obtain ⟨_, hmem, _, _⟩ := c14_getlist_asked nodes po rp hn hp hl
  obtain ⟨h1, h2⟩ := c14_parallel_pair_with_failures (asked.map answer) sched
  refine ⟨(c14_parallel_nobody_to_ask_is_an_error nodes po rp).1, fun hd => ?_, fun hall => ?_⟩
  · obtain ⟨i, r, hw, hr, hret⟩ := h1 hd
    rw [List.getElem?_map] at hr
    obtain ⟨n, ha, hr⟩ := Option.map_eq_some_iff.mp hr
    have hm := hmem n (List.mem_of_getElem? ha)
    exact ⟨i, n, r, hw, ha, hm.1, hm.2, hr, hret⟩
  · apply h2
    intro r hr
    rw [List.mem_map] at hr
    obtain ⟨n, hn', rfl⟩ := hr
    exact hall n hn'

/-- non-vacuity: five nodes, node 13 ignored, node 10 unreachable, the others answer with their own name; whoever the
schedule lets win is handed back with its own reply -/
example :
    let asked := (getList [10, 11, 12, 13, 14] (some { ignore := [13], dontShuffle := true }) []).2
    let p := parRun true (parInitF (asked.map fun n => if n = 10 then none else some [n])) [1, 2, 1, 2, 0, 3]
    asked = [10, 11, 12, 14] ∧ p.done = true ∧ p.winner = some 1 ∧ p.ret = some [11] := by decide +kernel

/-! ### registration: each API dispatches on its own table -/

/-- **each API answers with the function registered for that API**: after any sequence of
registrations, the handler a websocket path dispatches to is the one of the *last `RegisterHandler`*
for that message name and the function behind a REST resource is the one of the last
`RegisterRESTHandler` for it — a registration for one API never changes, adds or removes anything
on the other, whatever the order, also when one message type is registered for both with different
functions. -/
theorem c14_registration_apis_separate {H : Type} (regs : List (Reg H)) (name : String) :
    (Table.build false regs).handlers name = regs.reverse.findSome? (Reg.wsFor name) ∧
    (Table.build false regs).routes name = regs.reverse.findSome? (Reg.restFor name) := by
  constructor
  · refine (foldl_lookup (Table.add false) (·.handlers name) (Reg.wsFor name) (fun t r => ?_) regs _).trans (by simp [Table.empty])
    cases r with
    | ws n h => by_cases hn : name = n <;> simp [Table.add, Reg.wsFor, hn]
    | rest n h => simp [Table.add, Reg.wsFor]
  · refine (foldl_lookup (Table.add false) (·.routes name) (Reg.restFor name) (fun t r => ?_) regs _).trans (by simp [Table.empty])
    cases r with
    | ws n h => simp [Table.add, Reg.restFor]
    | rest n h => by_cases hn : name = n <;> simp [Table.add, Reg.restFor, hn]

/-- corollaries: a message registered for REST only is unknown to the websocket API, and the other
way round -/
theorem c14_rest_only_is_unregistered_on_ws {H : Type} (regs : List (Reg H)) (name : String)
    (h : ∀ r ∈ regs, Reg.wsFor name r = none) : (Table.build false regs).handlers name = none := by
  rw [(c14_registration_apis_separate regs name).1]
  simp only [List.findSome?_eq_none_iff, List.mem_reverse]
  exact h

/-- a handler table shared by both registrations: the REST function answers the websocket requests
of a type registered for both APIs, and a REST-only type becomes a websocket path -/
theorem c14_shared_table_overwrites :
    let regs : List (Reg Nat) := [.ws "M" 1, .rest "M" 2, .rest "R" 3]
    (Table.build true regs).handlers "M" = some 2 ∧ (Table.build true regs).handlers "R" = some 3 ∧
    (Table.build false regs).handlers "M" = some 1 ∧ (Table.build false regs).handlers "R" = none ∧
    (Table.build false regs).routes "M" = some 2 := by decide +kernel

/-- the concrete service: the literal tables the driver uses are the ones the modelled
registration produces from `concreteRegs` (websocket paths, REST resources and their tags) -/
theorem c14_concrete_tables :
    (["C14Echo", "C14Swap", "C14Key", "C14Both", "C14Post", "C14Put", "C14Int", "C14Bytes", "C14Empty", "Nope"].map wsTag
      = [some [47, 69, 99, 104, 111], some [47, 83, 119, 97, 112], some [47, 75, 101, 121],
         some [47, 66, 111, 116, 104, 87, 115], none, none, none, none, none, none]) ∧
    (∀ res ∈ ["C14Post", "C14Put", "C14Int", "C14Bytes", "C14Empty", "C14Both", "C14Echo", "C14Swap", "Nope"],
      concreteTable.routes res = (Drv.resourceId res).map restTag) := by decide +kernel

/-! ### what a registration accepts -/

/-- **a registration is accepted exactly when the reflection code can call the function**: one
argument that is a pointer to a struct (`reflect.New(to.Elem())`, `arg.Elem().Set`), two results of
which the first is an interface or a pointer to a struct and the second an `error`
(`ret[1].Interface()`, `ret[0].Interface()` in `callInterfaceFunc`) -/
theorem c14_registration_accepts_callable (g : Sig) :
    registerHandlerCheck g = none ↔
      (g.isFunc = true ∧ g.nIn = 1 ∧ (∃ f, g.in0 = .ptrStruct f) ∧ g.nOut = 2 ∧
        (g.out0 = .iface ∨ g.out0 = .ptrStruct) ∧ g.out1Err = true) := by
  rw [registerHandlerCheck_eq_none, handlerInputCheck_eq_none, createServiceHandler_eq_none]
  simp only [and_assoc]

/-- **the kind of GET handler fits the field the closure sets**: a REST registration is accepted as
an int (byte-slice) GET handler only for a function the websocket registration would accept too,
whose argument struct has exactly one field, of kind `int` (`[]byte`): `Field(0).SetInt` /
`.SetBytes` in the closure (processor.go:252, 264) cannot panic; and the versions are in order -/
theorem c14_rest_get_kind_fits_field (g : Sig) (method : String) (mn mx : Nat) (k : Option GetKind)
    (h : registerRESTCheck g method mn mx = .ok k) :
    3 ≤ mn ∧ mn ≤ mx ∧ registerHandlerCheck g = none ∧ (method = "GET" ∨ method = "POST" ∨ method = "PUT") ∧
    (k = none ↔ method ≠ "GET") ∧
    (k = some .int → g.in0 = .ptrStruct .oneInt) ∧ (k = some .slice → g.in0 = .ptrStruct .oneBytes) ∧
    (k = some .empty → g.in0 = .ptrStruct .none) := by
  obtain ⟨hmeth, h1, h2, hr, hk⟩ := registerRESTCheck_ok h
  refine ⟨h2, h1, hr, hmeth, ?_⟩
  by_cases hg : method = "GET"
  · rw [if_pos hg] at hk
    obtain ⟨k', hp, rfl⟩ := hk
    -- `this` names the argument struct by a `match` on `k'`; each implication fixes `k'` (`cases e`) and the `match` reduces
    have := prepareHandlerGET_ok hp
    refine ⟨by simp [hg], ?_, ?_, ?_⟩ <;> (intro e; cases e; exact this)
  · rw [if_neg hg] at hk
    subst hk
    simp [hg]

/-! ### a handler that acknowledges without a message (seed C14r7-B) -/

/-- **an acknowledgement carries nothing of its request**: the handler of `C14Ack` (interface return type,
`(nil, nil)`) is registered on the websocket API, and whatever two requests carry, when both are
acknowledged their replies are the same — the empty message, which `protobuf.Encode` accepts — so no byte
of a request can come back as its reply (`ProcessClientRequest` returning its `buf` parameter, which holds
the request, when the reply is nil falsifies this against the run: `corpus:ack-without-message`) -/
theorem c14_ack_reply_is_empty (m m' : Msg) (r r' : Reply)
    (h : transform ackTag m = .ret r) (h' : transform ackTag m' = .ret r') :
    wsTag "C14Ack" = some ackTag ∧ r = r' ∧ r = { a := 0, s := [], b := [], n := 0 } ∧
    concreteWs.encode r = some [] := by
  have key : ∀ (x : Msg) (y : Reply), transform ackTag x = .ret y → y = { a := 0, s := [], b := [], n := 0 } := by
    intro x y hx
    rw [transform_ret hx, if_pos rfl]
    split <;> simp
  have e1 := key m r h
  have e2 := key m' r' h'
  refine ⟨by decide +kernel, by rw [e1, e2], e1, ?_⟩
  rw [e1]; rfl

/-- non-vacuity: two different requests, both acknowledged; a failing one is not -/
example : transform ackTag { a := 5, s := [102, 105, 118, 101], b := [7, 8, 9] } = .ret { a := 0, s := [], b := [], n := 0 } ∧
    transform ackTag { a := -7, s := sNilReply, b := [] } = .ret { a := 0, s := [], b := [], n := 0 } ∧
    transform ackTag { a := 1, s := sFail, b := [] } = .fail true := by decide +kernel

/-! ### from the URL to the handler table -/

/-- **the handler table that is asked is the one of the service named, under exactly the path named**: for
every set of registered services whose names contain no `/`, every registered service `svc` and **every**
path (any characters, `/` included): the URL the client builds is routed to `svc` and the key under which
`svc`'s handler table is looked up is that path, byte for byte; a service that is not registered reaches
the catch-all.  (`strings.TrimLeft` in place of `TrimPrefix`, a pattern without the final `/`, or the first
path element only falsify it.) -/
theorem c14_route_round_trip (services : List (List Char)) (svc path : List Char)
    (hsl : ∀ s ∈ services, '/' ∉ s) (hs : '/' ∉ svc) :
    (svc ∈ services → route services (clientURL svc path) = some (svc, path)) ∧
    (svc ∉ services → route services (clientURL svc path) = none) := by
  have hfil : ∀ x ∈ services.filter (fun s => (pattern s).isPrefixOf (clientURL svc path)), x = svc := by
    intro x hx
    rw [List.mem_filter] at hx
    exact (pattern_prefix_iff x svc path (hsl x hx.1) hs).mp hx.2
  constructor
  · intro hm
    have hne : services.filter (fun s => (pattern s).isPrefixOf (clientURL svc path)) ≠ [] :=
      List.ne_nil_of_mem (List.mem_filter.mpr ⟨hm, (pattern_prefix_iff svc svc path hs hs).mpr rfl⟩)
    have hmux : muxRoute services (clientURL svc path) = some svc := by
      unfold muxRoute
      rw [foldl_longer_of_all_eq svc _ hfil none (Or.inl rfl), if_neg hne]
    have htp : trimPrefix (clientURL svc path) (pattern svc) = path := by
      unfold trimPrefix clientURL
      rw [if_pos (List.isPrefixOf_iff_prefix.mpr (List.prefix_append _ _))]
      simp
    unfold route
    rw [hmux]
    simp only [Option.map_some, htp]
  · intro hm
    have he : services.filter (fun s => (pattern s).isPrefixOf (clientURL svc path)) = [] :=
      List.eq_nil_iff_forall_not_mem.mpr fun x hx => hm (hfil x hx ▸ (List.mem_filter.mp hx).1)
    simp [route, muxRoute, he]

/-- what `TrimLeft` would do with the paths of the correspondence run: it eats into the path -/
theorem c14_route_trimleft_eats_the_path :
    trimLeft "/VerifC14/C14Echo".toList "/VerifC14/".toList = "Echo".toList ∧
    trimPrefix "/VerifC14/C14Echo".toList "/VerifC14/".toList = "C14Echo".toList ∧
    route ["VerifC14".toList, "VerifC15".toList] "/VerifC14/C14Echo".toList = some ("VerifC14".toList, "C14Echo".toList) ∧
    route ["VerifC14".toList, "VerifC15".toList] "/VerifC14NoSuchService/C14Echo".toList = none ∧
    route ["VerifC14".toList] "/VerifC14/a/b//c".toList = some ("VerifC14".toList, "a/b//c".toList) := by decide +kernel

/-! ### the code regions the model stands for
Regenerated from /repo's source on every run (`harness/cmd/astfacts` → `OnetVerif/Shapes.lean`): the
calls that matter for synchronisation and data flow, the lock regions and (for decision logic) the
conditions, in source order.  A re-ordering, a dropped call or a changed condition breaks these
obligations even when no sampled input or schedule shows a difference; the check then searches for
a failing input. -/

theorem c14_shape_ServiceProcessor_ProcessClientRequest :
    Shapes.processor_ServiceProcessor_ProcessClientRequest =
   ["assign:mh,ok:=p.handlers[path]", "if:mh.streaming",
     "return:nil,nil,xerrors.Errorf((\"\"+\"\"))", "if:!ok",
     "assign:err:=xerrors.New((\"\"+path))", "return:nil,nil,err",
     "assign:msg:=reflect.New().Interface()", "server.Suite", "network.DefaultConstructors",
     "protobuf.DecodeWithConstructors",
     "assign:err:=protobuf.DecodeWithConstructors(buf,msg,network.DefaultConstructors(p.Context.server.Suite()))",
     "if:(err!=nil)", "return:nil,nil,xerrors.Errorf(\"\",err)",
     "return:callInterfaceFunc(mh.handler,msg,mh.streaming)", "assign:reply,_,err:=func()",
     "if:(err!=nil)", "return:nil,nil,err", "protobuf.Encode",
     "assign:buf,err=protobuf.Encode(reply)", "if:(err!=nil)",
     "return:nil,nil,xerrors.Errorf(\"\",err)", "return:buf,nil,nil"] := rfl

theorem c14_shape_callInterfaceFunc :
    Shapes.processor_callInterfaceFunc =
   ["defer{", "assign:r:=recover()", "if:(r!=nil)", "assign:err=xerrors.Errorf(\"\",r)", "}",
     "assign:to:=reflect.TypeOf().In(0)", "assign:f:=reflect.ValueOf(handler)",
     "assign:arg:=reflect.New(to.Elem())", "arg.Elem", "Elem().Set", "f.Call",
     "assign:ret:=f.Call(conv{arg})", "if:streaming", "ret[].Interface",
     "assign:ierr:=ret[].Interface()", "if:(ierr!=nil)", "assign:err=xerrors.Errorf(\"\",ierr)",
     "return:", "ret[].Interface", "assign:intf=ret[].Interface()", "ret[].Interface",
     "assign:ch=ret[].Interface().(conv)", "return:", "ret[].Interface",
     "assign:ierr:=ret[].Interface()", "if:(ierr!=nil)", "assign:err=xerrors.Errorf(\"\",ierr)",
     "return:", "ret[].Interface", "assign:intf=ret[].Interface()", "return:"] := rfl

theorem c14_shape_ServiceProcessor_RegisterRESTHandler :
    Shapes.processor_ServiceProcessor_RegisterRESTHandler =
   ["handlerInputCheck", "createServiceHandler", "prepareHandlerGET", "regexp.Compile",
     "regexp.Compile", "wrapJSONMsg", "http.Error", "URL.EscapedPath", "intRegex.MatchString",
     "wrapJSONMsg", "http.Error", "URL.EscapedPath", "path.Split", "strconv.Atoi", "wrapJSONMsg",
     "http.Error", "int64", "val0.Elem", "Elem().Field", "Field().SetInt", "URL.EscapedPath",
     "sliceRegex.MatchString", "wrapJSONMsg", "http.Error", "URL.EscapedPath", "path.Split",
     "hex.DecodeString", "err.Error", "wrapJSONMsg", "http.Error", "val0.Elem", "Elem().Field",
     "Field().SetBytes", "wrapJSONMsg", "http.Error", "Header.Get", "wrapJSONMsg", "http.Error",
     "ioutil.ReadAll", "err.Error", "wrapJSONMsg", "http.Error", "val0.Interface",
     "json.Unmarshal", "err.Error", "wrapJSONMsg", "http.Error", "wrapJSONMsg", "http.Error",
     "val0.Interface", "callInterfaceFunc", "err.Error", "wrapJSONMsg", "http.Error",
     "wrapJSONMsg", "http.Error", "json.Marshal", "err.Error", "wrapJSONMsg", "http.Error",
     "w.Header", "Header().Set", "w.Write", "p.getRouter", "getRouter().HandleFunc"] := rfl

theorem c14_shape_wsHandler_ServeHTTP :
    Shapes.websocket_wsHandler_ServeHTTP =
   ["assign:rx:=0", "assign:tx:=0", "assign:n:=0", "defer{", "}", "return:true",
     "assign:u:=websocket.Upgrader{EnableCompression:false,CheckOrigin:func}", "u.Upgrade",
     "assign:ws,err:=u.Upgrade(w,r,http.Header{})", "if:(err!=nil)", "return:", "defer:ws.Close",
     "for:(err==nil){", "ws.ReadMessage", "assign:mt,buf,rerr:=ws.ReadMessage()",
     "if:(rerr!=nil)", "assign:err=rerr", "break", "assign:rx+=len(buf)", "assign:n++",
     "assign:s:=t.service",
     "assign:path:=strings.TrimPrefix(r.URL.Path,((\"\"+t.serviceName)+\"\"))",
     "assign:isStreaming:=false", "assign:bidirectionalStreamer,ok:=s.(BidirectionalStreamer)",
     "if:ok", "bidirectionalStreamer.IsStreaming",
     "assign:isStreaming,err=bidirectionalStreamer.IsStreaming(path)", "if:(err!=nil)",
     "continue", "if:!isStreaming", "s.ProcessClientRequest",
     "assign:reply,_,err=s.ProcessClientRequest(r,path,buf)", "if:(err!=nil)", "continue",
     "assign:tx+=len(reply)", "time.Now", "Now().Add", "ws.SetWriteDeadline",
     "assign:err=ws.SetWriteDeadline(time.Now().Add((5*time.Minute)))", "if:(err!=nil)", "break",
     "ws.WriteMessage", "assign:err=ws.WriteMessage(mt,reply)", "if:(err!=nil)", "break",
     "continue", "assign:clientInputs:=make(conv,10)", "send:clientInputs",
     "bidirectionalStreamer.ProcessClientStreamRequest",
     "assign:outChan,err=bidirectionalStreamer.ProcessClientStreamRequest(r,path,clientInputs)",
     "if:(err!=nil)", "continue", "assign:closing:=make(conv)", "assign:leaving:=make(conv)",
     "go{", "defer:close:clientInputs", "defer:verifC15Point", "for:{", "ws.ReadMessage",
     "assign:_,buf,err:=ws.ReadMessage()", "if:(err!=nil)", "close:closing", "return:",
     "verifC15Point", "send:clientInputs", "recv:leaving", "return:", "}", "}", "for:{",
     "recv:closing", "break", "recv:outChan", "assign:reply,ok:=<-outChan", "if:!ok",
     "websocket.FormatCloseMessage", "time.Now", "Now().Add", "ws.WriteControl", "verifC15Point",
     "close:leaving", "return:", "assign:tx+=len(reply)", "time.Now", "Now().Add",
     "ws.SetWriteDeadline", "assign:err=ws.SetWriteDeadline(time.Now().Add((5*time.Minute)))",
     "if:(err!=nil)", "verifC15Point", "close:leaving", "break", "ws.WriteMessage",
     "assign:err=ws.WriteMessage(mt,reply)", "if:(err!=nil)", "verifC15Point", "close:leaving",
     "break", "}", "}", "assign:errMessage:=\"\"", "if:(err!=nil)", "err.Error",
     "assign:errMessage+=err.Error()", "websocket.FormatCloseMessage", "time.Now", "Now().Add",
     "ws.WriteControl", "return:"] := rfl

theorem c14_shape_client_Client_Send :
    Shapes.websocket_client_Client_Send =
   ["c.newConnIfNotExist", "defer:connLock.Unlock", "defer{", "c.Lock", "conn.Close",
     "c.closeSingleUseConn", "c.Unlock", "}", "conn.WriteMessage", "time.Now", "Now().Add",
     "conn.SetReadDeadline", "conn.ReadMessage"] := rfl

theorem c14_shape_client_Client_newConnIfNotExist :
    Shapes.websocket_client_Client_newConnIfNotExist =
   ["c.Lock", "c.Unlock", "connLock.Lock", "c.Lock", "c.Unlock", "url.Parse", "connLock.Unlock",
     "u.String", "getWSHostPort", "connLock.Unlock", "d.Dial", "time.Sleep", "connLock.Unlock",
     "c.Lock", "c.Unlock"] := rfl

theorem c14_shape_client_Client_closeConn :
    Shapes.websocket_client_Client_closeConn =
   ["websocket.FormatCloseMessage", "conn.WriteMessage", "conn.Close"] := rfl

theorem c14_shape_client_Client_closeSingleUseConn :
    Shapes.websocket_client_Client_closeSingleUseConn =
   ["c.closeConn"] := rfl

theorem c14_shape_client_Client_SendProtobufParallelWithDecoder :
    Shapes.websocket_client_Client_SendProtobufParallelWithDecoder =
   ["protobuf.Encode", "opt.GetList", "recv:done", "recv:nodesChan", "c.Send", "send:errChan",
     "decoding.Lock", "recv:done", "decoder", "send:errChan", "send:decodedChan", "close:done",
     "decoding.Unlock", "go{", "contactNode", "}", "recv:decodedChan", "recv:errChan",
     "opt.Quit", "decoding.Lock", "recv:done", "close:done", "decoding.Unlock"] := rfl

theorem c14_shape_client_Client_SendToAll :
    Shapes.websocket_client_Client_SendToAll =
   ["assign:msgs:=make(conv,len(dst.List))", "range:i,e:=dst.List{", "c.Send",
     "assign:msgs[i],err=c.Send(e,path,buf)", "if:(err!=nil)",
     "assign:errstrs=append(errstrs,fmt.Sprint(e.String(),err.Error()))", "}",
     "if:(len(errstrs)>0)", "assign:err=xerrors.New(strings.Join(errstrs,\"\"))",
     "return:msgs,err"] := rfl

end C14

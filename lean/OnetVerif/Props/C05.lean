import OnetVerif.Shapes
import OnetVerif.Proofs.C05Conn
import OnetVerif.Proofs.C05Chan
import OnetVerif.Proofs.C05Agg
import OnetVerif.Proofs.C05Reg
/-! Property C05 — one instance's handlers run one at a time, in acceptance order; a blocked
handler delays only its own instance.  The statements about runs are for arbitrary schedules (`List Act`),
hence unboundedly many feeders, messages and interleavings.  What they mention beside the models (`Inv`, `cur`,
`runT`, `srun`, `proj`, `freeze`, …) is defined in the `Proofs/C05*.lean` file of its model. -/
namespace C05

/-- **acceptance order**: under every schedule, the handlers that have started are exactly a
prefix of the messages accepted for the instance, in acceptance order (nothing skipped,
nothing reordered, nothing duplicated). -/
theorem c05_fifo (as : List Act) (s : St) (hr : run {} as = some s) :
    s.started <+: s.accepted :=
  (reachable hr).1.started_prefix

/-- **one at a time**: a handler starts only after the previous one returned — the started
handlers are the finished ones plus at most one running. -/
theorem c05_serial (as : List Act) (s : St) (hr : run {} as = some s) :
    ∃ running, s.started = s.finished ++ running ∧ running.length ≤ 1 :=
  (reachable hr).1.one_running

/-- **no lost wake-up**: whenever the reader sleeps while a message is queued, the wake-up token is
there; hence a reader with pending work and no running handler can always take a step. -/
theorem c05_no_lost_wakeup (as : List Act) (s : St) (hr : run {} as = some s)
    (hq : s.queue ≠ []) (hp : ∀ m, s.pc ≠ .handling m) (hst : s.pc ≠ .stopped) :
    step s .reader ≠ none := by
  intro hb
  rcases reader_blocked hb with ⟨hpc, ht⟩ | hpc
  · exact nomatch ht.symm.trans ((reachable hr).1.wake hpc hq)
  · exact hst hpc

/-- **everything accepted is handled**: in a state where the reader is blocked (no step enabled)
and the instance was not closed, every accepted message has been handled to the end. -/
theorem c05_quiescent_all_handled (as : List Act) (s : St) (hr : run {} as = some s)
    (hblocked : step s .reader = none) (hc : s.closing = false) :
    s.finished = s.accepted ∧ s.queue = [] :=
  quiescent_of_inv s (reachable hr).1 (reachable hr).2 hblocked hc

/-- **handing a message over never waits for a handler**: `accept` is enabled in every state,
in particular while the instance's handler is blocked for ever. -/
theorem c05_handover_nonblocking (s : St) (m : Nat) : step s (.accept m) ≠ none := by
  rw [step_accept]; exact Option.some_ne_none _

/-! ### non-vacuity: a concrete schedule with two feeders and a slow handler -/
example : ∃ s, run {} [.accept 1, .reader, .accept 2, .accept 3, .reader, .reader, .reader, .reader] = some s ∧
    s.started = [1, 2, 3] ∧ s.finished = [1, 2] ∧ s.accepted = [1, 2, 3] := by
  refine ⟨_, rfl, ?_⟩; decide +kernel

example : step { pc := .handling 7 } (.accept 9) ≠ none := c05_handover_nonblocking _ _

/-- **a blocked handler delays only its own instance**: on a server with any number of
instances, (1) a step of instance `i` leaves every other instance untouched, and (2) whatever
instance `i` is doing — including sitting in a handler that never returns — a message for another
instance `j` can be handed over and `j`'s reader can start its handler. -/
theorem c05_instances_independent (s s' : Server) (i j : Nat) (a : Act) (hij : j ≠ i)
    (hs : sstep s (.at i a) = some s') : s' j = s j := by
  obtain ⟨t, _, rfl⟩ := Option.map_eq_some_iff.mp hs
  exact if_neg hij

/-- part (2): while instance `i` sits in a handler, an instance `j ≠ i` whose reader is idle with an empty
queue and which is not closing accepts a message `m` and its reader starts the handler for `m`; `i` stays where it is. -/
theorem c05_other_instance_progresses (s : Server) (i j : Nat) (m k : Nat) (hij : j ≠ i)
    (hblocked : (s i).pc = .handling k) (hidle : (s j).pc = .top) (hq : (s j).queue = [])
    (hc : (s j).closing = false) :
    ∃ s1 s2, sstep s (.at j (.accept m)) = some s1 ∧ sstep s1 (.at j .reader) = some s2 ∧
      (s2 j).pc = .handling m ∧ (s2 i).pc = .handling k := by
  have hji : i ≠ j := fun e => hij e.symm
  let t1 : St := { (s j) with queue := (s j).queue ++ [m], token := true, accepted := (s j).accepted ++ [m] }
  let s1 : Server := fun x => if x = j then t1 else s x
  let t2 : St := { t1 with queue := [], pc := .handling m, started := t1.started ++ [m] }
  let s2 : Server := fun x => if x = j then t2 else s1 x
  have a1 : step (s j) (.accept m) = some t1 := by
    rw [step_accept, if_neg (Bool.eq_false_iff.mp hc)]
  have a2 : step t1 .reader = some t2 := by
    have hq1 : t1.queue = [m] := by rw [show t1.queue = (s j).queue ++ [m] from rfl, hq]; rfl
    simp only [step, show t1.pc = .top from hidle, hq1]
    exact if_neg (Bool.eq_false_iff.mp (show t1.closing = false from hc))
  have e1 : sstep s (.at j (.accept m)) = some s1 := by rw [sstep, a1]; rfl
  have e2 : sstep s1 (.at j .reader) = some s2 := by
    rw [sstep, show s1 j = t1 from if_pos rfl, a2]; rfl
  have hi : s2 i = s i := by rw [show s2 i = s1 i from if_neg hji, show s1 i = s i from if_neg hji]
  exact ⟨s1, s2, e1, e2, by rw [show s2 j = t2 from if_pos rfl], by rw [hi]; exact hblocked⟩

/-! ### refinement: the instance is a FIFO work queue with one worker
The abstract specification a protocol author has in mind: messages are enqueued, one worker takes the
oldest one, works on it, finishes it, takes the next; shutting the queue stops the worker from
taking more.  Every step of the implementation model (mutex regions, wake-up token, sleeping and
waking reader) is one step of this specification or no step at all. -/
structure Spec where
  pending : List Nat := []
  working : Option Nat := none
  done : List Nat := []
  isOpen : Bool := true
  deriving DecidableEq, Repr

inductive SpecAct where | enq (m : Nat) | start | finish | shut
  deriving Repr

def specStep (q : Spec) : SpecAct → Option Spec
  | .enq m => if q.isOpen then some { q with pending := q.pending ++ [m] } else none
  | .start =>
      match q.working, q.pending, q.isOpen with
      | none, m :: rest, true => some { q with pending := rest, working := some m }
      | _, _, _ => none
  | .finish =>
      match q.working with
      | some m => some { q with working := none, done := q.done ++ [m] }
      | none => none
  | .shut => some { q with isOpen := false }

/-- the abstraction function: the wake-up token and where exactly the idle reader is are invisible -/
def abs (s : St) : Spec :=
  { pending := s.queue, working := (match s.pc with | .handling m => some m | _ => none),
    done := s.finished, isOpen := !s.closing }

/-- **refinement**: every implementation step is a specification step or a stutter. -/
theorem c05_refines_queue (s s' : St) (a : Act) (hs : step s a = some s') :
    abs s' = abs s ∨ ∃ b, specStep (abs s) b = some (abs s') := by
  cases step_move hs with
  | refuse => exact .inl rfl
  | accept m hc =>
    refine .inr ⟨.enq m, ?_⟩
    simp only [specStep, abs, hc]; rfl
  | close => exact .inr ⟨.shut, rfl⟩
  | stop hpc | sleep hpc | wake hpc => left; simp only [abs, hpc]
  | pop m q hpc hc hq =>
    refine .inr ⟨.start, ?_⟩
    simp only [specStep, abs, hpc, hq, hc]; rfl
  | finish m hpc =>
    refine .inr ⟨.finish, ?_⟩
    simp only [specStep, abs, hpc]

/-- the initial states correspond -/
theorem c05_refines_queue_init : abs {} = {} := rfl

/-- what the specification guarantees by construction (stated so that the refinement has a content):
the messages enqueued while the queue was open are always `done ++ working ++ pending` — work is
taken in enqueueing order, one piece at a time, nothing is skipped -/
theorem c05_spec_order (q q' : Spec) (b : SpecAct) (enq : List Nat) (hb : specStep q b = some q')
    (h : enq = q.done ++ q.working.toList ++ q.pending) :
    (match b with | .enq m => enq ++ [m] | _ => enq) = q'.done ++ q'.working.toList ++ q'.pending := by
  cases b with
  | enq m =>
    simp only [specStep] at hb
    split at hb <;> cases hb
    exact (congrArg (· ++ [m]) h).trans (List.append_assoc _ _ _)
  | start =>
    simp only [specStep] at hb
    split at hb <;> cases hb
    rename_i m rest hw hp _
    rw [hw, hp, Option.toList_none, List.append_nil] at h
    exact h.trans (List.append_cons _ m rest)
  | finish =>
    simp only [specStep] at hb
    split at hb <;> cases hb
    rename_i m hw
    rw [hw] at h
    exact h.trans (congrArg (· ++ q.pending) (List.append_nil _).symm)
  | shut => cases hb; exact h

/-! ### the server: any number of instances, arbitrary schedules
`c05_instances_independent` is about one step and `c05_other_instance_progresses` about one particular
state; the statements below are for whole schedules over a server with any number of instances. -/

/-- **instances are independent, for whole schedules**: what instance `j` does under a server
schedule is exactly what it does on its own under the sub-schedule of its own actions — whatever
the other instances do in between, including one whose handler never returns (its reader simply
has no further action in the schedule). -/
theorem c05_server_projection (as : List SAct) (s : Server) (j : Nat) :
    srun s as j = runT (s j) (proj j as) := by
  induction as generalizing s with
  | nil => rfl
  | cons x as ih =>
    obtain ⟨i, a⟩ := x
    rw [srun_skips.cons, ih, sstep_getD, proj]
    split
    · rw [runT_skips.cons]
    · rfl

/-- **order, one at a time, nothing lost — for every instance of a server, under every server
schedule**: the handlers instance `j` has started are a prefix of what was accepted for `j`, at most
one of them is running, and when `j`'s reader can do nothing more (and `j` was not closed) every
message accepted for `j` has been handled to the end — no matter what state any other instance is
in. -/
theorem c05_server_each_instance (as : List SAct) (j : Nat) :
    let t := srun (fun _ => {}) as j
    t.started <+: t.accepted ∧
    (∃ running, t.started = t.finished ++ running ∧ running.length ≤ 1) ∧
    (step t .reader = none → t.closing = false → t.finished = t.accepted ∧ t.queue = []) := by
  intro t
  have hr : run {} (proj j as) = some t :=
    (run_eq_runT _ _).trans (congrArg some (c05_server_projection as (fun _ => {}) j).symm)
  exact ⟨c05_fifo _ t hr, c05_serial _ t hr, c05_quiescent_all_handled _ t hr⟩

/-- non-vacuity: instance 0 sits in the handler of message 1 for the rest of the schedule; instance 1,
fed in between, handles 7 and 8 to the end -/
example : (srun (fun _ => {}) [.at 0 (.accept 1), .at 0 .reader, .at 0 (.accept 2), .at 1 (.accept 7), .at 1 .reader,
      .at 0 (.accept 3), .at 1 (.accept 8), .at 1 .reader, .at 1 .reader, .at 1 .reader] 1).finished = [7, 8] := by decide +kernel

example : (srun (fun _ => {}) [.at 0 (.accept 1), .at 0 .reader, .at 0 (.accept 2), .at 1 (.accept 7), .at 1 .reader,
      .at 0 (.accept 3), .at 1 (.accept 8), .at 1 .reader, .at 1 .reader, .at 1 .reader] 0).pc = .handling 1 := by decide +kernel

/-! ### from the connection to the queue (`Model/C05Conn.lean`)
The receive loop of every connection, the two dispatchers, the overlay's hand-over under `transmitMux`,
all instances of the server and the service processors in one transition system. -/
namespace Conn

/-- **the connection's goroutine never waits for a handler**: whether connection `c`'s goroutine can
take its next step is decided by the wire, by where the goroutine is and by `transmitMux` — no
instance's queue, wake-up token or reader state occurs in `loopReady`.  So a connection with input
proceeds while any number of handlers (and service processors) are blocked for ever; the only thing
it ever waits for is a protocol constructor running inside `transmitMux`. -/
theorem c05_conn_loop_never_waits_for_handler (s : St) (c : Nat) :
    (step s (.loop c)).isSome = loopReady s c := by
  simp only [step, loopReady]
  cases hl : s.loop c with
  | recv => cases hw : s.wire c <;> simp
  | disp e =>
    cases e with
    | svc p m => simp
    | proto i m =>
      cases hm : s.mux
      · by_cases hlive : i ∈ s.live <;> simp [hlive]
      · simp
  | ctor i m => simp

/-- the same, as the frame statement it is: two server states that differ only in what their
instances are doing (queues, tokens, readers, running handlers, running processors) enable
exactly the same connection steps -/
theorem c05_conn_loop_frame (s s' : St) (c : Nat) (hw : s.wire c = s'.wire c) (hl : s.loop c = s'.loop c)
    (hm : s.mux = s'.mux) : (step s (.loop c)).isSome = (step s' (.loop c)).isSome := by
  rw [c05_conn_loop_never_waits_for_handler, c05_conn_loop_never_waits_for_handler]
  simp [loopReady, hw, hl, hm]

/-- **service messages never hold a connection**: with a service envelope in hand the goroutine's
next step is always enabled and brings it back to `Receive` (the processor runs in a goroutine of its
own, `RoutineDispatcher`) -/
theorem c05_conn_service_message_returns (s : St) (c p m : Nat) (hl : s.loop c = .disp (.svc p m)) :
    ∃ s', step s (.loop c) = some s' ∧ s'.loop c = .recv ∧ s'.running = s.running ++ [(p, m)] := by
  refine ⟨{ s with running := s.running ++ [(p, m)], loop := upd s.loop c .recv }, by simp only [step, hl], ?_, rfl⟩
  simp [upd]

/-- **acceptance order = hand-over order = connection order**: under every schedule (any number of
connections, local senders, instances, blocked handlers, constructors, processors)
(1) the messages handed over from connection `c` are a prefix of the protocol messages written on
`c`, in writing order (nothing overtakes on a connection, nothing is skipped or duplicated);
(2) the messages instance `i` accepted are the server's hand-overs to `i`, in that order;
(3) the handlers `i` started are a prefix of that, and at most one is running. -/
theorem c05_conn_order (as : List Act) (c i : Nat) :
    let s := run {} as
    handsOn c s.hand <+: protos (onConn c s.sent) ∧
    (s.inst i).accepted = takenBy i s.hand ∧
    (s.inst i).started <+: takenBy i s.hand ∧
    (∃ running, (s.inst i).started = (s.inst i).finished ++ running ∧ running.length ≤ 1) := by
  intro s
  have hI : Inv s := reachable as
  exact ⟨hI.sent_eq c ▸ List.prefix_append _ _, hI.acc i, hI.acc i ▸ (hI.inst i).started_prefix, (hI.inst i).one_running⟩

/-- every wire is empty and every connection's goroutine is back in `Receive` -/
def Drained (s : St) : Prop := ∀ c, s.wire c = [] ∧ s.loop c = .recv

/-- **nothing is stuck on the way**: once the connections are drained, every protocol message written
on connection `c` has been handed over (in writing order), and every instance that was not closed
and whose reader can do nothing more has handled everything that was handed to it — whatever any
other instance is doing (in particular: sitting in a handler that never returns). -/
theorem c05_conn_drained_all_handled (as : List Act) (hd : Drained (run {} as)) (c i : Nat) :
    let s := run {} as
    handsOn c s.hand = protos (onConn c s.sent) ∧
    (C05.step (s.inst i) .reader = none → (s.inst i).closing = false →
      (s.inst i).finished = takenBy i s.hand ∧ (s.inst i).queue = []) := by
  intro s
  have hI : Inv s := reachable as
  refine ⟨?_, fun hb hc => hI.acc i ▸ C05.quiescent_of_inv (s.inst i) (hI.inst i) (hI.stop i) hb hc⟩
  rw [hI.sent_eq c, (hd c).1, (hd c).2]
  exact (List.append_nil _).symm

/-- **slow or blocked handlers delay only their own instances — any number of them**: take any
schedule and the same schedule in which the readers of an arbitrary set `B` of instances never move
again from the start (so whatever handlers they are in never return and nothing more of their
backlogs is handled; `B` may be all instances of the server but one, thirty-two of them, or one).
Everything else on the server is identical in the two runs: every wire, every connection's goroutine
— including the connections that carry the messages of `B` —, `transmitMux`, the order of all
hand-overs, the running service processors, and the complete state (queue, handlers started and
finished) of every instance outside `B`. -/
theorem c05_conn_blocked_handler_delays_only_its_instance (as : List Act) (B : Nat → Bool) :
    let s := run {} as
    let s' := run {} (freeze B as)
    s.wire = s'.wire ∧ s.loop = s'.loop ∧ s.mux = s'.mux ∧ s.hand = s'.hand ∧ s.got = s'.got ∧
    s.running = s'.running ∧ ∀ j, B j = false → s.inst j = s'.inst j := by
  have h := sameBut_run B as {} {} (sameBut_refl B {})
  exact ⟨h.wire, h.loop, h.mux, h.hand, h.got, h.running, h.inst⟩

/-- with everybody else frozen, an instance outside `B` still handles everything handed to it: the
previous theorem composed with `c05_conn_drained_all_handled` (stated for the frozen schedule itself,
which is a schedule like any other) -/
theorem c05_conn_progress_among_blocked (as : List Act) (B : Nat → Bool) (j : Nat)
    (hd : Drained (run {} (freeze B as))) :
    let s' := run {} (freeze B as)
    C05.step (s'.inst j) .reader = none → (s'.inst j).closing = false →
      (s'.inst j).finished = takenBy j s'.hand ∧ (s'.inst j).queue = [] :=
  (c05_conn_drained_all_handled (freeze B as) hd 0 j).2

/-- non-vacuity: connection 0 carries, in this order, message 1 for instance 0, a service message, 2
for instance 0, 7 and 8 for instance 1.  Instance 0 enters the handler of 1 and never leaves it, the
service processor never returns; instance 1 (same connection) handles 7 and 8, 2 waits in 0's queue. -/
def demo : List Act :=
  [.send 0 (.proto 0 1), .send 0 (.svc 5 9), .send 0 (.proto 0 2), .send 0 (.proto 1 7), .send 0 (.proto 1 8),
   .loop 0, .loop 0, .ctorRet 0, .reader 0, .loop 0, .loop 0, .loop 0, .loop 0, .loop 0, .loop 0, .ctorRet 0,
   .reader 1, .loop 0, .loop 0, .reader 1, .reader 1, .reader 1]

example : ((run {} demo).inst 1).finished = [7, 8] ∧ ((run {} demo).inst 0).pc = .handling 1 ∧
    ((run {} demo).inst 0).queue = [2] ∧ (run {} demo).running = [(5, 9)] ∧
    (run {} demo).hand = [⟨0, 0, 1, true⟩, ⟨0, 0, 2, true⟩, ⟨0, 1, 7, true⟩, ⟨0, 1, 8, true⟩] := by decide +kernel

example : (run {} demo).wire 0 = [] ∧ (run {} demo).loop 0 = .recv := by decide +kernel

/-- the one thing a connection does wait for: a constructor inside `transmitMux` (connection 1's
message for the existing instance 0 waits while connection 0 constructs instance 3) -/
example : (step (run {} [.send 0 (.proto 0 1), .loop 0, .loop 0, .ctorRet 0, .send 0 (.proto 3 1), .loop 0, .loop 0,
    .send 1 (.proto 0 2), .loop 1]) (.loop 1)).isSome = false := by decide +kernel

/-- non-vacuity for many blocked instances: thirty-three instances each enter a handler that never
returns (their readers are frozen), the thirty-fourth, fed over the same connection, handles its message -/
def manyBlocked (n : Nat) : List Act :=
  ((List.range n).flatMap fun i => [.send 0 (.proto i 1), .loop 0, .loop 0, .ctorRet 0, .reader i]) ++
  [.send 0 (.proto n 7), .loop 0, .loop 0, .ctorRet 0, .reader n, .reader n, .reader n]

set_option maxRecDepth 8000 in
example : ((run {} (freeze (fun i => decide (i < 33)) (manyBlocked 33))).inst 33).finished = [7] ∧
    ((run {} (manyBlocked 33)).inst 33).finished = [7] ∧
    ((run {} (manyBlocked 33)).inst 32).pc = .handling 1 ∧ ((run {} (manyBlocked 33)).inst 0).pc = .handling 1 := by
  decide +kernel

end Conn

/-! ### a type received through a bounded channel (`Model/C05Chan.lean`)  -/
namespace Chan

/-- **order through a channel**: under every schedule, what the protocol has read from its channel followed
by what still sits in the channel is exactly the sequence of messages the reader put there, and that is a
subsequence of the channel-type messages in the order in which the instance accepted them — a message may
be missing (the channel was full, or the instance was closing), but no message ever overtakes one that was
accepted before it, and none shows up twice or out of nowhere. -/
theorem c05_chan_order (c : Nat) (as : List Act) :
    let s := run { cap := c } as
    s.taken ++ s.chan = put s ∧ (put s).Sublist (cmsgs s.accepted) := by
  intro s
  have h : Inv s := (reachable c as).1
  refine ⟨h.chan, ?_⟩
  have h1 : (put s).Sublist (s.log.map (·.1)) := fated_sublist _ _
  have h2 : (s.log.map (·.1)).Sublist (cmsgs s.popped) := by
    rw [← h.clog]; exact List.sublist_append_left _ _
  have h3 : (cmsgs s.popped).Sublist (cmsgs s.accepted) := by
    rw [h.order, cmsgs_append]; exact List.sublist_append_left _ _
  exact (h1.trans h2).trans h3

/-- **handlers of such an instance**: the handler-type messages are still handled one at a time and in
acceptance order, whatever happens to the channel-type messages in between. -/
theorem c05_chan_handlers_in_order (c : Nat) (as : List Act) :
    let s := run { cap := c } as
    s.started <+: hmsgs s.accepted ∧ ∃ running, s.started = s.finished ++ running ∧ running.length ≤ 1 := by
  intro s
  have h : Inv s := (reachable c as).1
  refine ⟨?_, cur s, h.serial, length_cur_le s⟩
  rw [h.hstart, h.order, hmsgs_append]; exact List.prefix_append _ _

/-- **a rejected message is gone**: when the messages are distinguishable (no repeated number among the
channel-type messages accepted), a message that found the channel full is never delivered afterwards: under
every continuation of the schedule it has not been read by the protocol, does not sit in the channel, is not
carried by the reader and is not back in the queue. -/
theorem c05_chan_rejected_gone (c : Nat) (as : List Act) (m : Nat) :
    let s := run { cap := c } as
    (cmsgs s.accepted).Nodup → m ∈ rejected s →
      m ∉ s.taken ∧ m ∉ s.chan ∧ m ∉ carrying s ∧ (true, m) ∉ s.queue :=
  fun hn hm => (reachable c as).1.not_put_gone hn (f := .full) (fun e => nomatch e) hm

/-- **with free capacity nothing is lost**: as long as no message found the channel full and the instance
is not closed, what the protocol read, what sits in the channel, what the reader carries and the channel-type
messages still queued are, in this order, exactly the channel-type messages in acceptance order. -/
theorem c05_chan_lossless_with_capacity (c : Nat) (as : List Act) :
    let s := run { cap := c } as
    rejected s = [] → s.closing = false →
      s.taken ++ s.chan ++ carrying s ++ cmsgs s.queue = cmsgs s.accepted := by
  intro s hr hc
  have h : Inv s := (reachable c as).1
  have hl : fated .late s.log = [] := (reachable c as).2 hc
  rw [h.chan, put, fated_put_of_no_other s.log hr hl, h.clog, h.order, cmsgs_append]

/-- **a full channel never holds the reader**: the reader's step on a channel message is enabled whether
the channel has room or not (a full channel is an error return, not a wait) — so a protocol that is late
reading its channel delays nobody, not even its own instance's handlers. -/
theorem c05_chan_full_never_blocks_reader (s : St) (m : Nat) (hp : s.pc = .sending m) :
    ∃ s', step s .reader = some s' ∧ s'.pc = .top ∧ s'.queue = s.queue := by
  refine ⟨_, step_sending hp, ?_⟩
  split
  · split <;> exact ⟨rfl, rfl⟩
  · exact ⟨rfl, rfl⟩

/-- the documented overflow: with the channel full the message is recorded as rejected and the channel,
the queue and everything the protocol has read stay as they are -/
theorem c05_chan_full_rejects (s s' : St) (m : Nat) (hp : s.pc = .sending m) (hfull : s.cap ≤ s.chan.length)
    (hs : step s .reader = some s') :
    rejected s' = rejected s ++ [m] ∧ s'.chan = s.chan ∧ s'.queue = s.queue ∧ s'.taken = s.taken ∧ put s' = put s := by
  rw [step_sending hp, if_neg (Nat.not_lt.mpr hfull)] at hs
  cases hs
  exact ⟨fated_append _ _ _, rfl, rfl, rfl, fated_snoc_ne rfl _ m⟩

/-- non-vacuity (the schedule of the seeded change C05r5-A: channel of one place; 0 fills it, 1 finds it
full, the protocol reads 0, 2 finds room): the protocol reads 0 and 2, message 1 is rejected and gone -/
example :
    let s := run { cap := 1 } [.accept true 0, .reader, .reader, .accept true 1, .reader, .reader, .take,
      .accept true 2, .reader, .reader, .take, .reader, .reader, .reader]
    s.taken = [0, 2] ∧ rejected s = [1] ∧ s.chan = [] ∧ s.queue = [] ∧ s.pc = .waiting ∧
      (cmsgs s.accepted).Nodup := by decide +kernel

/-- … and with handler messages in between: the handler of 10 runs while 0 and 1 wait in the queue behind it -/
example :
    let s := run { cap := 1 } [.accept false 10, .reader, .accept true 0, .accept true 1, .reader, .reader,
      .reader, .reader, .reader, .reader]
    s.finished = [10] ∧ s.chan = [0] ∧ rejected s = [1] ∧ s.taken = [] := by decide +kernel

/-! #### the `late` fate: a close between the pop and `dispatchChannel`'s tests (driven by the ops `chhold` / `chrel`:
the harness holds the reader in `createValueAndVerify` → `Tree()` through the tree store's lock) -/

/-- **nothing reaches the protocol's channel after the close**: from a state in which `closeDispatch` has
happened, under every continuation (hand-overs, reader steps — among them the step of a reader that popped
its message *before* the close —, reads of the channel) the sequence of messages ever sent into the channel
stays what it was; what the protocol can still read is what sat in the channel at the close. -/
theorem c05_chan_nothing_put_after_close (c : Nat) (as bs : List Act) :
    let s := run { cap := c } as
    s.closing = true →
      put (run s bs) = put s ∧ (run s bs).taken ++ (run s bs).chan = s.taken ++ s.chan ∧
      (run s bs).closing = true := by
  intro s hc
  have hI : Inv s := (reachable c as).1
  have hI' : Inv (run s bs) := run_skips.inv inv_step bs s hI
  obtain ⟨k2, k1⟩ := run_skips.inv (P := fun t => t.closing = true ∧ put t = put s)
    (fun t t' a h hs => ⟨(closed_step t t' a h.1 hs).1, (closed_step t t' a h.1 hs).2.trans h.2⟩) bs s ⟨hc, rfl⟩
  exact ⟨k1, by rw [hI'.chan, hI.chan, k1], k2⟩

/-- **a message the close overtook is gone**: with distinguishable messages, a message the reader had popped
when the instance was closed (fate `late`) is, under every continuation, not read by the protocol, not in
the channel, not carried and not back in the queue. -/
theorem c05_chan_late_gone (c : Nat) (as : List Act) (m : Nat) :
    let s := run { cap := c } as
    (cmsgs s.accepted).Nodup → m ∈ fated .late s.log →
      m ∉ s.taken ∧ m ∉ s.chan ∧ m ∉ carrying s ∧ (true, m) ∉ s.queue :=
  fun hn hm => (reachable c as).1.not_put_gone hn (f := .late) (fun e => nomatch e) hm

/-- **the tests are made when the message is dispatched, not when it is popped**: whatever happened between
the pop and the reader's next step, that step looks at the channel and at `closing` as they are *then* —
room and open: the message goes into the channel; room and closing: it does not. -/
theorem c05_chan_tests_at_dispatch (s : St) (m : Nat) (hp : s.pc = .sending m) (hroom : s.chan.length < s.cap) :
    step s .reader = some (if s.closing
      then { s with pc := .top, log := s.log ++ [(m, .late)] }
      else { s with pc := .top, chan := s.chan ++ [m], log := s.log ++ [(m, .put)] }) := by
  rw [step_sending hp, if_pos hroom]

/-- non-vacuity (the schedule of the ops `chhold 1, chclose, chrel`): popped, then closed, then the reader's
step: message 1 is `late`, the channel stays empty, the reader stops; and (`chhold 2` on a full channel of one
place, the protocol reads, `chrel`) the message popped while the channel was full finds room at its dispatch -/
example :
    let s := run { cap := 1 } [.accept true 1, .reader, .close, .reader, .reader]
    fated .late s.log = [1] ∧ s.chan = [] ∧ put s = [] ∧ s.closing = true ∧ s.pc = .stopped ∧ (cmsgs s.accepted).Nodup := by
  decide +kernel

example :
    let s := run { cap := 1 } [.accept true 1, .reader, .reader, .accept true 2, .reader, .take, .reader]
    s.taken = [1] ∧ s.chan = [2] ∧ rejected s = [] := by decide +kernel

/-- the variant without the look at `closing` (`if out.Len() < out.Cap() { out.Send(m) }`): the reader's step on a
channel message sends whenever there is room -/
def stepUnchecked (s : St) : Act → Option St
  | .reader => match s.pc with
      | .sending m =>
          if s.chan.length < s.cap then some { s with pc := .top, chan := s.chan ++ [m], log := s.log ++ [(m, .put)] }
          else some { s with pc := .top, log := s.log ++ [(m, .full)] }
      | _ => step s .reader
  | a => step s a

def runUnchecked (s : St) : List Act → St
  | [] => s
  | a :: as => match stepUnchecked s a with
      | some s' => runUnchecked s' as
      | none => runUnchecked s as

/-- negation witness: in that variant a message arrives in the protocol's channel **after** the close
(the protocol has shut down and may have closed the channel: `send on closed channel`) -/
theorem c05_chan_unchecked_variant_sends_after_close :
    let s0 := runUnchecked { cap := 1 } [.accept true 1, .reader, .close]
    let s := runUnchecked s0 [.reader]
    s0.closing = true ∧ put s0 = [] ∧ put s = [1] ∧ s.chan = [1] := by decide +kernel

end Chan

/-! ### aggregated types: the buffer of `aggregate` between the reader's pop and the handler (`Model/C05Agg.lean`) -/
namespace Agg

/-- **order through the aggregation buffer**: under every schedule (any number of children, any senders, any
interleaving of hand-overs with the reader), the children's messages of the aggregated type that were handed to
the handler so far, followed by the ones waiting in the buffer, are exactly the ones the reader has taken, in the
order in which the instance accepted them — no message of that type is given to the handler before one that was
accepted earlier (inside a batch or across batches), none twice, none lost; and the messages dispatched one by one
(from the parent, of plain types) keep their acceptance order among themselves. -/
theorem c05_agg_order (k : Nat) (as : List Act) :
    let s := run { nch := k } as
    aggs s.given ++ s.buf = aggs s.popped ∧ aggs s.popped <+: aggs s.accepted ∧
    directs s.given = directs s.popped ∧ directs s.popped <+: directs s.accepted := by
  intro s
  have h : Inv s := (reachable k as).1
  refine ⟨h.aggf, ?_, h.dirf, ?_⟩
  · rw [h.order, aggs_append]; exact List.prefix_append _ _
  · rw [h.order, directs_append]; exact List.prefix_append _ _

/-- **what the handlers are given, and one at a time**: the values of the invocations, one after the other, are the
messages handed over in that order; every invocation for the aggregated type gets exactly as many messages as the
node has children; and the invocations (batches and single messages alike) never overlap. -/
theorem c05_agg_batches (k : Nat) (as : List Act) :
    let s := run { nch := k } as
    (s.started.map (·.2)).flatten = s.given.map (·.m) ∧ (∀ b ∈ s.started, b.1 = true → b.2.length = k) ∧
    ∃ running, s.started = s.finished ++ running ∧ running.length ≤ 1 := by
  intro s
  obtain ⟨h, _, hk⟩ := reachable k as
  exact ⟨h.vals, fun b hb ht => (h.size b hb ht).trans hk, cur s, h.serial, length_cur_le s⟩

/-- **a complete round is never withheld**: on a node with children the buffer always holds fewer messages than the
node has children — as soon as the reader has taken that many, they are with the handler. -/
theorem c05_agg_complete_round_delivered (k : Nat) (hk : k ≠ 0) (as : List Act) :
    (run { nch := k } as).buf.length < k := by
  obtain ⟨h, _, hn⟩ := reachable k as
  have := h.small (hn.symm ▸ hk)
  rwa [hn] at this

/-- **liveness at quiescence**: when the reader sleeps without a token (no step of it is enabled) nothing accepted
is left in the queue and no handler is running — so, by `c05_agg_order`, everything accepted was either given to a
handler in acceptance order or sits in the buffer, which holds less than a full round. -/
theorem c05_agg_quiescent_all_taken (k : Nat) (as : List Act) :
    let s := run { nch := k } as
    s.pc = .waiting → s.token = false →
      s.queue = [] ∧ s.started = s.finished ∧ aggs s.given ++ s.buf = aggs s.accepted ∧
      directs s.given = directs s.accepted ∧ (k ≠ 0 → s.buf.length < k) := by
  intro s hp ht
  obtain ⟨h, hw, _⟩ := reachable k as
  have hq : s.queue = [] := Decidable.byContradiction fun hne => nomatch ht.symm.trans (hw hp hne)
  have hacc : s.accepted = s.popped := by rw [h.order, hq, List.append_nil]
  have hse : s.started = s.finished ++ cur s := h.serial
  simp only [cur, hp, List.append_nil] at hse
  exact ⟨hq, hse, hacc ▸ h.aggf, hacc ▸ h.dirf, fun hk => c05_agg_complete_round_delivered k hk as⟩

/-- non-vacuity: three messages of a two-children node, everything taken, one in the buffer, the reader asleep -/
example :
    let s := run { nch := 2 } [.accept ⟨true, some 0, 1⟩, .accept ⟨true, some 1, 2⟩, .accept ⟨true, some 1, 3⟩,
      .reader, .reader, .reader, .reader, .reader, .reader, .reader]
    s.pc = .waiting ∧ s.token = false ∧ s.buf.map (·.m) = [3] ∧ s.started = [(true, [1, 2])] := by decide +kernel

/-- non-vacuity: two children, the second answers first, then a fast first child — batches [0 1] and [2 3] in the
order of acceptance; a message from the parent in between is dispatched at once -/
example :
    let s := run { nch := 2 } [.accept ⟨true, some 1, 0⟩, .accept ⟨true, some 0, 1⟩, .reader, .reader, .accept ⟨true, some 0, 2⟩,
      .accept ⟨true, none, 9⟩, .accept ⟨true, some 0, 3⟩, .reader, .reader, .reader, .reader, .reader, .reader, .reader]
    s.started = [(true, [0, 1]), (false, [9]), (true, [2, 3])] ∧ s.buf = [] ∧ s.finished.length = 3 := by decide +kernel

/-- the variant that completes a round "per child" (one message of every child, in the order of `Children()`, the
surplus stays buffered): `aggregate` as the seeded change C05r7-A writes it -/
def roundOf (k : Nat) (msgs : List Msg) : List Msg :=
  (List.range k).filterMap fun c => msgs.find? (fun x => x.src == some c)

def stepPerChild (s : St) : Act → Option St
  | .reader => match s.pc, s.closing, s.queue with
      | .top, false, x :: q =>
        if direct x then step s .reader
        else
          let msgs := s.buf ++ [x]
          let round := roundOf s.nch msgs
          if round.length < s.nch then some { s with queue := q, popped := s.popped ++ [x], buf := msgs }
          else some { s with queue := q, popped := s.popped ++ [x], buf := msgs.filter (fun y => !round.contains y),
                             given := s.given ++ round, pc := .handling true (round.map (·.m)),
                             started := s.started ++ [(true, round.map (·.m))] }
      | _, _, _ => step s .reader
  | a => step s a

def runPerChild (s : St) : List Act → St
  | [] => s
  | a :: as => match stepPerChild s a with
      | some s' => runPerChild s' as
      | none => runPerChild s as

/-- negation witness: in that variant the handler is given message 1 before message 0 (second child first), and with a
fast child (c0, c0, c1, c1) message 2 is handled before message 1, which was accepted earlier -/
theorem c05_agg_per_child_variant_reorders :
    (runPerChild { nch := 2 } [.accept ⟨true, some 1, 0⟩, .accept ⟨true, some 0, 1⟩, .reader, .reader]).started = [(true, [1, 0])] ∧
    (runPerChild { nch := 2 } [.accept ⟨true, some 0, 0⟩, .accept ⟨true, some 0, 1⟩, .accept ⟨true, some 1, 2⟩,
      .accept ⟨true, some 1, 3⟩, .reader, .reader, .reader, .reader, .reader, .reader]).started = [(true, [0, 2]), (true, [1, 3])] := by
  decide +kernel

end Agg

/-! ### who starts the reader, and registering an instance twice (`Model/C05Reg.lean`) -/
namespace Reg

/-- **exactly one reader**: the constructor starts one reader goroutine and nothing else ever starts another —
under every schedule of hand-overs, reader steps, `close` and any number of registrations there is one. -/
theorem c05_reg_one_reader (as : List Act) : (run {} as).pcs.length = 1 :=
  run_pcs_length as {}

/-- **a second registration changes nothing**: once the node's instance has been registered, every later
registration — whatever happened in between: hand-overs, handlers, `close` — is refused (`ErrProtocolRegistered`,
or `ErrWrongTreeNodeInstance` once the node is closed) and leaves the whole state as it is: queue, wake-up
token, ghosts, and in particular the reader goroutines. -/
theorem c05_reg_second_registration_changes_nothing (as bs : List Act) :
    let s := run {} (as ++ [.register] ++ bs)
    (register s).1 = s ∧ (register s).2 ≠ .ok := by
  intro s
  have h1 : s = run (run (run {} as) [.register]) bs := by
    show run {} (as ++ [.register] ++ bs) = _
    rw [run_skips.append, run_skips.append]
  have h2 : (run (run {} as) [.register]).bound = true ∨ (run (run {} as) [.register]).core.closing = true := by
    show (register (run {} as)).1.bound = true ∨ (register (run {} as)).1.core.closing = true
    rw [register_fst]
    cases hc : (run {} as).core.closing
    · exact .inl (Bool.or_true _)
    · exact .inr rfl
  have h3 : s.bound = true ∨ s.core.closing = true := h1 ▸ run_skips.inv
    (P := fun s => s.bound = true ∨ s.core.closing = true)
    (fun _ _ _ h hs => h.imp (step_frame hs).2.1 (step_frame hs).2.2) bs _ h2
  exact register_refused h3

/-- **registrations are invisible to the instance**: with its one reader, the instance under a schedule that
contains any number of registrations (and steps of reader goroutines that do not exist) is the instance of
`Model/C05Inst.lean` under the schedule without them — so `c05_fifo`, `c05_serial`, `c05_no_lost_wakeup`,
`c05_quiescent_all_handled` hold whatever is registered when and how often. -/
theorem c05_reg_registrations_are_stutters (as : List Act) :
    view (run {} as) = runT {} (erase as) :=
  view_run rfl as

/-- what `c05_reg_registrations_are_stutters` is for: order and mutual exclusion with registrations in
the schedule -/
theorem c05_reg_order_and_exclusion (as : List Act) :
    let s := run {} as
    s.core.started <+: s.core.accepted ∧
    (∃ running, s.core.started = s.core.finished ++ running ∧ running.length ≤ 1) ∧
    (inHandler s).length ≤ 1 := by
  intro s
  have hr : C05.run {} (erase as) = some (view s) :=
    (run_eq_runT _ _).trans (congrArg some (c05_reg_registrations_are_stutters as).symm)
  exact ⟨c05_fifo _ (view s) hr, c05_serial _ (view s) hr,
    Nat.le_trans (List.length_filterMap_le _ _) (Nat.le_of_eq (c05_reg_one_reader as))⟩

/-- **why it matters (negation witness for a node with two readers)**: in the state a second `bind` that
started a reader would produce — two reader goroutines on one queue — two hand-overs are enough for two
handlers of the instance to run at the same time. -/
theorem c05_reg_two_readers_overlap :
    ∃ as, inHandler (run { pcs := [.top, .top] } as) = [1, 2] :=
  ⟨[.accept 1, .accept 2, .reader 0, .reader 1], by decide +kernel⟩

/-- non-vacuity: a handler is blocked, the instance is registered again twice, two more messages arrive, the
handler returns: refused both times, one reader, handlers 1 2 3 in order -/
example :
    let s := run {} [.register, .accept 1, .reader 0, .register, .accept 2, .register, .accept 3, .reader 1,
      .reader 0, .reader 0, .reader 0, .reader 0]
    s.core.started = [1, 2, 3] ∧ s.core.finished = [1, 2] ∧ inHandler s = [3] ∧ s.pcs.length = 1 ∧
      (register s).2 = .registered := by decide +kernel

end Reg

/-! ### the code regions the model stands for
Regenerated from /repo's source on every run (`harness/cmd/astfacts` → `OnetVerif/Shapes.lean`): the
calls that matter for synchronisation and data flow, the lock regions and (for decision logic) the
conditions, in source order.  A re-ordering, a dropped call or a changed condition breaks these
obligations even when no sampled input or schedule shows a difference; the check then searches for
a failing input. -/
theorem c05_shape_TreeNodeInstance_ProcessProtocolMsg :
    Shapes.treenode_TreeNodeInstance_ProcessProtocolMsg =
   ["msgDispatchQueueMutex.Lock", "defer:msgDispatchQueueMutex.Unlock", "if:n.closing",
     "return:", "n.notifyDispatch"] := rfl

theorem c05_shape_TreeNodeInstance_notifyDispatch :
    Shapes.treenode_TreeNodeInstance_notifyDispatch =
   ["send:msgDispatchQueueWait"] := rfl

theorem c05_shape_TreeNodeInstance_dispatchMsgReader :
    Shapes.treenode_TreeNodeInstance_dispatchMsgReader =
   ["msgDispatchQueueMutex.Lock", "msgDispatchQueueMutex.Unlock", "msgDispatchQueueMutex.Unlock",
     "n.dispatchMsgToProtocol", "msgDispatchQueueMutex.Unlock", "recv:msgDispatchQueueWait"] := rfl

theorem c05_shape_TreeNodeInstance_closeDispatch :
    Shapes.treenode_TreeNodeInstance_closeDispatch =
   ["defer{", "}", "msgDispatchQueueMutex.Lock", "close:msgDispatchQueueWait",
     "msgDispatchQueueMutex.Unlock", "n.ProtocolInstance", "pni.Shutdown"] := rfl

theorem c05_shape_dispatch_BlockingDispatcher_Dispatch :
    Shapes.network_dispatch_BlockingDispatcher_Dispatch =
   ["d.Lock", "d.Unlock", "d.Unlock", "p.Process"] := rfl

theorem c05_shape_dispatch_RoutineDispatcher_Dispatch :
    Shapes.network_dispatch_RoutineDispatcher_Dispatch =
   ["d.Lock", "defer:d.Unlock", "go{", "routinesMutex.Lock", "routinesMutex.Unlock", "p.Process",
     "routinesMutex.Lock", "routinesMutex.Unlock", "}"] := rfl

theorem c05_shape_serviceManager_Process :
    Shapes.service_serviceManager_Process =
   ["s.Dispatch"] := rfl

theorem c05_shape_router_Router_handleConn :
    Shapes.network_router_Router_handleConn =
   ["defer{", "c.Close", "c.Rx", "c.Tx", "traffic.updateRx", "traffic.updateTx", "wg.Done",
     "r.removeConnection", "verifC10Point", "}", "verifC10Point", "c.Remote", "c.Receive",
     "verifC10Point", "r.Lock", "r.Unlock", "recv:paused", "r.Closed",
     "r.triggerConnectionErrorHandlers", "r.triggerConnectionErrorHandlers",
     "r.triggerConnectionErrorHandlers", "verifC10Point", "msgTraffic.updateRx", "r.Dispatch"] := rfl

theorem c05_shape_Overlay_Process :
    Shapes.overlay_Overlay_Process =
   ["MsgType.Equal", "o.handleConfigMessage", "protoIO.getByPacketType", "io.Unwrap",
     "o.handleRequestTree", "o.handleSendTree", "o.handleSendTreeMarshal",
     "o.handleRequestRoster", "o.handleSendRoster", "network.MessageType", "o.TransmitMsg"] := rfl

theorem c05_shape_Overlay_TransmitMsg :
    Shapes.overlay_Overlay_TransmitMsg =
   ["treeStorage.getAndRefresh", "verifPoint:tm.miss", "o.requestTree", "verifPoint:tm.found",
     "transmitMux.Lock", "defer:transmitMux.Unlock", "instancesLock.Lock", "To.ID", "To.ID",
     "o.cleanTreeStorage", "instancesLock.Unlock", "o.TreeNodeFromTree",
     "instancesLock.Lock", "o.cleanTreeStorage", "instancesLock.Unlock",
     "o.newTreeNodeInstanceFromToken", "treeStorage.Set", "o.hasPendingMsg",
     "o.checkPendingMessages", "To.ID", "o.getConfig",
     "serviceManager.newProtocol", "instancesLock.Lock", "o.nodeDelete", "instancesLock.Unlock",
     "instancesLock.Lock", "o.nodeDelete", "instancesLock.Unlock",
     "go{", "defer{", "tni.Token", "ServiceFactory.Name", "}", "pi.Dispatch", "tni.Token",
     "ServiceFactory.Name", "}", "o.RegisterProtocolInstance", "pi.ProcessProtocolMsg"] := rfl

end C05

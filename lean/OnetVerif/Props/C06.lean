import OnetVerif.Model.C06
import OnetVerif.Model.C06Net
import OnetVerif.Shapes
import OnetVerif.Proofs.C06Server
import OnetVerif.Proofs.Sched
/-! Property C06 — a tree learnt from a peer or rebuilt from its serialised form is the same tree.
Property theorems, the negation witness of the one statement the code does not meet, `_partial` variants and non-vacuity
examples (core Lean only).  One server first; then any number of servers over a world `W` of trees; the two-server network
is the N-server one on servers 0 and 1, and its theorems are read back through that embedding. -/
namespace C06

/-! ### tree part: flatten to ids, rebuild against the roster -/

/-- bytes that are no tree description (or no binary form) are refused with an error, whatever the
roster: nothing is built from them -/
theorem c06_undecodable_rejected {B} (cd : Codec B) (buf : B) (ro : Option Roster) :
    (cd.decTM buf = none → newTreeFromMarshal cd buf ro = .error .codec) ∧
    (cd.decTBM buf = none → binaryUnmarshal cd buf = .error .codec) := by
  constructor
  · intro h; simp only [newTreeFromMarshal, h]
  · intro h; simp only [binaryUnmarshal, h]

theorem makeForest_ok_iff (ro : List Server) :
    ∀ f, (∃ f', makeForest ro f = .ok f') ↔ ∀ sid ∈ sidsOf f, Usable ro sid := by
  intro f
  constructor
  · intro ⟨f', h⟩
    obtain ⟨e, hp⟩ := makeForest_spec ro f f' h
    exact e ▸ usable_of_placed ro f' hp
  · induction f with
    | nil => exact fun _ => ⟨_, rfl⟩
    | node nid sid c s ihc ihs =>
      rw [forall_mem_sidsOf_node]
      intro ⟨⟨idx, e, hs, hk⟩, hc, hss⟩
      obtain ⟨c', hc⟩ := ihc hc
      obtain ⟨s', hss⟩ := ihs hss
      exact ⟨_, by simp only [makeForest, hs, hk, hc, hss]; rfl⟩

theorem makeForest_error (ro : List Server) :
    ∀ f e, makeForest ro f = .error e →
      (e = .unknownServer ∨ e = .noKey) ∧ (e = .noKey → ∃ s ∈ ro, s.nokey = true) := by
  intro f
  fun_induction makeForest ro f with
  | case1 => intro e h; cases h
  | case2 nid sid c s hs => intro e h; cases h; exact ⟨Or.inl rfl, fun h => nomatch h⟩
  | case3 nid sid c s idx en hs hk =>
    intro e h; cases h
    exact ⟨Or.inr rfl, fun _ => ⟨en, List.mem_of_getElem? (search_spec ro sid idx en hs).1, hk⟩⟩
  | case4 nid sid c s idx en hs hk x hc ihc => intro e h; cases h; exact ihc x hc
  | case5 nid sid c s idx en hs hk c' hc x hss _ ihs => intro e h; cases h; exact ihs x hss
  | case6 => intro e h; cases h

/-- **malformed and mismatching descriptions are refused with an error** (there is no other
outcome: no tree, no panic): a missing roster, a roster with another id, a description without
exactly one root, a description naming a server that is not in the roster or whose roster entry has
no public key (the error is that of the first such node in depth-first order). -/
theorem c06_reject_malformed (tm : TreeMarshal) :
    makeTree tm none = .error .noRoster ∧
    (∀ ro : Roster, ro.id ≠ tm.rosterId → makeTree tm (some ro) = .error .rosterId) ∧
    (∀ ro : Roster, ro.id = tm.rosterId → tm.children.len ≠ 1 → makeTree tm (some ro) = .error .notOneRoot) ∧
    (∀ ro : Roster, ro.id = tm.rosterId → tm.children.len = 1 →
      (∃ sid ∈ sidsOf tm.children, ¬ Usable ro.list sid) →
      (makeTree tm (some ro) = .error .unknownServer ∨ makeTree tm (some ro) = .error .noKey) ∧
      ((∀ s ∈ ro.list, s.nokey = false) → makeTree tm (some ro) = .error .unknownServer)) := by
  refine ⟨makeTree_none tm, fun _ => makeTree_rosterId, fun _ => makeTree_notOneRoot, ?_⟩
  · intro ro h1 h2 ⟨sid, hm, hu⟩
    rw [makeTree_some h1 h2]
    cases hf : makeForest ro.list tm.children with
    | ok f' => exact absurd ((makeForest_ok_iff ro.list tm.children).mp ⟨f', hf⟩ sid hm) hu
    | error e =>
      obtain ⟨he, hk⟩ := makeForest_error ro.list tm.children e hf
      refine ⟨he.imp (congrArg _) (congrArg _), fun hall => ?_⟩
      rcases he with rfl | rfl
      · rfl
      · obtain ⟨s, hs, hk⟩ := hk rfl
        rw [hall s hs] at hk; cases hk

/-- **exactly which descriptions are accepted**: a roster is given, it carries the roster id the
description names, the description has exactly one root, and every server it names is in the roster
with a public key.  (The rule the harness's acceptance oracle applies to the real `MakeTree`.) -/
theorem c06_maketree_accepts_iff (tm : TreeMarshal) (ro : Option Roster) :
    (∃ t, makeTree tm ro = .ok t) ↔
      ∃ r, ro = some r ∧ r.id = tm.rosterId ∧ tm.children.len = 1 ∧ ∀ sid ∈ sidsOf tm.children, Usable r.list sid := by
  constructor
  · rintro ⟨t, h⟩
    obtain ⟨r, f, hr, h1, h2, hf, _⟩ := makeTree_ok_iff_makeForest.mp h
    exact ⟨r, hr, h1, h2, (makeForest_ok_iff r.list tm.children).mp ⟨f, hf⟩⟩
  · rintro ⟨r, hr, h1, h2, hu⟩
    obtain ⟨f, hf⟩ := (makeForest_ok_iff r.list tm.children).mpr hu
    exact ⟨_, makeTree_ok_iff_makeForest.mpr ⟨r, f, hr, h1, h2, hf, rfl⟩⟩

/-! ### the aggregates are the sums the property speaks of -/

/-- `computeSubtreeAggregate` stores at every node the sum of the keys of its subtree -/
theorem aggregate_root (nid sid key idx agg : Nat) (c s : TN) :
    ∃ c' s', (aggregate (.node nid sid key idx agg c s)).1 = .node nid sid key idx (key + keySum c) c' s' :=
  ⟨(aggregate c).1, (aggregate s).1, by rw [aggregate_node, aggregate_sum]⟩

/-- **`NewTree` always computes the aggregates from the structure it is given**, whatever the
aggregate fields of the (possibly re-used) nodes held before: afterwards every node carries the sum
over its subtree.  So a tree made over nodes re-used from an earlier tree whose children changed
since has the same aggregates as the tree a receiver rebuilds from its description. -/
theorem c06_newtree_aggregates_are_subtree_sums (id : Nat) (ro : Roster) (root : TN) :
    AggOK (newTree id ro root).root ∧
    (newTree id ro root).root = (newTree id ro (clearAgg root)).root :=
  ⟨aggOK_aggregate root, congrArg Prod.fst (aggregate_clearAgg root).symm⟩

/-! ### the rebuilt tree, and the round trip -/

/-- **what a rebuilt tree is, for any description that is accepted** — also one that no well-formed
sender tree produced: it carries the tree id and roster given, its nodes are those of the
description (node ids, server ids, parent/child structure, child order), every node sits at the
position `Roster.Search` finds for its server and carries that entry's key, and every aggregate is
the sum over the subtree. -/
theorem c06_rebuilt_is_canonical {tm : TreeMarshal} {ro : Roster} {t : Tree} (h : makeTree tm (some ro) = .ok t) :
    t.id = tm.treeId ∧ t.roster = some ro ∧ copyTree t.root = tm.children ∧ Placed ro.list t.root ∧ AggOK t.root := by
  obtain ⟨r, f, hr, _, _, hf, rfl⟩ := makeTree_ok_iff_makeForest.mp h
  cases hr
  obtain ⟨a, b⟩ := makeForest_spec ro.list _ f hf
  exact ⟨rfl, rfl, by rw [copyTree_aggregate, a], placed_aggregate _ _ b, aggOK_aggregate f⟩

/-- … and these conditions leave no choice: two forests with the same description, both placed by
the roster and both carrying the subtree sums, are equal in every field -/
theorem c06_canonical_unique (ro : List Server) : ∀ a b : TN,
    copyTree a = copyTree b → Placed ro a → Placed ro b → AggOK a → AggOK b → a = b := by
  intro a
  induction a with
  | nil => intro b h _ _ _ _; cases b with
    | nil => rfl
    | node => cases h
  | node nid sid key idx agg c s ihc ihs =>
    intro b h pa pb ga gb
    cases b with
    | nil => cases h
    | node nid' sid' key' idx' agg' c' s' =>
      cases (TM.node.inj h).1
      cases (TM.node.inj h).2.1
      obtain ⟨⟨e, pe, rfl, _⟩, pc, ps⟩ := pa
      obtain ⟨⟨e', pe', rfl, _⟩, pc', ps'⟩ := pb
      cases pe.symm.trans pe'
      cases ihc c' (TM.node.inj h).2.2.1 pc pc' ga.2.1 gb.2.1
      cases ihs s' (TM.node.inj h).2.2.2 ps ps' ga.2.2 gb.2.2
      rw [ga.1, gb.1]

/-- so the receiver's tree is a function of the description and the roster alone: whoever rebuilds
the same description over the same roster holds the same tree -/
theorem c06_rebuilt_determined (tm : TreeMarshal) (ro : Roster) (t t' : Tree)
    (h : makeTree tm (some ro) = .ok t) (h' : t'.id = tm.treeId ∧ t'.roster = some ro ∧
      copyTree t'.root = tm.children ∧ Placed ro.list t'.root ∧ AggOK t'.root) : t' = t := by
  obtain ⟨a1, a2, a3, a4, a5⟩ := c06_rebuilt_is_canonical h
  obtain ⟨b1, b2, b3, b4, b5⟩ := h'
  obtain ⟨id, roster, root⟩ := t
  obtain ⟨id', roster', root'⟩ := t'
  cases a1; cases a2; cases b1; cases b2
  cases c06_canonical_unique ro.list root' root (b3.trans a3.symm) b4 a4 b5 a5
  rfl

theorem makeTree_ok_iff {tm : TreeMarshal} {ro : Roster} {t : Tree} : makeTree tm (some ro) = .ok t ↔
    ro.id = tm.rosterId ∧ tm.children.len = 1 ∧ t.id = tm.treeId ∧ t.roster = some ro ∧
      copyTree t.root = tm.children ∧ Placed ro.list t.root ∧ AggOK t.root := by
  constructor
  · intro h
    obtain ⟨r, f, hr, h1, h2, _, _⟩ := makeTree_ok_iff_makeForest.mp h
    cases hr
    exact ⟨h1, h2, c06_rebuilt_is_canonical h⟩
  · intro ⟨h1, h2, hc⟩
    obtain ⟨t₀, h₀⟩ := (c06_maketree_accepts_iff tm (some ro)).mpr
      ⟨ro, rfl, h1, h2, hc.2.2.1 ▸ usable_of_placed ro.list t.root hc.2.2.2.1⟩
    exact c06_rebuilt_determined tm ro t₀ t h₀ hc ▸ h₀

/-- **round trip**: for every tree over a roster of pairwise distinct servers, flattening it to
identifiers (`MakeTreeMarshal`) and rebuilding it against the roster (`MakeTree`) gives back the
very same tree: tree id, roster, node ids, structure, child order, roster positions and every
subtree aggregate.  (One server may hold any number of nodes.) -/
theorem c06_roundtrip (t : Tree) (ro : Roster) (hd : ro.Distinct) (h : t.WF ro) :
    makeTree (makeTreeMarshal t) (some ro) = .ok t := by
  obtain ⟨h1, h2, h3, h4⟩ := h
  have hm : makeTreeMarshal t = ⟨t.id, ro.id, copyTree t.root⟩ := by rw [makeTreeMarshal, h1]
  rw [hm]
  exact makeTree_ok_iff.mpr ⟨rfl, h2, rfl, h1, rfl, placed_of_nodesOK ro.list hd t.root h3, h4 ▸ aggOK_aggregate t.root⟩

/-- the same through the serialised form, `Marshal` / `NewTreeFromMarshal`, for any codec whose
decoder inverts its encoder -/
theorem c06_marshal_roundtrip {B} (cd : Codec B) (hcodec : ∀ x, cd.decTM (cd.encTM x) = some x)
    (t : Tree) (ro : Roster) (hd : ro.Distinct) (h : t.WF ro) :
    newTreeFromMarshal cd (marshal cd t) (some ro) = .ok t :=
  (newTreeFromMarshal_marshal cd hcodec t _).trans (c06_roundtrip t ro hd h)

/-- and through the binary form that carries the roster along, `BinaryMarshaler` /
`BinaryUnmarshaler` -/
theorem c06_binary_roundtrip {B} (cd : Codec B) (hcodec : ∀ x, cd.decTM (cd.encTM x) = some x)
    (hcodec2 : ∀ x, cd.decTBM (cd.encTBM x) = some x)
    (t : Tree) (ro : Roster) (hd : ro.Distinct) (h : t.WF ro) :
    binaryUnmarshal cd (binaryMarshal cd t) = .ok t :=
  (binaryUnmarshal_binaryMarshal cd hcodec2 t).trans (h.1 ▸ c06_marshal_roundtrip cd hcodec t ro hd h)

/-- non-vacuity: every tree made by `NewTree` from nodes that point at their servers is well formed -/
theorem newTree_wf (id : Nat) (ro : Roster) (root : TN) (h1 : (copyTree root).len = 1) (h2 : NodesOK ro.list root) :
    (newTree id ro root).WF ro :=
  ⟨rfl, (congrArg TM.len (copyTree_aggregate root)).trans h1, nodesOK_aggregate _ _ h2, congrArg Prod.fst (aggregate_idem root)⟩

def exRoster : Roster := { id := 9, list := [⟨3, 4, false⟩, ⟨5, 6, false⟩] }
/-- for the non-vacuity examples: the first server of `exRoster` holds two of the three nodes -/
def exTree : Tree := newTree 1 exRoster (.node 3 3 4 0 0 (.node 5 5 6 1 0 .nil (.node 3 3 4 0 0 .nil .nil)) .nil)

theorem exRoster_distinct : exRoster.Distinct := by unfold Roster.Distinct; decide

theorem exTree_wf : exTree.WF exRoster :=
  newTree_wf 1 exRoster _ rfl ⟨rfl, ⟨rfl, trivial, rfl, trivial, trivial⟩, trivial⟩

example : ∃ (t : Tree) (ro : Roster), ro.Distinct ∧ t.WF ro ∧ makeTree (makeTreeMarshal t) (some ro) = .ok t := by
  let ro : Roster := { id := 9, list := [⟨3, 4, false⟩, ⟨5, 6, false⟩, ⟨7, 8, false⟩] }
  let root : TN := .node 3 3 4 0 0 (.node 5 5 6 1 0 .nil (.node 7 7 8 2 0 .nil .nil)) .nil
  have hd : ro.Distinct := by unfold Roster.Distinct; decide
  have hw : (newTree 1 ro root).WF ro :=
    newTree_wf 1 ro root rfl ⟨rfl, ⟨rfl, trivial, rfl, trivial, trivial⟩, trivial⟩
  exact ⟨_, ro, hd, hw, c06_roundtrip _ ro hd hw⟩

/-- non-vacuity with **one server holding several nodes** (their node ids coincide, as in the code:
a node id is a hash of the server's key): server 5 is the root and two of the leaves -/
example : ∃ (t : Tree) (ro : Roster), ro.Distinct ∧ t.WF ro ∧ makeTree (makeTreeMarshal t) (some ro) = .ok t ∧
    t.root = .node 5 5 6 1 22 (.node 3 3 4 0 10 (.node 5 5 6 1 6 .nil .nil) (.node 5 5 6 1 6 .nil .nil)) .nil := by
  let root : TN := .node 5 5 6 1 0 (.node 3 3 4 0 0 (.node 5 5 6 1 0 .nil .nil) (.node 5 5 6 1 0 .nil .nil)) .nil
  have hw : (newTree 1 exRoster root).WF exRoster :=
    newTree_wf 1 exRoster root rfl ⟨rfl, ⟨rfl, ⟨rfl, trivial, trivial⟩, rfl, trivial, trivial⟩, trivial⟩
  exact ⟨_, exRoster, exRoster_distinct, hw, c06_roundtrip _ exRoster exRoster_distinct hw, rfl⟩

/-- the premise "pairwise distinct servers" is needed: with a server listed twice, a node placed on
the second occurrence comes back at the first (`Roster.Search` returns the first match) -/
example : ∃ (t t' : Tree) (ro : Roster), t.WF ro ∧ makeTree (makeTreeMarshal t) (some ro) = .ok t' ∧ t' ≠ t := by
  refine ⟨newTree 1 { id := 9, list := [⟨3, 4, false⟩, ⟨3, 4, false⟩] } (.node 3 3 4 1 0 .nil .nil), _,
    { id := 9, list := [⟨3, 4, false⟩, ⟨3, 4, false⟩] }, newTree_wf _ _ _ rfl ⟨rfl, trivial, trivial⟩, rfl, by decide⟩

/-- and so is "the nodes point at their servers' roster positions": `NewTreeNode` stores whatever
index it is given; a hand-made tree whose nodes all carry index 0 comes back with the true positions
(the rebuilt tree is the canonical one, the sender's was not) -/
example : ∃ (t t' : Tree) (ro : Roster), ro.Distinct ∧ t.roster = some ro ∧
    makeTree (makeTreeMarshal t) (some ro) = .ok t' ∧ t' ≠ t ∧ copyTree t'.root = copyTree t.root := by
  exact ⟨newTree 1 exRoster (.node 3 3 4 0 0 (.node 5 5 6 0 0 .nil .nil) .nil),
    newTree 1 exRoster (.node 3 3 4 0 0 (.node 5 5 6 1 0 .nil .nil) .nil), exRoster,
    exRoster_distinct, rfl, rfl, by decide, rfl⟩

/-! ### `Tree.Equal` compares exactly what a description carries -/

/-- **`Tree.Equal` holds exactly when the two trees have the same description** (`MakeTreeMarshal`):
tree id, roster id, node ids, server ids, structure and child order.  It does not look at keys,
roster positions or aggregates — the harness's oracle compares those separately. -/
theorem c06_equal_iff_same_description (t t' : Tree) (ro ro' : Roster) (h : t.roster = some ro) (h' : t'.roster = some ro') :
    treeEqual t t' = some true ↔ makeTreeMarshal t = makeTreeMarshal t' := by
  simp only [treeEqual, makeTreeMarshal, h, h', Option.some.injEq, Bool.and_eq_true, beq_iff_eq,
    nodeEqual_iff, TreeMarshal.mk.injEq, and_assoc]

/-- whatever is rebuilt from a tree's own description over its own roster is `Equal` to it — also
when the tree is not well formed (stale roster positions, stale aggregates) and the rebuilt one
therefore differs from it in those fields -/
theorem c06_rebuilt_equal_original (t t' : Tree) (ro : Roster) (h : t.roster = some ro)
    (hm : makeTree (makeTreeMarshal t) (some ro) = .ok t') : treeEqual t t' = some true := by
  obtain ⟨a1, a2, a3, _, _⟩ := c06_rebuilt_is_canonical hm
  rw [c06_equal_iff_same_description t t' ro ro h a2]
  simp only [makeTreeMarshal, h] at a1 a3
  simp only [makeTreeMarshal, h, a2, a1, a3]

/-! ### history part: the tree store under arbitrary sequences of control messages -/

/-! #### the store behaves like a three-valued map under peer messages -/

/-- **refinement of the slot specification**: under any message from a peer every slot of the store
(absent / waiting / holding a tree) either keeps its value or goes from *no tree* to *holding the
rebuild of a description with that id* — a peer can neither create nor cancel a waiting marker,
neither remove nor exchange a tree.  (Which empty slots may be filled is `c06_store_change_characterised`.) -/
theorem c06_peer_step_refines_slot_spec (o : Ovl) (m : Msg) (id : Nat) :
    lookup (handle o m).1.store id = lookup o.store id ∨
    (o.get id = none ∧ ∃ t tm ro, lookup (handle o m).1.store id = some (some t) ∧
      makeTree tm (some ro) = .ok t ∧ tm.treeId = id) :=
  (handled o m).slot id

/-- **a message from a peer never replaces a tree that is stored** — whatever the message (solicited
or not, repeated, with a matching or a foreign roster, in the deprecated roster-then-tree form). -/
theorem c06_never_replaces (o : Ovl) (m : Msg) (id : Nat) (t : Tree) (h : o.get id = some t) :
    (handle o m).1.get id = some t :=
  ((handled o m).slot id).get h

/-- a message from a peer never takes an entry out of the store -/
private theorem handle_registered (o : Ovl) (m : Msg) (id : Nat) (h : o.registered id) : (handle o m).1.registered id :=
  ((handled o m).slot id).registered h

/-- **whatever a message from a peer puts into the store went through `MakeTree`'s checks**: a tree
that is in the store after the message and was not there before is the rebuild of a description with
that tree id over a roster (the one sent with it, the one of a live instance, or the roster message
itself) — so nothing malformed or mismatching is ever stored, whichever of the five messages brings
it and whichever of the three paths it takes. -/
theorem c06_stored_is_rebuilt (o : Ovl) (m : Msg) (id : Nat) (t : Tree)
    (h : (handle o m).1.get id = some t) (hnew : o.get id ≠ some t) :
    ∃ tm ro, makeTree tm (some ro) = .ok t ∧ tm.treeId = id := by
  rw [get_lookup] at h
  rcases (handled o m).slot id with e | ⟨_, t', tm, ro, e, hmk, hid⟩
  · exact absurd ((get_lookup o id t).mpr (e ▸ h)) hnew
  · cases h.symm.trans e
    exact ⟨tm, ro, hmk, hid⟩

/-- **a tree sent in a `ResponseTree`, or in the deprecated `TreeMarshal` form with a roster known
from a live instance, is stored only into a slot that is requested and still empty** -/
theorem c06_only_requested_partial (o : Ovl) (id : Nat) :
    (∀ tm ro, (handle o (.responseTree tm ro)).1.get id ≠ o.get id → o.isRequested id = true) ∧
    (∀ tm, (handle o (.treeMarshal tm)).1.get id ≠ o.get id → o.isRequested id = true) :=
  ⟨fun _ _ hne => (handle_change o _ id hne).elim (·.2) fun ⟨_, e, _⟩ => (nomatch e),
    fun _ hne => (handle_change o _ id hne).elim (·.2) fun ⟨_, e, _⟩ => (nomatch e)⟩

/-- the roster handler (`checkPendingTreeMarshal`) fills only empty slots, and only with trees whose
description was parked for that roster id -/
theorem c06_roster_fills_empty_partial (o : Ovl) (ro : Roster) (id : Nat)
    (hne : (handle o (.sendRoster ro)).1.get id ≠ o.get id) :
    o.get id = none ∧ ∃ sl, lookup o.pending ro.id = some sl ∧ ∃ tm ∈ sl, tm.treeId = id := by
  rcases handle_change o _ id hne with h | ⟨ro', e, h⟩
  · exact absurd rfl (h.1 ro)
  · cases e; exact h

/-- a description that `MakeTree` refuses is not stored, whichever message brings it -/
theorem c06_malformed_not_stored (o : Ovl) (tm : TreeMarshal) (ro : Option Roster) (e : Err)
    (h : makeTree tm ro = .error e) : (handle o (.responseTree (some tm) ro)).1 = o := by
  rcases handleSendTree_cases o (some tm) ro with e' | ⟨tm', r, t, h1, h2, _, _, hmk, _⟩
  · exact e'
  · cases h1; cases h2
    rw [h] at hmk; cases hmk

/-- a repeated roster message stores nothing: the descriptions parked for its id were forgotten
when the first one was handled (6793864) -/
theorem c06_repeated_roster_noop (o : Ovl) (ro : Roster) :
    (handle (handle o (.sendRoster ro)).1 (.sendRoster ro)).1 = (handle o (.sendRoster ro)).1 := by
  by_cases h0 : ro.id = 0
  · have e : ∀ o, handle o (.sendRoster ro) = (o, []) := fun o => if_pos h0
    rw [e, e]
  · rw [handle_sendRoster h0, handle_sendRoster h0]
    exact checkPending_none (checkPending_clears o ro)

/-- once a roster message has been handled nothing is parked for its id any more: every description
that waited for it has been stored or dropped (nothing is stuck) -/
theorem c06_roster_clears_parked (o : Ovl) (ro : Roster) (h : ro.id ≠ 0) :
    lookup (handle o (.sendRoster ro)).1.pending ro.id = none := by
  rw [handle_sendRoster h]; exact checkPending_clears o ro

/-! #### everything stored was asked for at some point, or registered locally -/

/-- the invariant: stored trees, waiting slots and parked descriptions all carry identifiers that
were requested by this server at some point (or, for stored trees, registered locally) -/
structure StoreInv (o : Ovl) : Prop where
  trees : ∀ id t, o.get id = some t → id ∈ o.everReq ∨ id ∈ o.locals
  markers : ∀ id, o.isRequested id = true → id ∈ o.everReq
  parked : ∀ rid sl tm, lookup o.pending rid = some sl → tm ∈ sl → tm.treeId ∈ o.everReq

private theorem setTree_inv (o : Ovl) (t : Tree) (h : StoreInv o) (ht : t.id ∈ o.everReq ∨ t.id ∈ o.locals) :
    StoreInv (o.setTree t) := by
  refine { h with trees := fun id t' hg => ?_, markers := fun id hr => ?_ }
  · by_cases hid : id = t.id
    · exact hid ▸ ht
    · exact h.trees id t' (get_setTree_ne o t id hid ▸ hg)
  · rw [req_lookup, lookup_setTree] at hr
    split at hr
    · cases hr
    · exact h.markers id ((req_lookup o id).mpr hr)

private theorem Handled.inv {o o' : Ovl} {m : Msg} (hd : Handled o m o') (h : StoreInv o) : StoreInv o' := by
  have h3 : ∀ rid sl tm, lookup o'.pending rid = some sl → tm ∈ sl → tm.treeId ∈ o.everReq := fun rid sl tm hl hm =>
    (hd.parked_from hl hm).elim (fun ⟨sl₀, h0, hm0⟩ => h.parked rid sl₀ tm h0 hm0) (fun ⟨_, _, hreq⟩ => h.markers _ hreq)
  cases hd with
  | same => exact h
  | stored _ _ hreq hmk => exact setTree_inv o _ h (Or.inl ((makeTree_ok_ids hmk).1 ▸ h.markers _ hreq))
  | parked => exact { h with parked := h3 }
  | @roster ro sl _ hl =>
    obtain ⟨hf, he⟩ := fold_pendStep_inv (fun o₁ => StoreInv o₁ ∧ o₁.everReq = o.everReq) ro sl
      (fun o₁ tm hm t hi _ hmk =>
        ⟨setTree_inv o₁ t hi.1 (Or.inl ((makeTree_ok_ids hmk).1 ▸ hi.2 ▸ h.parked _ sl tm hl hm)), hi.2⟩) o ⟨h, rfl⟩
    exact { hf with parked := fun rid sl' tm hl' hm => he ▸ h3 rid sl' tm hl' hm }

private theorem localStep_inv (o : Ovl) (l : Local) (h : StoreInv o) : StoreInv (localStep o l) := by
  obtain ⟨hp, he, hl⟩ := localStep_frame o l
  refine ⟨fun id t hg => ?_, fun id hr => ?_, fun rid sl tm hlk hm => he _ (h.parked rid sl tm (hp ▸ hlk) hm)⟩
  · rw [get_lookup] at hg
    cases localStep_slot o l id with
    | same e => exact (h.trees id t ((get_lookup o id t).mpr (e ▸ hg))).imp (he id) (hl id)
    | marked _ e _ => cases hg.symm.trans e
    | erased e _ => cases hg.symm.trans e
    | put _ _ _ hin _ => exact Or.inr hin
  · rw [req_lookup] at hr
    cases localStep_slot o l id with
    | same e => exact he id (h.markers id ((req_lookup o id).mpr (e ▸ hr)))
    | marked _ _ hin => exact hin
    | erased e _ => cases hr.symm.trans e
    | put _ _ e _ _ => cases hr.symm.trans e

theorem storeInv_run (evs : List Ev) : StoreInv (runEv {} evs) := by
  refine List.foldlRecOn (motive := StoreInv) evs stepEv
    ⟨fun _ _ h => (by cases h), fun _ h => (by cases h), fun _ _ _ h => (by cases h)⟩ fun o h e _ => ?_
  cases e with
  | peer m => exact (handled o m).inv h
  | loc l => exact localStep_inv o l h

/-- **never a tree the server did not ask for** (as far as the code enforces it): after any
history of peer messages and local events, every stored tree carries an identifier this server
requested at some point or registered itself -/
theorem c06_stored_was_requested_partial (evs : List Ev) :
    ∀ id t, (runEv {} evs).get id = some t → id ∈ (runEv {} evs).everReq ∨ id ∈ (runEv {} evs).locals :=
  (storeInv_run evs).trees

/-! #### the full-strength statement, and the one history it fails on -/

/-- the statement asked for: a message from a peer changes what is stored under an identifier only
if that identifier is, at that moment, requested and still empty -/
def C06_only_requested_full : Prop :=
  ∀ (evs : List Ev) (m : Msg) (id : Nat),
    (handle (runEv {} evs) m).1.get id ≠ (runEv {} evs).get id → (runEv {} evs).isRequested id = true

/-- the witness: request tree 1, receive its description in the deprecated form (roster unknown:
parked), withdraw the request (it could not be sent), receive the roster -/
def replayWitness : List Ev × Msg :=
  let ro : Roster := { id := 1, list := [⟨3, 4, false⟩, ⟨5, 6, false⟩, ⟨7, 8, false⟩] }
  let tm : TreeMarshal := { treeId := 1, rosterId := 1, children := .node 3 3 (.node 5 5 .nil (.node 7 7 .nil .nil)) .nil }
  ([.loc (.request 1), .peer (.treeMarshal tm), .loc (.unrequest 1)], .sendRoster ro)

/-- **it does not hold on the code as it is**: a description parked while its tree was requested is
stored when its roster arrives, even though the request has been withdrawn in between (the roster
handler tests "not present", not "requested").  Replayed against the real overlay by the harness
(`witness-replay`). -/
theorem c06_only_requested_full_fails : ¬ C06_only_requested_full := by
  intro h
  have := h replayWitness.1 replayWitness.2 1 (by decide +kernel)
  exact absurd this (by decide +kernel)

/-! #### a tree learnt from a peer is the sender's tree -/

/-- **a requested, well-formed answer is stored**: when the slot is waiting and the description
fits the roster sent with it, the tree rebuilt from the two is in the store afterwards (the other
half of "only requested": nothing that was asked for and is in order gets lost) -/
theorem c06_requested_wellformed_stored (o : Ovl) (tm : TreeMarshal) (ro : Roster) (t : Tree)
    (hid : tm.treeId ≠ 0) (hreq : o.isRequested tm.treeId = true) (hmk : makeTree tm (some ro) = .ok t) :
    (handle o (.responseTree (some tm) (some ro))).1.get tm.treeId = some t := by
  simp only [handle, handleSendTree, hid, if_false, hreq, Bool.not_true, Bool.false_eq_true, hmk]
  rw [← (makeTree_ok_ids hmk).1]
  exact get_setTree_self o t

/-- a tree request and a roster request change nothing on the server that answers them; the answer
to a tree request is the description of the stored tree and (unless the deprecated form is asked
for) the roster it carries, the answer to a roster request is a roster with that id taken from a
stored tree (an entry of the store), or the empty roster -/
theorem c06_requests_read_only (o : Ovl) :
    (∀ id v, (handle o (.requestTree id v)).1 = o ∧
      (o.get id = none → (handle o (.requestTree id v)).2 = []) ∧
      (∀ t, o.get id = some t → (handle o (.requestTree id v)).2 =
        [if v = 0 then .treeMarshal (makeTreeMarshal t) else .responseTree (makeTreeMarshal t) t.roster])) ∧
    (∀ rid, (handle o (.requestRoster rid)).1 = o ∧ (handle o (.requestRoster rid)).2 = [.roster (o.getRoster rid)] ∧
      (∀ ro, o.getRoster rid = some ro → ro.id = rid ∧ ∃ p ∈ o.store, ∃ t, p.2 = some t ∧ t.roster = some ro)) := by
  refine ⟨fun id v => ?_, fun rid => ⟨rfl, rfl, fun ro h => ?_⟩⟩
  · rw [handle_requestTree]
    exact ⟨rfl, fun h => by rw [h], fun t h => by rw [h]⟩
  · obtain ⟨⟨k, v⟩, hp, hf⟩ := List.exists_of_findSome?_eq_some h
    cases v with
    | none => cases hf
    | some t =>
      change (match t.roster with | some ro => if ro.id = rid then some ro else none | none => none) = some ro at hf
      split at hf
      · next r hr =>
        split at hf
        · next hid => cases hf; exact ⟨hid, (k, some t), hp, t, rfl, hr⟩
        · cases hf
      · cases hf

/-- **request / response**: a server that holds `t` answers a version-1 request with the description
and the roster; a server waiting for `t.id` that handles this answer stores exactly `t`.
**Deprecated form**: a version-0 request is answered with the description alone; the receiver,
knowing no roster with that id, parks it and asks for the roster; the sender answers from its store;
the receiver then stores exactly `t`. -/
theorem c06_peer_learns_same (snd rcv : Ovl) (t : Tree) (ro : Roster) (hd : ro.Distinct) (hw : t.WF ro)
    (hid : t.id ≠ 0) (hrid : ro.id ≠ 0) (hs : snd.get t.id = some t) (hr : rcv.isRequested t.id = true) :
    (∀ v, v ≠ 0 →
      (handle snd (.requestTree t.id v)).2 = [.responseTree (makeTreeMarshal t) (some ro)] ∧
      (handle rcv (.responseTree (some (makeTreeMarshal t)) (some ro))).1.get t.id = some t) ∧
    ((handle snd (.requestTree t.id 0)).2 = [.treeMarshal (makeTreeMarshal t)] ∧
      (rcv.instRoster ro.id = none → lookup rcv.pending ro.id = none →
        snd.getRoster ro.id = some ro →
        (handle rcv (.treeMarshal (makeTreeMarshal t))).2 = [.requestRoster ro.id] ∧
        (handle snd (.requestRoster ro.id)).2 = [.roster (some ro)] ∧
        (handle (handle rcv (.treeMarshal (makeTreeMarshal t))).1 (.sendRoster ro)).1.get t.id = some t)) := by
  have hmk := c06_roundtrip t ro hd hw
  have htid := mtm_treeId t ro hw.roster
  have hrid' := mtm_rosterId t ro hw.roster
  have hans := fun v => ((c06_requests_read_only snd).1 t.id v).2.2 t hs
  refine ⟨fun v hv => ⟨?_, ?_⟩, hans 0, fun hinst hpend hros => ?_⟩
  · rw [hans v, if_neg hv, hw.roster]
  · have := c06_requested_wellformed_stored rcv _ ro t (htid ▸ hid) (htid ▸ hr) hmk
    rwa [htid] at this
  · have hpark : handle rcv (.treeMarshal (makeTreeMarshal t)) = (rcv.park (makeTreeMarshal t), [.requestRoster ro.id]) := by
      rw [handle_treeMarshal (htid ▸ hid) (htid ▸ hr), hrid', hinst]
    refine ⟨by rw [hpark], by rw [((c06_requests_read_only snd).2 ro.id).2.1, hros], ?_⟩
    have hl : lookup (rcv.park (makeTreeMarshal t)).pending ro.id = some [makeTreeMarshal t] := by
      rw [Ovl.park, hrid', hpend]; exact (lookup_insert ..).trans (if_pos rfl)
    rw [hpark, handle_sendRoster hrid, checkPending_some hl]
    show (pendStep ro (rcv.park _) (makeTreeMarshal t)).get t.id = some t
    rw [pendStep, htid, show (rcv.park _).get t.id = none from requested_get rcv t.id hr, hmk]
    exact get_setTree_self _ t

/-- non-vacuity of `c06_peer_learns_same`: a sender that registered a well-formed tree, a receiver
that requested it -/
example : ∃ (snd rcv : Ovl) (t : Tree) (ro : Roster), ro.Distinct ∧ t.WF ro ∧ t.id ≠ 0 ∧ ro.id ≠ 0 ∧
    snd.get t.id = some t ∧ rcv.isRequested t.id = true ∧ snd.getRoster ro.id = some ro := by
  exact ⟨localStep {} (.register exTree), localStep {} (.request 1), exTree, exRoster, exRoster_distinct, exTree_wf,
    by decide, by decide, by decide +kernel, rfl, by decide +kernel⟩

/-- a request that cannot be sent leaves no requested marker behind: afterwards a tree pushed by any
peer under that id is not stored (unless the id was already waiting before) -/
theorem c06_failed_request_leaves_no_marker (o : Ovl) (id : Nat) (tm : Option TreeMarshal) (ro : Option Roster)
    (h : o.isRequested id = false) :
    (localStep o (.reqFail id)).isRequested id = false ∧
    (handle (localStep o (.reqFail id)) (.responseTree tm ro)).1.get id = o.get id := by
  have hst : (localStep o (.reqFail id)).store = o.store := by
    simp only [localStep]; split <;> rfl
  have hreq : (localStep o (.reqFail id)).isRequested id = false := by rw [Ovl.isRequested, hst]; exact h
  have hget : (localStep o (.reqFail id)).get id = o.get id := by rw [Ovl.get, hst]; rfl
  refine ⟨hreq, Decidable.byContradiction fun hne => ?_⟩
  have := (c06_only_requested_partial (localStep o (.reqFail id)) id).1 tm ro (hget ▸ hne)
  rw [hreq] at this; cases this

/-! #### the full statement holds as long as no request is withdrawn -/

/-- the events that withdraw a request or drop a tree: a request that turns out not to be
sendable (`Unregister`), the end of a tree's grace period -/
def Ev.withdraws : Ev → Bool
  | .loc (.unrequest _) => true
  | .loc (.expire _) => true
  | _ => false

/-- every parked description belongs to an identifier that still has its entry in the store -/
def ParkedLive (o : Ovl) : Prop :=
  ∀ rid sl tm, lookup o.pending rid = some sl → tm ∈ sl → o.registered tm.treeId

private theorem parkedLive_step (o : Ovl) (e : Ev) (hw : e.withdraws = false) (h : ParkedLive o) : ParkedLive (stepEv o e) := by
  intro rid sl tm hl hm
  cases e with
  | peer m =>
    refine handle_registered o m _ ?_
    rcases (handled o m).parked_from hl hm with ⟨sl₀, h0, hm0⟩ | ⟨_, _, hreq⟩
    · exact h rid sl₀ tm h0 hm0
    · exact Ovl.registered_of_lookup ((req_lookup o _).mp hreq)
  | loc l =>
    have hr := h rid sl tm ((localStep_frame o l).1 ▸ hl) hm
    cases localStep_slot o l tm.treeId with
    | same e => exact Ovl.registered_congr e hr
    | marked _ e _ => exact Ovl.registered_of_lookup e
    | erased _ e => rcases e with rfl | ⟨rfl, _⟩ <;> cases hw
    | put _ _ e _ _ => exact Ovl.registered_of_lookup e

/-- **never a tree the server is not waiting for — in full, on every history in which no request is
withdrawn and no tree expires**: after any such history of peer messages (solicited, unsolicited,
foreign roster, mismatching, repeated, deprecated form) and local events, whatever message comes
next changes what is stored under an identifier only if that identifier is requested and still
empty at that moment.  The one way around it (`c06_only_requested_full_fails`) needs an `Unregister`
or an expiry between the parking of a description and the arrival of its roster. -/
theorem c06_only_requested_full_without_withdrawal (evs : List Ev) (hnw : ∀ e ∈ evs, e.withdraws = false)
    (m : Msg) (id : Nat) (hne : (handle (runEv {} evs) m).1.get id ≠ (runEv {} evs).get id) :
    (runEv {} evs).isRequested id = true := by
  have hl : ParkedLive (runEv {} evs) :=
    List.foldlRecOn evs stepEv (fun _ _ _ h => by cases h) fun o h e he => parkedLive_step o e (hnw e he) h
  generalize runEv {} evs = o at hne hl
  rcases handle_change o m id hne with h | ⟨ro, _, hnone, sl, hsl, tm, hm, hid⟩
  · exact h.2
  -- the slot holds no tree, but a description parked for it: it is still registered, so it is waiting
  exact (hid ▸ hl ro.id sl tm hsl hm : o.registered id).waiting hnone

/-- non-vacuity: a history without withdrawal in which a roster message stores a tree (the deprecated
exchange in order: request, description parked, roster) -/
example : ∃ (evs : List Ev) (m : Msg) (id : Nat), (∀ e ∈ evs, e.withdraws = false) ∧
    (handle (runEv {} evs) m).1.get id ≠ (runEv {} evs).get id ∧ (runEv {} evs).isRequested id = true := by
  let ro : Roster := { id := 1, list := [⟨3, 4, false⟩, ⟨5, 6, false⟩, ⟨7, 8, false⟩] }
  let tm : TreeMarshal := { treeId := 1, rosterId := 1, children := .node 3 3 (.node 5 5 .nil (.node 7 7 .nil .nil)) .nil }
  exact ⟨[.loc (.request 1), .peer (.treeMarshal tm)], .sendRoster ro, 1, by decide, by decide +kernel, by decide +kernel⟩

/-- **what a peer can change, exactly** — on any history: a slot changes only if it is requested and
empty at that moment, or (the known class) the message is a roster, the slot is empty, a description
for it is parked under that roster id, and the identifier was requested at some earlier point -/
theorem c06_store_change_characterised (evs : List Ev) (m : Msg) (id : Nat)
    (hne : (handle (runEv {} evs) m).1.get id ≠ (runEv {} evs).get id) :
    (runEv {} evs).isRequested id = true ∨
    (∃ ro, m = .sendRoster ro ∧ (runEv {} evs).get id = none ∧ id ∈ (runEv {} evs).everReq ∧
      ∃ sl, lookup (runEv {} evs).pending ro.id = some sl ∧ ∃ tm ∈ sl, tm.treeId = id) := by
  have hinv := storeInv_run evs
  generalize runEv {} evs = o at hne hinv
  exact (handle_change o m id hne).imp (·.2) fun ⟨ro, e, hnone, sl, hsl, tm, hm, hid⟩ =>
    ⟨ro, e, hnone, hid ▸ hinv.parked ro.id sl tm hsl hm, sl, hsl, tm, hm, hid⟩

/-! #### a description parked under the nil roster id is never dropped

`handleSendTreeMarshal` parks a description of a requested tree under whatever roster id it names — also the nil
id.  `handleSendRoster` refuses rosters with the nil id, so no message can release that entry; the local actions do
not touch the table.  (For the other ids a roster message with that id clears the entry: `c06_roster_clears_parked`.)
The table is not the tree store — nothing of it is ever handed to a protocol — so the statement of C06 is not
violated; the entry is memory that is never given back, one slice element per such message received while the
tree is requested. -/

/-- every parked description can be released by some message of a peer -/
def C06_parked_releasable : Prop :=
  ∀ (o : Ovl) (rid : Nat) (sl : List TreeMarshal), lookup o.pending rid = some sl → ∃ m, lookup (handle o m).1.pending rid = none

/-- **parked under the nil roster id = parked for ever**: whatever messages arrive and whatever the server does -/
theorem c06_nil_roster_description_parked_for_ever (evs : List Ev) (o : Ovl) (sl : List TreeMarshal) (tm : TreeMarshal)
    (hl : lookup o.pending 0 = some sl) (hm : tm ∈ sl) :
    ∃ sl', lookup (runEv o evs).pending 0 = some sl' ∧ tm ∈ sl' := by
  refine List.foldlRecOn (motive := fun o => ∃ sl', lookup o.pending 0 = some sl' ∧ tm ∈ sl') evs stepEv ⟨sl, hl, hm⟩
    fun o ⟨sl', hl', hm'⟩ e _ => ?_
  cases e with
  | loc l => exact ⟨sl', (localStep_frame o l).1 ▸ hl', hm'⟩
  | peer m => exact handle_keeps_parked o m 0 sl' tm hl' hm' fun _ _ h0 => h0

/-- it is reachable (a peer sends it while the tree is requested), so `C06_parked_releasable` is false -/
theorem c06_parked_releasable_fails : ¬ C06_parked_releasable := by
  intro h
  let tm : TreeMarshal := { treeId := 1, rosterId := 0, children := .nil }
  let o := runEv {} [.loc (.request 1), .peer (.treeMarshal tm)]
  have hl : lookup o.pending 0 = some [tm] := by decide +kernel
  obtain ⟨m, hm⟩ := h o 0 [tm] hl
  obtain ⟨sl', h1, _⟩ := c06_nil_roster_description_parked_for_ever [.peer m] o [tm] tm hl List.mem_cons_self
  exact nomatch h1.symm.trans hm

/-- **a deprecated description nobody is waiting for is refused at the entrance**: when its tree id is not
requested-and-empty (never asked for, or the tree is present) the message changes nothing — nothing is
stored, nothing is parked for a later roster message, no roster is asked for.  (Parked, it would be
stored by `checkPendingTreeMarshal` as soon as the present tree has expired.) -/
theorem c06_unsolicited_description_not_parked (o : Ovl) (tm : TreeMarshal) (h : o.isRequested tm.treeId = false) :
    handle o (.treeMarshal tm) = (o, []) := by
  simp only [handle, h, Bool.not_false, if_true, ite_self]

/-! ### the world

The *world* `W` says which tree every tree id denotes; servers register only trees of the world. -/

/-- every id denotes one well-formed tree over a roster of pairwise distinct servers; roster ids denote
rosters (the assumption under which the deprecated path may pick "a roster with that id") -/
def WorldOK (W : Nat → Option Tree) : Prop :=
  (∀ id t, W id = some t → t.id = id ∧ id ≠ 0 ∧ ∃ ro, t.WF ro ∧ ro.Distinct ∧ ro.id ≠ 0) ∧
  (∀ i j t t' ro ro', W i = some t → W j = some t' → t.roster = some ro → t'.roster = some ro' →
      ro.id = ro'.id → ro = ro')

/-- a message in flight was produced by a server of this world -/
def MsgOK (W : Nat → Option Tree) : Msg → Prop
  | .requestTree _ _ => True
  | .requestRoster _ => True
  | .responseTree tm ro => ∃ t r, W t.id = some t ∧ t.roster = some r ∧ tm = some (makeTreeMarshal t) ∧ ro = some r
  | .treeMarshal tm => ∃ t, W t.id = some t ∧ tm = makeTreeMarshal t
  | .sendRoster ro => ro.id = 0 ∨ ∃ t, W t.id = some t ∧ t.roster = some ro

/-- a server's state: every stored tree is the world's tree of that id, every parked description
describes a tree of the world and is filed under its roster id -/
def OvlOK (W : Nat → Option Tree) (o : Ovl) : Prop :=
  (∀ id t, (id, some t) ∈ o.store → W id = some t) ∧
  (∀ rid sl, (rid, sl) ∈ o.pending → ∀ tm ∈ sl, tm.rosterId = rid ∧ ∃ t, W t.id = some t ∧ tm = makeTreeMarshal t)

theorem WorldOK.trees {W : Nat → Option Tree} (hW : WorldOK W) {id : Nat} {t : Tree} (h : W id = some t) :
    t.id = id ∧ id ≠ 0 ∧ ∃ ro, t.WF ro ∧ ro.Distinct ∧ ro.id ≠ 0 := hW.1 id t h

theorem WorldOK.rosters {W : Nat → Option Tree} (hW : WorldOK W) {i j : Nat} {t t' : Tree} {ro ro' : Roster} (h : W i = some t)
    (h' : W j = some t') (hr : t.roster = some ro) (hr' : t'.roster = some ro') (hid : ro.id = ro'.id) : ro = ro' :=
  hW.2 i j t t' ro ro' h h' hr hr' hid

theorem OvlOK.stored {W : Nat → Option Tree} {o : Ovl} (ho : OvlOK W o) {id : Nat} {t : Tree} (h : (id, some t) ∈ o.store) :
    W id = some t := ho.1 id t h

theorem OvlOK.parked {W : Nat → Option Tree} {o : Ovl} (ho : OvlOK W o) {rid : Nat} {sl : List TreeMarshal} (h : (rid, sl) ∈ o.pending)
    {tm : TreeMarshal} (hm : tm ∈ sl) : tm.rosterId = rid ∧ ∃ t, W t.id = some t ∧ tm = makeTreeMarshal t := ho.2 rid sl h tm hm

theorem OvlOK.tree {W : Nat → Option Tree} (hW : WorldOK W) {o : Ovl} (ho : OvlOK W o) {id : Nat} {t : Tree}
    (hg : o.get id = some t) : W t.id = some t := by
  have hw := ho.stored (get_mem o id t hg)
  rwa [(hW.trees hw).1]

theorem OvlOK.get_eq {W : Nat → Option Tree} {o : Ovl} (ho : OvlOK W o) {t t' : Tree} (ht : W t.id = some t)
    (hg : o.get t.id = some t') : o.get t.id = some t := by
  have := ho.stored (get_mem o t.id t' hg)
  rw [ht] at this
  rw [hg, Option.some.inj this]

theorem world_mk {W : Nat → Option Tree} (hW : WorldOK W) (t : Tree) (r : Roster)
    (ht : W t.id = some t) (hr : t.roster = some r) : makeTree (makeTreeMarshal t) (some r) = .ok t := by
  obtain ⟨_, _, ro, hwf, hd, _⟩ := hW.trees ht
  cases hwf.roster.symm.trans hr
  exact c06_roundtrip t _ hd hwf

theorem world_roster {W : Nat → Option Tree} (hW : WorldOK W) {t t₀ : Tree} {ro : Roster} (ht : W t.id = some t)
    (ht₀ : W t₀.id = some t₀) (hr₀ : t₀.roster = some ro) (hid : (makeTreeMarshal t).rosterId = ro.id) :
    t.roster = some ro := by
  obtain ⟨_, _, r, hwf, _, _⟩ := hW.trees ht
  rw [hwf.roster, hW.rosters ht ht₀ hwf.roster hr₀ ((mtm_rosterId t r hwf.roster).symm.trans hid)]

theorem world_rebuild {W : Nat → Option Tree} (hW : WorldOK W) {t t₀ t' : Tree} {ro : Roster} (ht : W t.id = some t)
    (ht₀ : W t₀.id = some t₀) (hr₀ : t₀.roster = some ro) (hid : (makeTreeMarshal t).rosterId = ro.id)
    (hmk : makeTree (makeTreeMarshal t) (some ro) = .ok t') : t' = t := by
  rw [world_mk hW t ro ht (world_roster hW ht ht₀ hr₀ hid)] at hmk
  exact (Except.ok.inj hmk).symm

private theorem setTree_ok {W : Nat → Option Tree} (o : Ovl) (t : Tree) (ho : OvlOK W o) (ht : W t.id = some t) :
    OvlOK W (o.setTree t) := by
  refine ⟨fun id t' hm => ?_, ho.2⟩
  rcases mem_insert _ _ _ _ hm with h | h
  · cases h; exact ht
  · exact ho.stored h

private theorem Handled.ok {W : Nat → Option Tree} (hW : WorldOK W) {o o' : Ovl} {m : Msg} (hd : Handled o m o')
    (ho : OvlOK W o) (hm : MsgOK W m) : OvlOK W o' := by
  cases hd with
  | same => exact ho
  | @stored _ tm r t hsrc _ _ hmk =>
    have : ∃ t₁ t₀, W t₁.id = some t₁ ∧ tm = makeTreeMarshal t₁ ∧ W t₀.id = some t₀ ∧ t₀.roster = some r ∧
        tm.rosterId = r.id := by
      rcases hsrc with rfl | ⟨rfl, hi⟩
      · obtain ⟨t₁, r₁, h1, h2, h3, h4⟩ := hm
        cases h3; cases h4
        exact ⟨t₁, t₁, h1, rfl, h1, h2, mtm_rosterId t₁ r h2⟩
      · obtain ⟨t₁, h1, rfl⟩ := hm
        obtain ⟨id₀, t₀, hg, hr, hid⟩ := instRoster_mem o _ r hi
        exact ⟨t₁, t₀, h1, rfl, ho.tree hW hg, hr, hid.symm⟩
    obtain ⟨t₁, t₀, h1, rfl, h0, hr0, hid⟩ := this
    rw [world_rebuild hW h1 h0 hr0 hid hmk]
    exact setTree_ok o t₁ ho h1
  | @parked tm =>
    obtain ⟨t₁, h1, rfl⟩ := hm
    refine ⟨ho.1, fun rid sl hmem tm' hm' => ?_⟩
    rcases mem_insert _ _ _ _ hmem with e | hmem
    · cases e
      rcases List.mem_append.mp hm' with h | h
      · obtain ⟨sl₀, hl, h⟩ := Option.mem_getD_nil h
        exact ho.parked (lookup_mem _ _ _ hl) h
      · cases List.mem_singleton.mp h; exact ⟨rfl, t₁, h1, rfl⟩
    · exact ho.parked hmem hm'
  | @roster ro sl h0 hl =>
    rcases hm with e | ⟨t₀, h0', hr0⟩
    · exact absurd e h0
    · have hf := fold_pendStep_inv (OvlOK W) ro sl (fun o₁ tm hm t ho₁ _ hmk => by
        obtain ⟨hrid, t₁, h1, rfl⟩ := ho.parked (lookup_mem _ _ _ hl) hm
        rw [world_rebuild hW h1 h0' hr0 hrid hmk]
        exact setTree_ok o₁ t₁ ho₁ h1) o ho
      exact ⟨hf.1, fun rid sl' hmem => ho.2 rid sl' (mem_erase _ _ _ hmem)⟩

/-- one message of this world handled by a server of this world: the server stays in the world, and so
do its replies -/
theorem handle_ok {W : Nat → Option Tree} (hW : WorldOK W) (o : Ovl) (m : Msg) (ho : OvlOK W o) (hm : MsgOK W m) :
    OvlOK W (handle o m).1 ∧ ∀ out ∈ (handle o m).2, MsgOK W out.toMsg := by
  refine ⟨(handled o m).ok hW ho hm, ?_⟩
  -- the replies, by the branches of `handle`; those not named send nothing
  fun_cases handle o m with
  | case2 id t hg =>                   -- tree request, deprecated form
    exact fun out hout => by cases List.mem_singleton.mp hout; exact ⟨t, ho.tree hW hg, rfl⟩
  | case3 id v t hg hv =>              -- tree request
    have ht := ho.tree hW hg
    obtain ⟨_, _, ro, hwf, _⟩ := hW.trees ht
    exact fun out hout => by cases List.mem_singleton.mp hout; exact ⟨t, ro, ht, hwf.roster, rfl, hwf.roster⟩
  | case7 tm =>                        -- bare description, parked
    exact fun out hout => by cases List.mem_singleton.mp hout; trivial
  | case9 rid =>                       -- roster request
    intro out hout
    cases List.mem_singleton.mp hout
    cases hg : o.getRoster rid with
    | none => exact Or.inl rfl
    | some ro =>
      obtain ⟨_, ⟨id, _⟩, hmem, t, hk, hr⟩ := ((c06_requests_read_only o).2 rid).2.2 ro hg
      cases hk
      have hw := ho.stored hmem
      exact Or.inr ⟨t, (hW.trees hw).1.symm ▸ hw, hr⟩
  | _ => exact fun _ hout => nomatch hout

/-- a local action (a request, its withdrawal, expiry, the registration of a tree of the world) keeps a
server in the world -/
theorem local_ok {W : Nat → Option Tree} (o : Ovl) (l : Local) (ho : OvlOK W o)
    (hl : match l with | .register t => W t.id = some t | .instance t => W t.id = some t | _ => True) :
    OvlOK W (localStep o l) := by
  refine ⟨fun id t h => ?_, (localStep_frame o l).1 ▸ ho.2⟩
  rcases localStep_mem o l h with h | ⟨rfl, rfl | rfl⟩
  · exact ho.stored h
  · exact hl
  · exact hl

/-- a local action registers only trees of the world -/
def LocalOK (W : Nat → Option Tree) (l : Local) : Prop :=
  match l with | .register t => W t.id = some t | .instance t => W t.id = some t | _ => True

theorem getRoster_of_stored {W : Nat → Option Tree} (hW : WorldOK W) (o : Ovl) (ho : OvlOK W o) (t : Tree) (r : Roster)
    (ht : W t.id = some t) (hr : t.roster = some r) (hg : o.get t.id = some t) : o.getRoster r.id = some r := by
  cases hx : o.getRoster r.id with
  | none =>
    have := List.findSome?_eq_none_iff.mp hx (t.id, some t) (get_mem o t.id t hg)
    simp only [hr, if_true] at this
    cases this
  | some ro =>
    obtain ⟨hid, ⟨k, _⟩, hp, t', hk, hr'⟩ := ((c06_requests_read_only o).2 r.id).2.2 ro hx
    cases hk
    have hw' := ho.stored hp
    rw [hW.rosters ((hW.trees hw').1.symm ▸ hw') ht hr' hr hid]

/-! ### any number of servers, any schedule -/

/-- a state of the world with any number of servers: every server's state is a state of the world, every message
in flight — whoever sent it — was produced by a server of the world -/
def NNetOK (W : Nat → Option Tree) (n : NNet) : Prop :=
  (∀ s, OvlOK W (n.ovl s)) ∧ (∀ s, ∀ m ∈ n.inbox s, MsgOK W m.2)

/-- servers register trees of the world -/
def NEvOK (W : Nat → Option Tree) : NNetEv → Prop
  | .loc _ (.register t) => W t.id = some t
  | .loc _ (.instance t) => W t.id = some t
  | _ => True

private theorem updN_at {α : Type} (f : Nat → α) (u x : Nat) (v : α) : updN f u v x = if x = u then v else f x := rfl

/-- one inbox of `NNetOK`, for `forall_updN (P := …)` -/
def InboxOK (W : Nat → Option Tree) (l : List (Nat × Msg)) : Prop := ∀ m ∈ l, MsgOK W m.2

private theorem nhandleAt_ok {W : Nat → Option Tree} (hW : WorldOK W) (n : NNet) (s p : Nat) (m : Msg)
    (rest : List (Nat × Msg)) (hn : NNetOK W n) (hm : MsgOK W m) (hrest : ∀ x ∈ rest, MsgOK W x.2) :
    NNetOK W (n.handleAt s p m rest) := by
  obtain ⟨h1, h2⟩ := handle_ok hW (n.ovl s) m (hn.1 s) hm
  have hin : ∀ x, ∀ y ∈ updN n.inbox s rest x, MsgOK W y.2 := forall_updN (P := InboxOK W) s hrest hn.2
  exact ⟨forall_updN s h1 hn.1,
    forall_updN (P := InboxOK W) p (List.forall_mem_append.mpr ⟨hin p, List.forall_mem_map.mpr h2⟩) hin⟩

theorem nnetStep_ok {W : Nat → Option Tree} (hW : WorldOK W) (n : NNet) (e : NNetEv) (hn : NNetOK W n) (he : NEvOK W e) :
    NNetOK W (nnetStep n e) := by
  cases e with
  | loc s l => exact ⟨forall_updN s (local_ok _ _ (hn.1 s) (by cases l <;> exact he)) hn.1, hn.2⟩
  | ask s p id v =>
    refine ⟨forall_updN s (local_ok _ _ (hn.1 s) trivial) hn.1, ?_⟩
    simp only [nnetStep]
    split
    · exact forall_updN (P := InboxOK W) p
        (List.forall_mem_concat (hn.2 p) trivial) hn.2
    · exact hn.2
  | deliver s i =>
    simp only [nnetStep]
    cases hg : (n.inbox s)[i]? with
    | none => exact hn
    | some m =>
      exact nhandleAt_ok hW n s m.1 m.2 _ hn (hn.2 s m (List.mem_of_getElem? hg))
        (fun x hx => hn.2 s x (List.mem_of_mem_eraseIdx hx))
  | redeliver s i =>
    simp only [nnetStep]
    cases hg : (n.inbox s)[i]? with
    | none => exact hn
    | some m => exact nhandleAt_ok hW n s m.1 m.2 _ hn (hn.2 s m (List.mem_of_getElem? hg)) (hn.2 s)
  | drop s i =>
    exact ⟨hn.1, forall_updN (P := InboxOK W) s (fun x hx => hn.2 s x (List.mem_of_mem_eraseIdx hx)) hn.2⟩

/-- **any number of servers, any schedule: a learnt tree is the world's tree.**  For every world, every state of
it with any number of servers and every finite run — registrations of trees of the world at any server, requests
in the current or the deprecated form put to any server, every message handled in any order, any number of times or
never, its replies travelling back to whoever sent it, withdrawals, expiry — every tree found in any server's store
under an id is the world's tree of that id, equal to it in every field; and every message still in flight is one a
server of the world produces. -/
theorem c06_n_servers_learn_only_the_worlds_trees (W : Nat → Option Tree) (hW : WorldOK W)
    (n : NNet) (hn : NNetOK W n) (evs : List NNetEv) (hev : ∀ e ∈ evs, NEvOK W e) :
    NNetOK W (nnetRun n evs) ∧ ∀ s id t, ((nnetRun n evs).ovl s).get id = some t → W id = some t := by
  have hrun : NNetOK W (nnetRun n evs) := List.foldlRecOn evs nnetStep hn fun n hn e he => nnetStep_ok hW n e hn (hev e he)
  exact ⟨hrun, fun s id t h => (hrun.1 s).1 id t (get_mem _ id t h)⟩

/-- the empty network of any size is a state of every world -/
theorem nnetOK_empty (W : Nat → Option Tree) : NNetOK W { ovl := fun _ => {}, inbox := fun _ => [] } :=
  ⟨fun _ => ⟨fun _ _ h => (nomatch h), fun _ _ h => (nomatch h)⟩, fun _ _ h => (nomatch h)⟩

def oneTree (t : Tree) : Nat → Option Tree := fun id => if id = t.id then some t else none

theorem oneTree_self (t : Tree) : oneTree t t.id = some t := if_pos rfl

theorem worldOK_oneTree {t : Tree} {ro : Roster} (hw : t.WF ro) (hd : ro.Distinct) (hid : t.id ≠ 0) (hrid : ro.id ≠ 0) :
    WorldOK (oneTree t) := by
  have one : ∀ i x, oneTree t i = some x → i = t.id ∧ x = t := by
    intro i x hx
    unfold oneTree at hx
    split at hx
    · next h => cases hx; exact ⟨h, rfl⟩
    · cases hx
  refine ⟨fun i x hx => ?_, fun i j x x' r r' hx hx' hr hr' _ => ?_⟩
  · obtain ⟨rfl, rfl⟩ := one i x hx
    exact ⟨rfl, hid, ro, hw, hd, hrid⟩
  · obtain ⟨_, rfl⟩ := one i x hx
    obtain ⟨_, rfl⟩ := one j x' hx'
    exact Option.some.inj (hr.symm.trans hr')

theorem exWorld_ok : WorldOK (oneTree exTree) :=
  worldOK_oneTree exTree_wf exRoster_distinct (by decide) (by decide)

/-- non-vacuity with three servers: 0 registers the tree; 1 asks 0 (current form); 2 asks 1 in the deprecated form
while 1 does not hold the tree yet (no answer); 0's answer reaches 1; 2's request is handled by 1 once more (a
duplicate) and now answered with the bare description; 2 parks it, asks 1 for the roster, gets it — all three
hold exactly the world's tree -/
example : ∃ (W : Nat → Option Tree) (t : Tree) (evs : List NNetEv), WorldOK W ∧ W 1 = some t ∧
    (∀ e ∈ evs, NEvOK W e) ∧
    ((nnetRun { ovl := fun _ => {}, inbox := fun _ => [] } evs).ovl 1).get 1 = some t ∧
    ((nnetRun { ovl := fun _ => {}, inbox := fun _ => [] } evs).ovl 2).get 1 = some t ∧
    (∀ s, s < 3 → (nnetRun { ovl := fun _ => {}, inbox := fun _ => [] } evs).inbox s = []) := by
  refine ⟨oneTree exTree, exTree, [.loc 0 (.register exTree), .ask 1 0 1 1, .ask 2 1 1 0, .deliver 0 0, .deliver 1 1,
      .redeliver 1 0, .drop 1 0, .deliver 2 0, .deliver 1 0, .deliver 2 0],
    exWorld_ok, rfl, ?_, by decide +kernel, by decide +kernel, by decide +kernel⟩
  intro e he
  simp only [List.mem_cons, List.mem_nil_iff, or_false] at he
  rcases he with rfl | rfl | rfl | rfl | rfl | rfl | rfl | rfl | rfl | rfl
  · exact oneTree_self exTree
  all_goals exact trivial

/-! #### liveness at quiescence for any number of servers

`NProgress t r s p n`: server `p` holds tree `t` (roster `r`) and server `s ≠ p` either holds it too or is waiting
for it with something under way between the two: its request to `p`, `p`'s answer in one of the two forms, or the
parked description together with the roster request to `p` or a roster message (from anybody).  Every step of the
network that loses or withdraws nothing about `t` keeps it — whatever the other servers do, whatever they send to `s`
or `p` (their messages are messages of the world), in any order, with duplicates. -/

/-- what the last alternative of `NWaiting` and of `Waiting` writes out as its first half -/
def Parked (t : Tree) (r : Roster) (o : Ovl) : Prop := ∃ sl, lookup o.pending r.id = some sl ∧ makeTreeMarshal t ∈ sl

def NWaiting (t : Tree) (r : Roster) (s p : Nat) (n : NNet) : Prop :=
  (∃ v, (s, Msg.requestTree t.id v) ∈ n.inbox p) ∨
  (p, Msg.responseTree (some (makeTreeMarshal t)) (some r)) ∈ n.inbox s ∨
  (p, Msg.treeMarshal (makeTreeMarshal t)) ∈ n.inbox s ∨
  ((∃ sl, lookup (n.ovl s).pending r.id = some sl ∧ makeTreeMarshal t ∈ sl) ∧
    ((s, Msg.requestRoster r.id) ∈ n.inbox p ∨ ∃ u, (u, Msg.sendRoster r) ∈ n.inbox s))

def NProgress (t : Tree) (r : Roster) (s p : Nat) (n : NNet) : Prop :=
  (n.ovl p).get t.id = some t ∧
  ((n.ovl s).get t.id = some t ∨ ((n.ovl s).isRequested t.id = true ∧ NWaiting t r s p n))

/-- nothing about tree `id` is lost or withdrawn -/
def NEvKeeps (id : Nat) : NNetEv → Prop
  | .drop _ _ => False
  | .loc _ (.unrequest i) => i ≠ id
  | .loc _ (.expire i) => i ≠ id
  | _ => True

def NQuiet (n : NNet) : Prop := ∀ s, n.inbox s = []

private theorem mem_rest {α} (l rest : List α) (x m : α)
    (hrest : ∀ y, y ∈ l → y ≠ m → y ∈ rest) (hx : x ∈ l) (hne : x ≠ m) : x ∈ rest := hrest x hx hne

private theorem nhandleAt_keeps (n : NNet) (u f : Nat) (m : Msg) (rest : List (Nat × Msg)) (x : Nat) (y : Nat × Msg)
    (hy : y ∈ (if x = u then rest else n.inbox x)) : y ∈ (n.handleAt u f m rest).inbox x := by
  simp only [NNet.handleAt, updN_at]
  split
  · next hf => exact List.mem_append_left _ (hf ▸ hy)
  · exact hy

private theorem nhandleAt_reply (n : NNet) (u f : Nat) (m : Msg) (rest : List (Nat × Msg)) (out : Out)
    (ho : out ∈ (handle (n.ovl u) m).2) : (u, out.toMsg) ∈ (n.handleAt u f m rest).inbox f := by
  simp only [NNet.handleAt, updN_at, if_true]
  exact List.mem_append_right _ (List.mem_map.mpr ⟨out, ho, rfl⟩)

/-- `Tok … d y`: message `y`, on its way to `d`, carries the exchange about `t` between requester `s` and holder `p` forward -/
inductive Tok (t : Tree) (r : Roster) (s p : Nat) (parked : Prop) : Nat → Nat × Msg → Prop
  | request (v : Nat) : Tok t r s p parked p (s, .requestTree t.id v)
  | response : Tok t r s p parked s (p, .responseTree (some (makeTreeMarshal t)) (some r))
  | description : Tok t r s p parked s (p, .treeMarshal (makeTreeMarshal t))
  | rosterRequest : parked → Tok t r s p parked p (s, .requestRoster r.id)
  | roster (u : Nat) : parked → Tok t r s p parked s (u, .sendRoster r)

theorem Tok.imp {t : Tree} {r : Roster} {s p : Nat} {a b : Prop} (hab : a → b) {d : Nat} {y : Nat × Msg}
    (h : Tok t r s p a d y) : Tok t r s p b d y := by
  cases h with
  | request v => exact .request v
  | response => exact .response
  | description => exact .description
  | rosterRequest h => exact .rosterRequest (hab h)
  | roster u h => exact .roster u (hab h)

theorem nwaiting_iff {t : Tree} {r : Roster} {s p : Nat} {n : NNet} :
    NWaiting t r s p n ↔ ∃ d y, y ∈ n.inbox d ∧ Tok t r s p (Parked t r (n.ovl s)) d y := by
  constructor
  · rintro (⟨v, h⟩ | h | h | ⟨hp, h | ⟨u, h⟩⟩)
    · exact ⟨_, _, h, .request v⟩
    · exact ⟨_, _, h, .response⟩
    · exact ⟨_, _, h, .description⟩
    · exact ⟨_, _, h, .rosterRequest hp⟩
    · exact ⟨_, _, h, .roster u hp⟩
  · rintro ⟨d, y, h, tok⟩
    cases tok with
    | request v => exact Or.inl ⟨v, h⟩
    | response => exact Or.inr (Or.inl h)
    | description => exact Or.inr (Or.inr (Or.inl h))
    | rosterRequest hp => exact Or.inr (Or.inr (Or.inr ⟨hp, Or.inl h⟩))
    | roster u hp => exact Or.inr (Or.inr (Or.inr ⟨hp, Or.inr ⟨u, h⟩⟩))

structure Keeps (t : Tree) (r : Roster) (o o' : Ovl) : Prop where
  tree : o.get t.id = some t → o'.get t.id = some t
  marker : o.isRequested t.id = true → o'.isRequested t.id = true ∨ o'.get t.id = some t
  parked : o.isRequested t.id = true → o'.isRequested t.id = true → Parked t r o → Parked t r o'

theorem Keeps.updN {t : Tree} {r : Roster} {f : Nat → Ovl} {u : Nat} {o' : Ovl} (h : Keeps t r (f u) o') (x : Nat) :
    Keeps t r (f x) (updN f u o' x) := by
  rw [updN_at]
  split
  · next e => exact e ▸ h
  · exact { tree := id, marker := Or.inl, parked := fun _ _ => id }

/-- a server that still waits for `t` after a message: what the message cannot have been -/
theorem waiting_handle {W : Nat → Option Tree} (hW : WorldOK W) {o : Ovl} {m : Msg} (ho : OvlOK W o) (hm : MsgOK W m)
    {t : Tree} {r : Roster} (ht : W t.id = some t) (hr : t.roster = some r) (hreq : o.isRequested t.id = true)
    (hk : (handle o m).1.isRequested t.id = true) :
    m ≠ .responseTree (some (makeTreeMarshal t)) (some r) ∧
    (Parked t r o → ∀ ro', m = .sendRoster ro' → ro'.id ≠ r.id) ∧
    (m = .treeMarshal (makeTreeMarshal t) → Parked t r (handle o m).1 ∧ .requestRoster r.id ∈ (handle o m).2) := by
  have hnone := requested_get _ _ hk
  obtain ⟨_, hid0, ro, hwf, _, hrid0⟩ := hW.trees ht
  cases hwf.roster.symm.trans hr
  have hmk := world_mk hW t r ht hr
  have htid := mtm_treeId t r hr
  have hrid := mtm_rosterId t r hr
  have hreq' : o.isRequested (makeTreeMarshal t).treeId = true := htid.symm ▸ hreq
  -- had the description arrived with its roster, the tree would be there
  have hstored := c06_requested_wellformed_stored o (makeTreeMarshal t) r t (htid.symm ▸ hid0) hreq' hmk
  rw [htid] at hstored
  refine ⟨?_, ?_, ?_⟩
  · rintro rfl; rw [hstored] at hnone; cases hnone
  · -- a roster with the id of `r` is `r`; had it arrived while the description is parked, the tree would be there
    rintro ⟨sl, hl, hmem⟩ ro' rfl hid'
    rcases hm with h0 | ⟨t₀, hw₀, hr₀⟩
    · exact hrid0 (hid' ▸ h0)
    · cases hW.rosters hw₀ ht hr₀ hr hid'
      have := sendRoster_fills hrid0 hl hmem hmk
      rw [hnone] at this; cases this
  · rintro rfl
    cases hi : o.instRoster (makeTreeMarshal t).rosterId with
    | some ro' =>
      -- a live instance provides a roster with that id: the tree's own, and the tree would be there
      obtain ⟨id₀, t₀, hg₀, hr₀, hid₀⟩ := instRoster_mem _ _ ro' hi
      cases hr.symm.trans (world_roster hW ht (ho.tree hW hg₀) hr₀ hid₀.symm)
      have hh : (handle o (.treeMarshal (makeTreeMarshal t))).1 =
          (handle o (.responseTree (some (makeTreeMarshal t)) (some r))).1 := by
        rw [handle_treeMarshal (htid.symm ▸ hid0) hreq', hi]; rfl
      rw [hh, hstored] at hnone; cases hnone
    | none =>
      rw [handle_treeMarshal (htid.symm ▸ hid0) hreq', hi, hrid]
      exact ⟨⟨_, (lookup_insert ..).trans (if_pos hrid), List.mem_append_right _ List.mem_cons_self⟩,
        List.mem_singleton_self _⟩

theorem handle_keeps {W : Nat → Option Tree} (hW : WorldOK W) {o : Ovl} {m : Msg} (ho : OvlOK W o) (hm : MsgOK W m)
    {t : Tree} {r : Roster} (ht : W t.id = some t) (hr : t.roster = some r) : Keeps t r o (handle o m).1 := by
  refine { tree := c06_never_replaces o m _ _, marker := fun hreq => ?_, parked := fun hreq hk ⟨sl, hl, hmem⟩ => ?_ }
  · exact (((handled o m).slot t.id).marker hreq).imp_right fun ⟨_, h⟩ => (handle_ok hW o m ho hm).1.get_eq ht h
  · exact handle_keeps_parked o m r.id sl _ hl hmem fun ro' e _ =>
      (waiting_handle hW ho hm ht hr hreq hk).2.1 ⟨sl, hl, hmem⟩ ro' e

theorem local_keeps {W : Nat → Option Tree} (o : Ovl) {l : Local} (hl : LocalOK W l) {t : Tree} (r : Roster)
    (ht : W t.id = some t) (hkeep : ∀ i, (l = .expire i ∨ l = .unrequest i) → i ≠ t.id) :
    Keeps t r o (localStep o l) := by
  have hpk : Parked t r o → Parked t r (localStep o l) := fun h => by unfold Parked; rw [(localStep_frame o l).1]; exact h
  cases localStep_slot o l t.id with
  | same e =>
    exact { tree := fun h => by rwa [get_lookup, e, ← get_lookup]
            marker := fun h => Or.inl (by rwa [req_lookup, e, ← req_lookup])
            parked := fun _ _ => hpk }
  | marked e _ _ =>
    exact { tree := fun h => by rw [get_lookup, e] at h; cases h
            marker := fun h => by rw [req_lookup, e] at h; cases h
            parked := fun _ _ => hpk }
  | erased _ e => exact absurd rfl (hkeep _ (e.imp_right And.left))
  | put t' hid e _ hl' =>
    -- a registration under the id of `t` registers `t`: ids denote trees
    have ht' : W t'.id = some t' := by rcases hl' with rfl | rfl <;> exact hl
    rw [hid, ht] at ht'
    cases ht'
    have := (get_lookup _ _ _).mpr e
    exact { tree := fun _ => this, marker := fun _ => Or.inr this, parked := fun _ _ => hpk }

theorem nprogress_acts {t : Tree} {r : Roster} {s p : Nat} {n : NNet} {u : Nat} {o' : Ovl} {inbox' : Nat → List (Nat × Msg)}
    (hk : Keeps t r (n.ovl u) o') (hp : NProgress t r s p n)
    (htok : (n.ovl s).isRequested t.id = true → (updN n.ovl u o' s).isRequested t.id = true →
      (Parked t r (n.ovl s) → Parked t r (updN n.ovl u o' s)) →
      ∀ d y, y ∈ n.inbox d → Tok t r s p (Parked t r (n.ovl s)) d y →
      ∃ d' y', y' ∈ inbox' d' ∧ Tok t r s p (Parked t r (updN n.ovl u o' s)) d' y') :
    NProgress t r s p ⟨updN n.ovl u o', inbox'⟩ := by
  obtain ⟨hA, hB⟩ := hp
  refine ⟨(hk.updN p).tree hA, hB.elim (fun h => Or.inl ((hk.updN s).tree h)) fun ⟨hreq, hw⟩ => ?_⟩
  refine ((hk.updN s).marker hreq).symm.imp_right fun hk' => ⟨hk', ?_⟩
  obtain ⟨d, y, hy, tok⟩ := nwaiting_iff.mp hw
  exact nwaiting_iff.mpr (htok hreq hk' ((hk.updN s).parked hreq hk') d y hy tok)

/-- `s` and `p` may be the same server -/
theorem nprogress_step_any {W : Nat → Option Tree} (hW : WorldOK W) (t : Tree) (r : Roster) (ht : W t.id = some t)
    (hr : t.roster = some r) (s p : Nat) (n : NNet) (hn : NNetOK W n) (hp : NProgress t r s p n)
    (e : NNetEv) (he : NEvOK W e) (hk : NEvKeeps t.id e) : NProgress t r s p (nnetStep n e) := by
  have hloc : ∀ (u : Nat) (l : Local) (inbox' : Nat → List (Nat × Msg)),
      LocalOK W l → (∀ i, (l = .expire i ∨ l = .unrequest i) → i ≠ t.id) → (∀ x, ∀ y ∈ n.inbox x, y ∈ inbox' x) →
      NProgress t r s p ⟨updN n.ovl u (localStep (n.ovl u) l), inbox'⟩ :=
    fun u l inbox' hl hkeep hsub => nprogress_acts (local_keeps (n.ovl u) hl r ht hkeep) hp
      fun _ _ hpk d y hy tok => ⟨d, y, hsub d y hy, tok.imp hpk⟩
  have hdel : ∀ (u f : Nat) (m : Msg) (rest : List (Nat × Msg)), (f, m) ∈ n.inbox u →
      (∀ y, y ∈ n.inbox u → y ≠ (f, m) → y ∈ rest) → NProgress t r s p (n.handleAt u f m rest) := by
    intro u f m rest hm hkeep
    refine nprogress_acts (inbox' := (n.handleAt u f m rest).inbox) (handle_keeps hW (hn.1 u) (hn.2 u _ hm) ht hr) hp
      fun hreq hk' hpk d y hy tok => ?_
    by_cases hc : d = u ∧ y = (f, m)
    · -- the message handled is the one that carries the exchange: which one it is says who handles it
      obtain ⟨rfl, rfl⟩ := hc
      have hA := hp.1
      have hwh := waiting_handle hW (hn.1 d) (hn.2 d _ hm) ht hr
      cases tok with
      | request v =>
        -- answered: the description, alone or with the roster, is on its way to `s`
        have := nhandleAt_reply n p s (.requestTree t.id v) rest _
          (by rw [handle_requestTree, hA]; exact List.mem_singleton_self _)
        by_cases hv0 : v = 0
        · rw [if_pos hv0] at this; exact ⟨_, _, this, .description⟩
        · rw [if_neg hv0, hr] at this; exact ⟨_, _, this, .response⟩
      | rosterRequest hpk' =>
        refine ⟨_, _, nhandleAt_reply n p s _ rest (.roster (some r)) ?_, .roster p (hpk hpk')⟩
        show Out.roster (some r) ∈ [Out.roster ((n.ovl p).getRoster r.id)]
        rw [getRoster_of_stored hW (n.ovl p) (hn.1 p) t r ht hr hA]; exact List.mem_singleton_self _
      | response => exact absurd rfl (hwh hreq (by rwa [updN_at, if_pos rfl] at hk')).1
      | description =>
        obtain ⟨h1, h2⟩ := (hwh hreq (by rwa [updN_at, if_pos rfl] at hk')).2.2 rfl
        exact ⟨_, _, nhandleAt_reply n s p _ rest _ h2, .rosterRequest (by rwa [updN_at, if_pos rfl])⟩
      | roster u' hpk' => exact absurd rfl ((hwh hreq (by rwa [updN_at, if_pos rfl] at hk')).2.1 hpk' r rfl)
    · refine ⟨d, y, nhandleAt_keeps n u f m rest d y ?_, tok.imp hpk⟩
      split
      · next e => exact hkeep y (e ▸ hy) fun e' => hc ⟨e, e'⟩
      · exact hy
  cases e with
  | loc u l =>
    exact hloc u l n.inbox (by cases l <;> exact he) (fun i h => by rcases h with rfl | rfl <;> exact hk) (fun _ _ h => h)
  | ask u q i v =>
    refine hloc u (.reqSend i) _ trivial (fun j h => by rcases h with h | h <;> cases h) (fun x y hy => ?_)
    show y ∈ (if _ then updN n.inbox q _ else n.inbox) x
    split
    · rw [updN_at]
      split
      · next h => exact List.mem_append_left _ (h ▸ hy)
      · exact hy
    · exact hy
  | deliver u i =>
    simp only [nnetStep]
    cases hg : (n.inbox u)[i]? with
    | none => exact hp
    | some m => exact hdel u m.1 m.2 _ (List.mem_of_getElem? hg) fun _ => List.mem_eraseIdx_of_ne hg
  | redeliver u i =>
    simp only [nnetStep]
    cases hg : (n.inbox u)[i]? with
    | none => exact hp
    | some m => exact hdel u m.1 m.2 _ (List.mem_of_getElem? hg) (fun y hy _ => hy)
  | drop u i => exact hk.elim

set_option linter.unusedVariables false in
/-- the obligation's name for `nprogress_step_any`; its hypothesis `hsp` is not used -/
theorem nprogress_step {W : Nat → Option Tree} (hW : WorldOK W) (t : Tree) (r : Roster) (ht : W t.id = some t)
    (hr : t.roster = some r) (s p : Nat) (hsp : s ≠ p) (n : NNet) (hn : NNetOK W n) (hp : NProgress t r s p n)
    (e : NNetEv) (he : NEvOK W e) (hk : NEvKeeps t.id e) : NProgress t r s p (nnetStep n e) :=
  nprogress_step_any hW t r ht hr s p n hn hp e he hk

/-- **liveness at quiescence, any number of servers**: server `s` asked server `p` for tree `t` (or already waits for
it with something under way between the two), `p` holds `t`.  After any run in which nothing about `t` is lost or
withdrawn — whatever `s`, `p` and all the other servers do and send meanwhile, in any order, with duplicates, in the
current or the deprecated form — `NProgress` still holds; and when no message is in flight anywhere, `s` holds exactly
`t`: no request is stuck, no description stays parked for ever, and no third server's traffic can make it so. -/
theorem c06_n_servers_quiescent_request_answered (W : Nat → Option Tree) (hW : WorldOK W) (t : Tree) (r : Roster)
    (ht : W t.id = some t) (hr : t.roster = some r) (s p : Nat) (hsp : s ≠ p) (n : NNet) (hn : NNetOK W n)
    (hp : NProgress t r s p n) (evs : List NNetEv) (hev : ∀ e ∈ evs, NEvOK W e ∧ NEvKeeps t.id e) :
    NProgress t r s p (nnetRun n evs) ∧ (NQuiet (nnetRun n evs) → ((nnetRun n evs).ovl s).get t.id = some t) := by
  have hrun : NNetOK W (nnetRun n evs) ∧ NProgress t r s p (nnetRun n evs) :=
    List.foldlRecOn (motive := fun n => NNetOK W n ∧ NProgress t r s p n) evs nnetStep ⟨hn, hp⟩ fun n h e he =>
      ⟨nnetStep_ok hW n e h.1 (hev e he).1, nprogress_step hW t r ht hr s p hsp n h.1 h.2 e (hev e he).1 (hev e he).2⟩
  refine ⟨hrun.2, fun hq => hrun.2.2.elim id fun ⟨_, hw⟩ => ?_⟩
  obtain ⟨d, y, hy, _⟩ := nwaiting_iff.mp hw
  rw [hq d] at hy; cases hy

/-- how a request starts: `s` does not know the tree, `p` holds it; `ask` puts the pair into `NProgress` -/
theorem c06_n_ask_starts_progress (t : Tree) (r : Roster) (s p : Nat) (hsp : s ≠ p) (n : NNet) (v : Nat)
    (hA : (n.ovl p).get t.id = some t) (hB : lookup (n.ovl s).store t.id = none) :
    NProgress t r s p (nnetStep n (.ask s p t.id v)) := by
  have hw : (n.ovl s).wouldRequest t.id = true := by rw [Ovl.wouldRequest, hB]; rfl
  have hst : localStep (n.ovl s) (.reqSend t.id) =
      { n.ovl s with store := insert (n.ovl s).store t.id none, everReq := t.id :: (n.ovl s).everReq } := if_pos hw
  refine ⟨?_, Or.inr ⟨?_, Or.inl ⟨v, ?_⟩⟩⟩
  · show (updN n.ovl s _ p).get t.id = some t
    rw [updN_at, if_neg (Ne.symm hsp)]; exact hA
  · show (updN n.ovl s _ s).isRequested t.id = true
    rw [updN_at, if_pos rfl, hst, req_lookup]; exact (lookup_insert ..).trans (if_pos rfl)
  · show _ ∈ (if _ then updN n.inbox p _ else n.inbox) p
    rw [if_pos hw, updN_at, if_pos rfl]; exact List.mem_append_right _ List.mem_cons_self

/-- non-vacuity of the N-server quiescence theorem: server 0 registered tree 1; server 2 asks it in the deprecated
form; meanwhile server 1 also asks 0 (current form) and — holding nothing yet — is asked by server 3; ten deliveries in
an interleaved order later nothing is in flight among the four servers (and the theorem says 2 holds the tree) -/
example : ∃ (W : Nat → Option Tree) (t : Tree) (r : Roster) (n : NNet) (evs : List NNetEv), WorldOK W ∧ W t.id = some t ∧
    t.roster = some r ∧ NNetOK W n ∧ NProgress t r 2 0 n ∧ (∀ e ∈ evs, NEvOK W e ∧ NEvKeeps t.id e) ∧
    (∀ s, s < 4 → (nnetRun n evs).inbox s = []) ∧ ((nnetRun n evs).ovl 1).get t.id = some t := by
  let n0 : NNet := nnetStep { ovl := fun _ => {}, inbox := fun _ => [] } (.loc 0 (.register exTree))
  have hn0 : NNetOK (oneTree exTree) n0 := nnetStep_ok exWorld_ok _ _ (nnetOK_empty _) (oneTree_self exTree)
  have hn1 : NNetOK (oneTree exTree) (nnetStep n0 (.ask 2 0 1 0)) := nnetStep_ok exWorld_ok _ _ hn0 trivial
  have hp : NProgress exTree exRoster 2 0 (nnetStep n0 (.ask 2 0 1 0)) :=
    c06_n_ask_starts_progress exTree exRoster 2 0 (by decide) n0 0 (by decide +kernel) (by decide +kernel)
  refine ⟨oneTree exTree, exTree, exRoster, _, [.ask 1 0 1 1, .ask 3 1 1 1, .deliver 0 1, .deliver 1 0, .deliver 0 0,
    .deliver 1 0, .deliver 2 0, .deliver 0 0, .deliver 2 0], exWorld_ok, oneTree_self exTree, exTree_wf.roster, hn1, hp, ?_,
    by decide +kernel, by decide +kernel⟩
  intro e he
  simp only [List.mem_cons, List.mem_nil_iff, or_false] at he
  rcases he with h | h | h | h | h | h | h | h | h <;> subst h <;> exact ⟨trivial, trivial⟩

/-! ### the two-server network is the N-server network restricted to servers 0 and 1 (`c06_two_servers_embed`)

A is server 0, B is server 1, a message on its way to one of them was sent by the other. -/

def NetOK (W : Nat → Option Tree) (n : Net) : Prop :=
  (∀ s, OvlOK W (n.ovl s)) ∧ (∀ s, ∀ m ∈ n.inbox s, MsgOK W m)

/-- servers register trees of the world -/
def EvOK (W : Nat → Option Tree) : NetEv → Prop
  | .loc _ (.register t) => W t.id = some t
  | .loc _ (.instance t) => W t.id = some t
  | _ => True

/-- `NWaiting` for two servers (`nprogress_toN`); the last alternative is the deprecated exchange: the bare description is
parked while the roster is asked for -/
def Waiting (t : Tree) (r : Roster) (s : Site) (n : Net) : Prop :=
  (∃ v, Msg.requestTree t.id v ∈ n.inbox s.other) ∨
  Msg.responseTree (some (makeTreeMarshal t)) (some r) ∈ n.inbox s ∨
  Msg.treeMarshal (makeTreeMarshal t) ∈ n.inbox s ∨
  ((∃ sl, lookup (n.ovl s).pending r.id = some sl ∧ makeTreeMarshal t ∈ sl) ∧
    (Msg.requestRoster r.id ∈ n.inbox s.other ∨ Msg.sendRoster r ∈ n.inbox s))

def Progress (t : Tree) (r : Roster) (s : Site) (n : Net) : Prop :=
  (n.ovl s.other).get t.id = some t ∧
  ((n.ovl s).get t.id = some t ∨ ((n.ovl s).isRequested t.id = true ∧ Waiting t r s n))

/-- nothing about tree `id` is lost or withdrawn -/
def EvKeeps (id : Nat) : NetEv → Prop
  | .drop _ _ => False
  | .loc _ (.unrequest i) => i ≠ id
  | .loc _ (.expire i) => i ≠ id
  | _ => True

def Quiet (n : Net) : Prop := ∀ s, n.inbox s = []

/-- the two-server state as an N-server state: A is server 0, B is server 1 (the messages on their way to one of
them were sent by the other), every other server is empty and idle -/
def Net.toN (n : Net) : NNet :=
  { ovl := fun k => if k = 0 then n.ovl .A else if k = 1 then n.ovl .B else {},
    inbox := fun k => if k = 0 then (n.inbox .A).map (fun m => (1, m))
                      else if k = 1 then (n.inbox .B).map (fun m => (0, m)) else [] }

def NetEv.toN : NetEv → NNetEv
  | .loc s l => .loc s.idx l
  | .ask s id v => .ask s.idx s.other.idx id v
  | .deliver s i => .deliver s.idx i
  | .redeliver s i => .redeliver s.idx i
  | .drop s i => .drop s.idx i

private theorem upd_same {α : Type} (f : Site → α) (s : Site) (v : α) : upd f s v s = v := if_pos rfl

private theorem upd_at {α : Type} (f : Site → α) (u x : Site) (v : α) : upd f u v x = if x = u then v else f x := rfl

theorem toN_eq (n : Net) : n.toN = ⟨lift {} n.ovl, lift [] (fromPeer n.inbox)⟩ := rfl

theorem toN_ovl (n : Net) (s : Site) : n.toN.ovl s.idx = n.ovl s := lift_idx ..

theorem toN_inbox (n : Net) (s : Site) : n.toN.inbox s.idx = (n.inbox s).map fun m => (s.other.idx, m) :=
  lift_idx [] (fromPeer n.inbox) s

private theorem handleAt_toN (n : Net) (s : Site) (m : Msg) (rest : List Msg) :
    (n.handleAt s m rest).toN = (n.toN).handleAt s.idx s.other.idx m (rest.map fun x => (s.other.idx, x)) := by
  simp only [toN_eq, NNet.handleAt, Net.handleAt, lift_idx, lift_upd, fromPeer_upd]
  -- the N-server side reads the peer's inbox out of `upd (fromPeer n.inbox) s _`; folded back, this is
  -- `fromPeer (upd n.inbox s rest) s.other`: the two-server inbox `upd n.inbox s rest s.other` of the left side, tagged
  rw [← fromPeer_upd]
  simp only [fromPeer, List.map_append, List.map_map, Site.other_other, Function.comp_def]

/-- **simulation**: every step of the two-server network is the same step of the N-server network on servers 0 and 1 —
so the two-server classes of the harness (`net schedule`, `net lossy`) exercise the N-server model too, and the N-server
theorems specialise to the two-server ones -/
theorem c06_two_servers_embed (n : Net) (e : NetEv) : (netStep n e).toN = nnetStep n.toN e.toN := by
  cases e with
  | loc s l => simp only [toN_eq, netStep, nnetStep, NetEv.toN, lift_idx, lift_upd]
  | ask s id v =>
    simp only [netStep, nnetStep, NetEv.toN, toN_ovl, toN_inbox]
    split
    · simp only [toN_eq, lift_upd, fromPeer_upd, List.map_append, Site.other_other]; rfl
    · simp only [toN_eq, lift_upd]
  | deliver s i =>
    simp only [netStep, nnetStep, NetEv.toN, toN_inbox, List.getElem?_map]
    cases (n.inbox s)[i]? with
    | none => rfl
    | some m => rw [handleAt_toN, List.map_eraseIdx]; rfl
  | redeliver s i =>
    simp only [netStep, nnetStep, NetEv.toN, toN_inbox, List.getElem?_map]
    cases (n.inbox s)[i]? with
    | none => rfl
    | some m => exact handleAt_toN n s m _
  | drop s i =>
    simp only [netStep, nnetStep, NetEv.toN, toN_inbox, ← List.map_eraseIdx]
    simp only [toN_eq, lift_upd, fromPeer_upd]

theorem c06_two_servers_embed_run (n : Net) (evs : List NetEv) :
    (netRun n evs).toN = nnetRun n.toN (evs.map NetEv.toN) := by
  unfold netRun nnetRun
  rw [List.foldl_map]
  exact (List.foldl_hom Net.toN fun n e => (c06_two_servers_embed n e).symm).symm

theorem nnetOK_toN {W : Nat → Option Tree} {n : Net} : NNetOK W n.toN ↔ NetOK W n :=
  and_congr (forall_lift ⟨fun _ _ h => (nomatch h), fun _ _ h => (nomatch h)⟩ n.ovl)
    ((forall_lift (P := InboxOK W) (fun _ h => (List.not_mem_nil h).elim) (fromPeer n.inbox)).trans
      (forall_congr' fun _ => List.forall_mem_map))

theorem nevOK_toN {W : Nat → Option Tree} {e : NetEv} : NEvOK W e.toN ↔ EvOK W e := by
  cases e with
  | loc s l => cases l <;> exact Iff.rfl
  | _ => exact Iff.rfl

theorem nevKeeps_toN {id : Nat} {e : NetEv} : NEvKeeps id e.toN ↔ EvKeeps id e := by
  cases e with
  | loc s l => cases l <;> exact Iff.rfl
  | _ => exact Iff.rfl

theorem nquiet_toN {n : Net} : NQuiet n.toN ↔ Quiet n :=
  (forall_lift (P := (· = [])) rfl (fromPeer n.inbox)).trans (forall_congr' fun _ => List.map_eq_nil_iff)

theorem nprogress_toN {t : Tree} {r : Roster} {s : Site} {n : Net} :
    NProgress t r s.idx s.other.idx n.toN ↔ Progress t r s n := by
  -- the same text on both sides once `toN_inbox` attaches the sender and `List.mem_map_pair` takes it off again
  unfold NProgress NWaiting Progress Waiting
  simp only [toN_ovl, toN_inbox, List.mem_map_pair, Site.other_other, true_and, exists_eq_left]

theorem netStep_ok {W : Nat → Option Tree} (hW : WorldOK W) (n : Net) (e : NetEv) (hn : NetOK W n) (he : EvOK W e) :
    NetOK W (netStep n e) :=
  nnetOK_toN.mp (c06_two_servers_embed n e ▸ nnetStep_ok hW _ _ (nnetOK_toN.mpr hn) (nevOK_toN.mpr he))

/-- **two servers, any schedule: a learnt tree is the peer's tree.**  From any state of the world (for
instance: both stores empty, nothing in flight) and for every finite run — local registrations of trees
of the world, requests in the current or the deprecated form, every message handled in any order, any
number of times or never, withdrawals, expiry — every tree found in either server's store under an id
is the world's tree of that id, equal to it in every field. -/
theorem c06_two_servers_learn_only_the_peers_trees (W : Nat → Option Tree) (hW : WorldOK W)
    (n : Net) (hn : NetOK W n) (evs : List NetEv) (hev : ∀ e ∈ evs, EvOK W e) :
    NetOK W (netRun n evs) ∧ ∀ s id t, ((netRun n evs).ovl s).get id = some t → W id = some t := by
  have hrun : NetOK W (netRun n evs) := nnetOK_toN.mp (c06_two_servers_embed_run n evs ▸
    (c06_n_servers_learn_only_the_worlds_trees W hW _ (nnetOK_toN.mpr hn) _
      (List.forall_mem_map.mpr fun e he => nevOK_toN.mpr (hev e he))).1)
  exact ⟨hrun, fun s id t h => (hrun.1 s).1 id t (get_mem _ id t h)⟩

/-- the empty network is a state of every world -/
theorem netOK_empty (W : Nat → Option Tree) : NetOK W { ovl := fun _ => {}, inbox := fun _ => [] } :=
  ⟨fun _ => ⟨fun _ _ h => (nomatch h), fun _ _ h => (nomatch h)⟩, fun _ _ h => (nomatch h)⟩

/-- non-vacuity of the two-server theorem: a world with one tree (id 1, three nodes over two servers);
A registers it; B asks for it in the deprecated form while A's answer to an earlier current-form request
is still under way, handles the duplicate answers in the "wrong" order — and holds exactly A's tree -/
example : ∃ (W : Nat → Option Tree) (t : Tree) (evs : List NetEv), WorldOK W ∧ W 1 = some t ∧
    (∀ e ∈ evs, EvOK W e) ∧
    ((netRun { ovl := fun _ => {}, inbox := fun _ => [] } evs).ovl .B).get 1 = some t ∧
    (netRun { ovl := fun _ => {}, inbox := fun _ => [] } evs).inbox .B = [] := by
  refine ⟨oneTree exTree, exTree,
    [.loc .A (.register exTree), .ask .B 1 0, .deliver .A 0, .loc .B (.unrequest 1), .ask .B 1 1, .deliver .A 0,
     .deliver .B 0, .deliver .A 0, .redeliver .B 1, .deliver .B 0, .deliver .B 0],
    exWorld_ok, rfl, ?_, by decide +kernel, by decide +kernel⟩
  intro e he
  simp only [List.mem_cons, List.mem_nil_iff, or_false] at he
  rcases he with rfl | rfl | rfl | rfl | rfl | rfl | rfl | rfl | rfl | rfl | rfl
  · exact oneTree_self exTree
  all_goals exact trivial

/-- one step that loses and withdraws nothing about `t` keeps `Progress` -/
theorem progress_step {W : Nat → Option Tree} (hW : WorldOK W) (t : Tree) (r : Roster) (ht : W t.id = some t)
    (hr : t.roster = some r) (s : Site) (n : Net) (hn : NetOK W n) (hp : Progress t r s n) (e : NetEv)
    (he : EvOK W e) (hk : EvKeeps t.id e) : Progress t r s (netStep n e) :=
  nprogress_toN.mp (c06_two_servers_embed n e ▸ nprogress_step hW t r ht hr _ _ s.idx_ne_other _ (nnetOK_toN.mpr hn)
    (nprogress_toN.mpr hp) _ (nevOK_toN.mpr he) (nevKeeps_toN.mpr hk))

/-- **liveness at quiescence, two servers**: server `s` asked for tree `t` (or already waits for it with
something under way), its peer holds `t`.  After any run in which nothing about `t` is lost or withdrawn —
whatever else happens, in any order, with duplicates, in the current or the deprecated form — `Progress`
still holds; and when the network is quiet (no message in flight), `s` holds exactly `t`: no request is
stuck, no description stays parked for ever. -/
theorem c06_two_servers_quiescent_request_answered (W : Nat → Option Tree) (hW : WorldOK W) (t : Tree) (r : Roster)
    (ht : W t.id = some t) (hr : t.roster = some r) (s : Site) (n : Net) (hn : NetOK W n) (hp : Progress t r s n)
    (evs : List NetEv) (hev : ∀ e ∈ evs, EvOK W e ∧ EvKeeps t.id e) :
    Progress t r s (netRun n evs) ∧ (Quiet (netRun n evs) → ((netRun n evs).ovl s).get t.id = some t) := by
  have h := c06_n_servers_quiescent_request_answered W hW t r ht hr _ _ s.idx_ne_other _ (nnetOK_toN.mpr hn)
    (nprogress_toN.mpr hp) _
    (List.forall_mem_map.mpr fun e he => ⟨nevOK_toN.mpr (hev e he).1, nevKeeps_toN.mpr (hev e he).2⟩)
  rw [← c06_two_servers_embed_run, toN_ovl] at h
  exact ⟨nprogress_toN.mp h.1, fun hq => h.2 (nquiet_toN.mpr hq)⟩

/-- how a request starts: `s` does not know the tree, its peer holds it; `ask` puts `s` into `Progress` -/
theorem c06_ask_starts_progress (t : Tree) (r : Roster) (s : Site) (n : Net) (v : Nat)
    (hA : (n.ovl s.other).get t.id = some t) (hB : lookup (n.ovl s).store t.id = none) :
    Progress t r s (netStep n (.ask s t.id v)) :=
  nprogress_toN.mp (c06_two_servers_embed n _ ▸ c06_n_ask_starts_progress t r _ _ s.idx_ne_other _ v
    ((toN_ovl n s.other).symm ▸ hA) ((toN_ovl n s).symm ▸ hB))

/-- non-vacuity of the quiescence theorem: A registered tree 1, B asks for it in the deprecated form; the
hypotheses hold, four deliveries later the network is quiet (and the theorem says B holds the tree) -/
example : ∃ (W : Nat → Option Tree) (t : Tree) (r : Roster) (n : Net) (evs : List NetEv), WorldOK W ∧ W t.id = some t ∧
    t.roster = some r ∧ NetOK W n ∧ Progress t r .B n ∧ (∀ e ∈ evs, EvOK W e ∧ EvKeeps t.id e) ∧ Quiet (netRun n evs) ∧
    ((netRun n evs).ovl .B).get t.id = some t := by
  let n0 : Net := netStep { ovl := fun _ => {}, inbox := fun _ => [] } (.loc .A (.register exTree))
  have hn0 : NetOK (oneTree exTree) n0 := netStep_ok exWorld_ok _ _ (netOK_empty _) (oneTree_self exTree)
  have hn1 : NetOK (oneTree exTree) (netStep n0 (.ask .B 1 0)) := netStep_ok exWorld_ok _ _ hn0 trivial
  have hp : Progress exTree exRoster .B (netStep n0 (.ask .B 1 0)) :=
    c06_ask_starts_progress exTree exRoster .B n0 0 (by decide +kernel) (by decide +kernel)
  have hev : ∀ e ∈ [NetEv.deliver .A 0, .deliver .B 0, .deliver .A 0, .deliver .B 0],
      EvOK (oneTree exTree) e ∧ EvKeeps exTree.id e := by
    intro e he
    simp only [List.mem_cons, List.mem_nil_iff, or_false] at he
    rcases he with h | h | h | h <;> subst h <;> exact ⟨trivial, trivial⟩
  have hq : Quiet (netRun (netStep n0 (.ask .B 1 0)) [.deliver .A 0, .deliver .B 0, .deliver .A 0, .deliver .B 0]) := by
    intro s; cases s <;> decide +kernel
  exact ⟨oneTree exTree, exTree, exRoster, _, _, exWorld_ok, oneTree_self exTree, exTree_wf.roster, hn1, hp, hev, hq,
    (c06_two_servers_quiescent_request_answered _ exWorld_ok exTree exRoster (oneTree_self exTree) exTree_wf.roster .B _ hn1 hp
      _ hev).2 hq⟩

/-- **with loss there is no recovery by retransmission**: `requestTree` sends a request only when the id has no
slot ("request already sent" otherwise, overlay.go:371-374).  After the request (or its answer) was lost, asking
again puts nothing in flight: the network is quiet, the peer holds the tree, and the requester waits until
it withdraws the request itself (`Unregister` on a failed send, C01/C11).  This is why the quiescence theorem
excludes loss (`EvKeeps`); the code relies on the transport for delivery. -/
example : ∃ (t : Tree) (n : Net), (n.ovl .A).get t.id = some t ∧ (n.ovl .B).isRequested t.id = true ∧ Quiet n ∧
    Quiet (netStep n (.ask .B t.id 1)) ∧ ((netStep n (.ask .B t.id 1)).ovl .B).get t.id = none := by
  refine ⟨exTree, netRun { ovl := fun _ => {}, inbox := fun _ => [] } [.loc .A (.register exTree), .ask .B 1 1, .drop .A 0],
    by decide +kernel, by decide +kernel, ?_, ?_, by decide +kernel⟩
  · intro s; cases s <;> decide +kernel
  · intro s; cases s <;> decide +kernel

/-! ### the code regions the model stands for
Regenerated from /repo's source on every run (`harness/cmd/astfacts` → `OnetVerif/Shapes.lean`): the
calls that matter for synchronisation and data flow, the lock regions and (for decision logic) the
conditions, in source order.  A re-ordering, a dropped call or a changed condition breaks these
obligations even when no sampled input or schedule shows a difference; the check then searches for
a failing input. -/

theorem c06_shape_Tree_MakeTreeMarshal :
    Shapes.tree_Tree_MakeTreeMarshal =
   ["if:(t.Roster==nil)", "return:&TreeMarshal{}",
     "assign:treeM:=&TreeMarshal{TreeID:t.ID,RosterID:t.Roster.ID}", "TreeMarshalCopyTree",
     "assign:treeM.Children=append(treeM.Children,TreeMarshalCopyTree(t.Root))", "return:treeM"] := rfl

theorem c06_shape_TreeMarshalCopyTree :
    Shapes.tree_TreeMarshalCopyTree =
   ["ServerIdentity.GetID", "assign:tm:=&TreeMarshal{TreeNodeID:tr.ID,ServerIdentityID:tr.ServerIdentity.GetID()}",
     "range:i,:=tr.Children{", "TreeMarshalCopyTree",
     "assign:tm.Children=append(tm.Children,TreeMarshalCopyTree(tr.Children[i]))", "}",
     "return:tm"] := rfl

theorem c06_shape_Overlay_requestTree :
    Shapes.overlay_Overlay_requestTree =
   ["o.savePendingMsg", "verifPoint:rt.parked", "treeStorage.Get", "if:(tree!=nil)",
     "o.checkPendingMessages", "return:nil", "verifPoint:rt.recheck-miss", "io.Wrap",
     "if:(err!=nil)", "return:xerrors.Errorf(\"\",err)",
     "if:o.treeStorage.IsRegistered(onetMsg.To.TreeID)", "return:nil",
     "verifPoint:rt.unregistered", "treeStorage.Register", "verifPoint:rt.registered",
     "server.Send", "if:(err!=nil)", "treeStorage.Unregister", "return:xerrors.Errorf(\"\",err)",
     "return:nil"] := rfl

theorem c06_shape_Tree_computeSubtreeAggregate :
    Shapes.tree_Tree_computeSubtreeAggregate =
   ["Public.Clone", "assign:agg:=root.ServerIdentity.Public.Clone()",
     "range:_,ch:=root.Children{", "t.computeSubtreeAggregate", "agg.Add",
     "assign:agg=agg.Add(agg,t.computeSubtreeAggregate(ch))", "}",
     "assign:root.PublicAggregateSubTree=agg", "return:agg"] := rfl

theorem c06_shape_NewTreeFromMarshal :
    Shapes.tree_NewTreeFromMarshal =
   ["network.Unmarshal", "assign:tp,pm,err:=network.Unmarshal(buf,s)", "if:(err!=nil)",
     "return:nil,err", "if:!tp.Equal(TreeMarshalTypeID)", "return:nil,xerrors.New(\"\")",
     "?.MakeTree", "assign:t,err:=?.MakeTree(el)", "if:(err!=nil)",
     "return:nil,xerrors.Errorf(\"\",err)", "t.computeSubtreeAggregate", "return:t,nil"] := rfl

theorem c06_shape_Tree_BinaryUnmarshaler :
    Shapes.tree_Tree_BinaryUnmarshaler =
   ["network.Unmarshal", "assign:_,m,err:=network.Unmarshal(b,s)",
     "assign:tbm,ok:=m.(tbmStruct)", "if:!ok", "return:xerrors.New(\"\")", "NewTreeFromMarshal",
     "assign:tree,err:=NewTreeFromMarshal(s,tbm.T,tbm.Ro)", "if:(err!=nil)",
     "return:xerrors.Errorf(\"\",err)", "assign:t.Roster=tbm.Ro", "assign:t.ID=tree.ID",
     "assign:t.Root=tree.Root", "return:nil"] := rfl

theorem c06_shape_Tree_Equal :
    Shapes.tree_Tree_Equal =
   ["if:(!t.ID.Equal(t2.ID)||!t.Roster.ID.Equal(t2.Roster.ID))", "return:false",
     "return:t.Root.Equal(t2.Root)"] := rfl

theorem c06_shape_TreeNode_Equal :
    Shapes.tree_TreeNode_Equal =
   ["if:(!t.ID.Equal(t2.ID)||!t.ServerIdentity.ID.Equal(t2.ServerIdentity.ID))", "return:false",
     "if:(len(t.Children)!=len(t2.Children))", "return:false", "range:i,c:=t.Children{",
     "if:!c.Equal(t2.Children[i])", "return:false", "}", "return:true"] := rfl

theorem c06_shape_Roster_Search :
    Shapes.tree_Roster_Search =
   ["range:i,e:=ro.List{", "if:e.ID.Equal(eID)", "return:i,e", "}", "return:-1,nil"] := rfl

theorem c06_shape_Overlay_handleRequestTreeDeprecated :
    Shapes.overlay_Overlay_handleRequestTreeDeprecated =
   ["io.Wrap", "server.Send"] := rfl

theorem c06_shape_TreeMarshal_MakeTree_full :
    Shapes.tree_TreeMarshal_MakeTree_full =
   ["if:(ro==nil)", "return:nil,xerrors.New(\"\")", "if:!ro.ID.Equal(tm.RosterID)",
     "return:nil,xerrors.New(\"\")", "if:((len(tm.Children)!=1)||(tm.Children[0]==nil))",
     "return:nil,xerrors.New(\"\")", "assign:tree:=&Tree{ID:tm.TreeID,Roster:ro}",
     "Children[].MakeTreeFromList",
     "assign:tree.Root,err=tm.Children[].MakeTreeFromList(nil,ro)", "if:(err!=nil)",
     "return:nil,xerrors.Errorf(\"\",err)", "tree.computeSubtreeAggregate", "return:tree,nil"] := rfl

theorem c06_shape_TreeMarshal_MakeTreeFromList_full :
    Shapes.tree_TreeMarshal_MakeTreeFromList_full =
   ["ro.searchByKey", "assign:idx,ent:=ro.searchByKey(tm.ServerIdentityID)", "if:(idx<0)",
     "return:nil,xerrors.New(\"\")", "if:(ent.Public==nil)", "return:nil,xerrors.New(\"\")",
     "assign:tn:=&TreeNode{Parent:parent,ID:tm.TreeNodeID,ServerIdentity:ent,RosterIndex:idx}",
     "range:_,c:=tm.Children{", "c.MakeTreeFromList",
     "assign:ntn,err:=c.MakeTreeFromList(tn,ro)", "if:(err!=nil)",
     "return:nil,xerrors.Errorf(\"\",err)", "assign:tn.Children=append(tn.Children,ntn)", "}",
     "return:tn,nil"] := rfl

theorem c06_shape_Overlay_checkPendingTreeMarshal_full :
    Shapes.overlay_Overlay_checkPendingTreeMarshal_full =
   ["pendingTreeLock.Lock", "assign:sl,ok:=o.pendingTreeMarshal[el.ID]", "if:!ok",
     "pendingTreeLock.Unlock", "return:", "range:_,tm:=sl{",
     "if:(o.treeStorage.Get(tm.TreeID)!=nil)", "continue", "tm.MakeTree",
     "assign:tree,err:=tm.MakeTree(el)", "if:(err!=nil)", "continue", "treeStorage.setIfMissing",
     "assign:stored:=o.treeStorage.setIfMissing(tree,false)", "if:stored", "o.checkPendingMessages", "}",
     "pendingTreeLock.Unlock"] := rfl

theorem c06_shape_Overlay_handleSendTree_full :
    Shapes.overlay_Overlay_handleSendTree_full =
   ["if:((rt.TreeMarshal==nil)||rt.TreeMarshal.TreeID.IsNil())", "return:",
     "if:(rt.Roster==nil)", "return:", "if:!o.treeStorage.IsRequested(rt.TreeMarshal.TreeID)",
     "return:", "TreeMarshal.MakeTree", "assign:tree,err:=rt.TreeMarshal.MakeTree(rt.Roster)",
     "if:(err!=nil)", "return:", "treeStorage.setIfMissing",
     "assign:stored:=o.treeStorage.setIfMissing(tree,true)", "if:!stored", "return:",
     "o.checkPendingMessages"] := rfl

theorem c06_shape_Overlay_handleSendTreeMarshal_full :
    Shapes.overlay_Overlay_handleSendTreeMarshal_full =
   ["if:tm.TreeID.IsNil()", "return:", "if:!o.treeStorage.IsRequested(tm.TreeID)", "return:",
     "instancesLock.Lock", "range:_,inst:=o.instances{", "treeStorage.Get",
     "assign:tree:=o.treeStorage.Get(inst.token.TreeID)",
     "if:(((tree!=nil)&&(tree.Roster!=nil))&&tree.Roster.ID.Equal(tm.RosterID))",
     "assign:ro=tree.Roster", "}", "instancesLock.Unlock", "if:(ro==nil)", "io.Wrap",
     "assign:msg,err:=io.Wrap(nil,&OverlayMsg{RequestRoster:&RequestRoster{tm.RosterID}})",
     "if:(err!=nil)", "server.Send", "assign:_,err:=o.server.Send(si,msg)", "if:(err!=nil)",
     "o.addPendingTreeMarshal", "return:", "assign:rt:=&ResponseTree{TreeMarshal:tm,Roster:ro}",
     "o.handleSendTree"] := rfl

theorem c06_shape_Overlay_handleRequestTree_full :
    Shapes.overlay_Overlay_handleRequestTree_full =
   ["treeStorage.Get", "assign:tree:=o.treeStorage.Get(req.TreeID)", "if:(tree==nil)", "return:",
     "tree.MakeTreeMarshal", "assign:treeM:=tree.MakeTreeMarshal()", "if:(req.Version==0)",
     "o.handleRequestTreeDeprecated", "return:", "io.Wrap",
     "assign:msg,err:=io.Wrap(nil,&OverlayMsg{ResponseTree:&ResponseTree{TreeMarshal:treeM,Roster:tree.Roster}})",
     "if:(err!=nil)", "return:", "server.Send", "assign:_,err=o.server.Send(si,msg)",
     "if:(err!=nil)"] := rfl

theorem c06_shape_Overlay_handleRequestRoster_full :
    Shapes.overlay_Overlay_handleRequestRoster_full =
   ["treeStorage.GetRoster", "assign:ro:=o.treeStorage.GetRoster(req.RosterID)", "if:(ro==nil)",
     "assign:ro=&Roster{}", "io.Wrap", "assign:msg,err:=io.Wrap(nil,&OverlayMsg{Roster:ro})",
     "if:(err!=nil)", "return:", "server.Send", "assign:_,err=o.server.Send(si,msg)",
     "if:(err!=nil)", "return:"] := rfl

theorem c06_shape_Overlay_handleSendRoster_full :
    Shapes.overlay_Overlay_handleSendRoster_full =
   ["if:roster.ID.IsNil()", "return:", "o.checkPendingTreeMarshal"] := rfl

theorem c06_shape_treeStorage_Register_full :
    Shapes.treestorage_treeStorage_Register_full =
   ["ts.Lock", "assign:_,ok:=ts.trees[id]", "if:!ok", "assign:ts.trees[id]=nil", "ts.Unlock"] := rfl

theorem c06_shape_treeStorage_Unregister_full :
    Shapes.treestorage_treeStorage_Unregister_full =
   ["ts.Lock", "defer:ts.Unlock", "assign:tree:=ts.trees[id]", "if:(tree==nil)"] := rfl

theorem c06_shape_treeStorage_Set_full :
    Shapes.treestorage_treeStorage_Set_full =
   ["ts.Lock", "defer:ts.Unlock", "ts.cancelDeletion", "assign:ts.trees[tree.ID]=tree"] := rfl

theorem c06_shape_treeStorage_IsRequested_full :
    Shapes.treestorage_treeStorage_IsRequested_full =
   ["ts.Lock", "defer:ts.Unlock", "assign:tree,ok:=ts.trees[id]", "return:(ok&&(tree==nil))"] := rfl

theorem c06_shape_treeStorage_GetRoster_full :
    Shapes.treestorage_treeStorage_GetRoster_full =
   ["ts.Lock", "defer:ts.Unlock", "range:_,tree:=ts.trees{",
     "if:(((tree!=nil)&&(tree.Roster!=nil))&&tree.Roster.ID.Equal(id))", "return:tree.Roster",
     "}", "return:nil"] := rfl

theorem c06_shape_Tree_BinaryMarshaler :
    Shapes.tree_Tree_BinaryMarshaler =
   ["t.Marshal", "assign:bt,err:=t.Marshal()", "if:(err!=nil)",
     "return:nil,xerrors.Errorf(\"\",err)", "assign:tbm:=&tbmStruct{T:bt,Ro:t.Roster}",
     "network.Marshal", "assign:b,err:=network.Marshal(tbm)", "if:(err!=nil)",
     "return:nil,xerrors.Errorf(\"\",err)", "return:b,nil"] := rfl

theorem c06_shape_Tree_Marshal :
    Shapes.tree_Tree_Marshal =
   ["t.MakeTreeMarshal", "network.Marshal",
     "assign:buf,err:=network.Marshal(t.MakeTreeMarshal())", "if:(err!=nil)",
     "return:nil,xerrors.Errorf(\"\",err)", "return:buf,nil"] := rfl

theorem c06_shape_Overlay_addPendingTreeMarshal :
    Shapes.overlay_Overlay_addPendingTreeMarshal =
   ["pendingTreeLock.Lock", "assign:sl,ok=o.pendingTreeMarshal[tm.RosterID]", "if:!ok",
     "assign:sl=make(conv,0)", "assign:sl=append(sl,tm)",
     "assign:o.pendingTreeMarshal[tm.RosterID]=sl", "pendingTreeLock.Unlock"] := rfl

/-- the look-up `MakeTreeFromList` uses: by the identifier derived from the entry's key -/
theorem c06_shape_Roster_searchByKey :
    Shapes.tree_Roster_searchByKey =
   ["range:i,e:=ro.List{", "if:e.GetID().Equal(eID)", "return:i,e", "}", "return:-1,nil"] := rfl

/-- the store's test-and-set that `handleSendTree` (only a requested slot) and `checkPendingTreeMarshal` (any slot without
a tree) use: test and write under one lock — a handler is one step, as in the model -/
theorem c06_shape_treeStorage_setIfMissing :
    Shapes.treestorage_treeStorage_setIfMissing =
   ["ts.Lock", "defer:ts.Unlock", "assign:t,ok:=ts.trees[tree.ID]",
     "if:((t!=nil)||(onlyRequested&&!ok))", "return:false", "ts.cancelDeletion",
     "assign:ts.trees[tree.ID]=tree", "return:true"] := rfl

end C06

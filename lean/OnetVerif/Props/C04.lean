import OnetVerif.Proofs.C04
import OnetVerif.Props.C05
import OnetVerif.Props.C01
import OnetVerif.Shapes
/-! Property C04 — aggregated message types are delivered as one complete batch per round.
The property theorems, their examples and the lemmas about whole runs they need.  Seen from one type, `run` is the
list function `chunk` of `Proofs/C04.lean` (`proj_run`); the theorems about one type are read off it. -/
namespace C04

/-- the observable projection on one aggregated type `t`: the aggregated batches of type `t` that
were dispatched, in order, and what is still queued for `t` -/
def proj (cfg : Cfg) (t : Nat) (r : Queues × List (List Msg)) : List (List Msg) × List Msg :=
  (r.2.filter (isAggBatch cfg t), r.1 t)

theorem proj_eq {cfg : Cfg} {t : Nat} {r : Queues × List (List Msg)} {bs : List (List Msg)} {w : List Msg}
    (h : proj cfg t r = (bs, w)) : r.2.filter (isAggBatch cfg t) = bs ∧ r.1 t = w :=
  Prod.mk.inj h

theorem run_append (cfg : Cfg) (q : Queues) (l₁ l₂ : List Msg) :
    run cfg q (l₁ ++ l₂) =
      ((run cfg (run cfg q l₁).1 l₂).1, (run cfg q l₁).2 ++ (run cfg (run cfg q l₁).1 l₂).2) := by
  induction l₁ generalizing q with
  | nil => rfl
  | cons m l ih => simp only [List.cons_append, run, ih, List.append_assoc]

theorem run_snoc (cfg : Cfg) (q : Queues) (l : List Msg) (m : Msg) :
    run cfg q (l ++ [m]) =
      ((aggregate cfg (run cfg q l).1 m).1, (run cfg q l).2 ++ (aggregate cfg (run cfg q l).1 m).2.toList) := by
  rw [run_append, run, run, List.append_nil]

/-- **bypass**: a message from the parent, or of a type not registered in slice form, is
dispatched alone and immediately, and leaves every queue untouched. -/
theorem c04_bypass (cfg : Cfg) (q : Queues) (m : Msg) (h : bypass cfg m = true) :
    aggregate cfg q m = (q, some [m]) :=
  if_pos h

/-- the filter only matters for a first batch that holds foreign messages queued beforehand (`filter_chunk`) -/
theorem proj_run (cfg : Cfg) (t : Nat) (q : Queues) (l : List Msg) :
    proj cfg t (run cfg q l) =
      ((chunk cfg.nChildren (q t) (l.filter (kid cfg t))).1.filter (isAggBatch cfg t),
       (chunk cfg.nChildren (q t) (l.filter (kid cfg t))).2) := by
  induction l generalizing q with
  | nil => rfl
  | cons m l ih =>
    have ih' := ih (aggregate cfg q m).1
    simp only [proj, Prod.mk.injEq] at ih' ⊢
    rw [run, List.filter_append, ih'.1, ih'.2]
    cases hk : kid cfg t m
    · obtain ⟨h1, h2⟩ := aggregate_other hk q
      rw [List.filter_cons_of_neg (by simp [hk]), h1, h2]; exact ⟨rfl, rfl⟩
    · obtain ⟨h1, h2⟩ := aggregate_kid hk q
      rw [List.filter_cons_of_pos hk, chunk, h1, h2]
      split
      · exact ⟨(List.filter_append [_] _).symm, rfl⟩
      · exact ⟨rfl, rfl⟩

theorem filter_chunk {cfg : Cfg} {t : Nat} {acc l : List Msg} (h : ∀ m ∈ acc ++ l, kid cfg t m = true) :
    (chunk cfg.nChildren acc l).1.filter (isAggBatch cfg t) = (chunk cfg.nChildren acc l).1 := by
  obtain ⟨h1, h2, _⟩ := chunk_spec cfg.nChildren acc l
  refine List.filter_eq_self.mpr fun b hb => isAggBatch_of_kids (h2 b hb).1 fun m hm => h m ?_
  rw [← h1]; exact List.mem_append_left _ (List.mem_flatten.mpr ⟨b, hb, hm⟩)

theorem mem_filter_kid {cfg : Cfg} {t : Nat} {l : List Msg} : ∀ m ∈ l.filter (kid cfg t), kid cfg t m = true :=
  fun _ hm => (List.mem_filter.mp hm).2

/-- **types, parent traffic and other runs never mix**: what the node sees for aggregated type
`t` depends only on what was queued for `t` and on the children's messages of type `t`, in their
arrival order — not on parent messages, other types, or their interleaving. -/
theorem c04_types_independent (cfg : Cfg) (t : Nat) (q q' : Queues) (l : List Msg)
    (hq : q t = q' t) :
    proj cfg t (run cfg q l) = proj cfg t (run cfg q' (l.filter (kid cfg t))) := by
  rw [proj_run, proj_run, List.filter_filter, hq]; simp only [Bool.and_self]

/-- **nothing before the last child message has arrived** (and nothing is lost meanwhile): as
long as fewer than `nChildren` messages of type `t` are there, no batch of type `t` is dispatched
and all of them are still queued, in arrival order. -/
theorem c04_nothing_before_complete (cfg : Cfg) (t : Nat) (q : Queues) (l : List Msg)
    (hlt : (q t).length + (l.filter (kid cfg t)).length < cfg.nChildren) :
    proj cfg t (run cfg q l) = ([], q t ++ l.filter (kid cfg t)) := by
  rw [proj_run, chunk_incomplete (.inr hlt)]; rfl

/-- **exactly one complete batch, at the arrival of the last child message**: when the queued and
arriving children's messages of type `t` number exactly `nChildren` (≥ 1 arriving), exactly one
batch of type `t` is dispatched; it holds exactly those messages in arrival order, and the queue
for `t` is empty afterwards — whatever else is interleaved. -/
theorem c04_one_batch (cfg : Cfg) (t : Nat) (q : Queues) (l : List Msg)
    (hq : ∀ m ∈ q t, kid cfg t m = true)
    (hpos : l.filter (kid cfg t) ≠ [])
    (hn : (q t).length + (l.filter (kid cfg t)).length = cfg.nChildren) :
    proj cfg t (run cfg q l) = ([q t ++ l.filter (kid cfg t)], []) := by
  rw [proj_run, filter_chunk (List.forall_mem_append.mpr ⟨hq, mem_filter_kid⟩), chunk_complete hpos hn]

/-- **consecutive rounds**: if the children's messages of type `t` arrive as `k` consecutive
rounds of `nChildren ≥ 1` messages each (arbitrarily interleaved with parent messages and other
types), the node dispatches exactly `k` batches of type `t`, the i-th holding exactly round i. -/
theorem c04_rounds (cfg : Cfg) (t : Nat) (q : Queues) (l : List Msg) (rounds : List (List Msg))
    (hq : q t = []) (hn : 1 ≤ cfg.nChildren)
    (hr : ∀ r ∈ rounds, r.length = cfg.nChildren)
    (hl : l.filter (kid cfg t) = rounds.flatten) :
    proj cfg t (run cfg q l) = (rounds, []) := by
  rw [proj_run, filter_chunk (by rw [hq]; exact mem_filter_kid), hq, hl, chunk_rounds hn rounds hr]

/-! ### non-vacuity: concrete runs that meet the hypotheses -/

private def cfg3 : Cfg := { isRoot := false, nChildren := 3, agg := fun t => t == 1 }
private def k (i v : Nat) : Msg := { ty := 1, src := some i, val := v }
private def par (v : Nat) : Msg := { ty := 1, src := none, val := v }
private def oth (i v : Nat) : Msg := { ty := 2, src := some i, val := v }

/-- three children, arrival order 2,0,1, interleaved with a parent message of the same type and a
message of another type: one batch, after the last child -/
example : proj cfg3 1 (run cfg3 emptyQ [k 2 7, par 9, k 0 8, oth 1 5, k 1 6]) = ([[k 2 7, k 0 8, k 1 6]], []) := by
  decide +kernel
example : ([k 2 7, par 9, k 0 8, oth 1 5, k 1 6].filter (kid cfg3 1)) = [k 2 7, k 0 8, k 1 6] := by decide +kernel
example : (run cfg3 emptyQ [k 2 7, par 9, k 0 8, oth 1 5, k 1 6]).2
    = [[par 9], [oth 1 5], [k 2 7, k 0 8, k 1 6]] := by decide +kernel

/-- the documented boundary (outside the property's premise "every child sends one message"): the
completion test counts messages, so a child that sends twice before a sibling sent once fills the
batch with two of its own messages. -/
theorem c04_counts_messages_not_children :
    proj cfg3 1 (run cfg3 emptyQ [k 0 1, k 0 2, k 1 3]) = ([[k 0 1, k 0 2, k 1 3]], []) := by decide +kernel

/-! ### statements without a premise on the arrivals: every schedule, every fan-out -/

/-- what the queues of an instance hold: children's messages of the queue's own type -/
def QInv (cfg : Cfg) (q : Queues) : Prop := ∀ t, ∀ m ∈ q t, kid cfg t m = true

theorem qinv_empty (cfg : Cfg) : QInv cfg emptyQ := fun _ _ hm => nomatch hm

theorem qinv_run (cfg : Cfg) (q : Queues) (l : List Msg) (hq : QInv cfg q) : QInv cfg (run cfg q l).1 := fun t m hm => by
  -- what is queued for `t` is part of `q t ++` the children's messages of type `t`
  rw [(proj_eq (proj_run cfg t q l)).2] at hm
  exact List.forall_mem_append.mpr ⟨hq t, mem_filter_kid⟩ m ((chunk_spec ..).1 ▸ List.mem_append_right _ hm)

theorem released_shape {cfg : Cfg} {q : Queues} {m : Msg} {b : List Msg} (hq : QInv cfg q)
    (h : (aggregate cfg q m).2 = some b) :
    (∃ m, b = [m] ∧ bypass cfg m = true) ∨ (∃ t, b.length = cfg.nChildren ∧ ∀ m ∈ b, kid cfg t m = true) :=
  (aggregate_releases h).imp (fun ⟨e, hb⟩ => ⟨m, e, hb⟩) fun ⟨e, hk, hf⟩ =>
    ⟨m.ty, by rw [e, List.length_append]; exact hf, e ▸ List.forall_mem_concat (hq _) hk⟩

/-- **a batch never mixes**: whatever arrives in whatever order, everything the node dispatches is either one
message that bypasses aggregation (from the parent, or of a type not registered in slice form), or exactly
`nChildren` collected messages that are all of one and the same aggregated type. -/
theorem c04_batch_shape (cfg : Cfg) (q : Queues) (l : List Msg) (hq : QInv cfg q) :
    ∀ b ∈ (run cfg q l).2,
      (∃ m, b = [m] ∧ bypass cfg m = true) ∨
      (∃ t, b.length = cfg.nChildren ∧ ∀ m ∈ b, kid cfg t m = true) := by
  induction l generalizing q with
  | nil => nofun
  | cons m l ih =>
    exact fun b hb => (List.mem_append.mp hb).elim (fun hb => released_shape hq (Option.mem_toList.mp hb))
      (ih _ (qinv_run cfg q [m] hq) b)

/-- **nothing lost, nothing duplicated, nothing re-ordered, for every schedule**: the children's messages of
aggregated type `t` (queued before, then arriving) are, in arrival order, exactly the concatenation of the
batches of type `t` that were dispatched followed by what is still queued. -/
theorem c04_conservation (cfg : Cfg) (t : Nat) (q : Queues) (l : List Msg) (hq : QInv cfg q) :
    ((run cfg q l).2.filter (isAggBatch cfg t)).flatten ++ (run cfg q l).1 t
      = q t ++ l.filter (kid cfg t) := by
  obtain ⟨h1, h2⟩ := proj_eq (proj_run cfg t q l)
  rw [h1, h2, filter_chunk (List.forall_mem_append.mpr ⟨hq t, mem_filter_kid⟩)]
  exact (chunk_spec ..).1

/-- a dispatched batch that is a single message which bypassed aggregation -/
def isBypassBatch (cfg : Cfg) (b : List Msg) : Bool :=
  match b with
  | [m] => bypass cfg m
  | _ => false

theorem bypass_batches (cfg : Cfg) (q : Queues) (l : List Msg) :
    ((run cfg q l).2.filter (isBypassBatch cfg)) = (l.filter (bypass cfg)).map fun m => [m] := by
  induction l generalizing q with
  | nil => rfl
  | cons m l ih =>
    rw [run, List.filter_append, ih]
    cases hb : bypass cfg m
    · -- a released batch ends with the collected message: if it is that message alone, it does not bypass
      have : (aggregate cfg q m).2.toList.filter (isBypassBatch cfg) = [] := by
        cases ho : (aggregate cfg q m).2 with
        | none => rfl
        | some b =>
          rcases aggregate_releases ho with ⟨_, hb'⟩ | ⟨rfl, _⟩
          · rw [hb] at hb'; cases hb'
          · match q m.ty with
            | [] => simp [isBypassBatch, hb]
            | [_] => rfl
            | _ :: _ :: _ => rfl
      simp [this, hb]
    · simp [c04_bypass cfg q m hb, isBypassBatch, hb]

/-- **one by one**: the messages from the parent and of non-aggregated types are dispatched each alone, all of
them, in arrival order — whatever is interleaved. -/
theorem c04_bypass_conservation (cfg : Cfg) (q : Queues) (l : List Msg) (hq : QInv cfg q) :
    ((run cfg q l).2.filter (isBypassBatch cfg)) = (l.filter (bypass cfg)).map fun m => [m] :=
  have _ := hq  -- not needed
  bypass_batches cfg q l

/-- **a complete batch is never held back**: with at least one child, fewer than `nChildren` messages of any
type are ever waiting — when no message is in flight, what is queued is an incomplete round. -/
theorem c04_queue_bound (cfg : Cfg) (q : Queues) (l : List Msg) (hn : 1 ≤ cfg.nChildren)
    (hq : ∀ t, (q t).length < cfg.nChildren) :
    ∀ t, ((run cfg q l).1 t).length < cfg.nChildren := fun t => by
  have _ := hn  -- not needed: it follows from `hq`
  rw [(proj_eq (proj_run cfg t q l)).2]
  exact (chunk_spec ..).2.2 (hq t)

/-- **how many batches, for every schedule**: starting from a fresh instance with `n ≥ 1` children, after any
sequence of arrivals the number of batches of type `t` is the number of children's messages of type `t`
divided by `n`, and the remainder is what waits. -/
theorem c04_batch_count (cfg : Cfg) (t : Nat) (l : List Msg) (hn : 1 ≤ cfg.nChildren) :
    ((run cfg emptyQ l).2.filter (isAggBatch cfg t)).length = (l.filter (kid cfg t)).length / cfg.nChildren ∧
    ((run cfg emptyQ l).1 t).length = (l.filter (kid cfg t)).length % cfg.nChildren := by
  obtain ⟨h1, h2⟩ := proj_eq (proj_run cfg t emptyQ l)
  rw [h1, h2, filter_chunk (fun m hm => mem_filter_kid m hm)]
  exact chunk_count hn _

/-- the documented boundary for a leaf: a node without children never dispatches an aggregated type's message
that does not come from its parent (the completion test `len(msgs) == 0` cannot hold) — such messages wait
for ever. Outside the property's premise (a leaf has no child that could send). -/
theorem c04_leaf_never_dispatches (cfg : Cfg) (t : Nat) (q : Queues) (l : List Msg) (h0 : cfg.nChildren = 0) :
    (run cfg q l).2.filter (isAggBatch cfg t) = [] ∧ (run cfg q l).1 t = q t ++ l.filter (kid cfg t) :=
  proj_eq ((proj_run cfg t q l).trans (by rw [chunk_incomplete (.inl (h0 ▸ Nat.zero_le _))]; rfl))

/-! ### several instances on one server, several types, several rounds — at once -/

/-- the messages handed to instance `i`, in order -/
def evOf (i : Nat) (l : List (Nat × Msg)) : List Msg := (l.filter fun e => e.1 = i).map Prod.snd

/-- the batches instance `i` dispatched, in order -/
def outOf (i : Nat) (o : List (Nat × List Msg)) : List (List Msg) := (o.filter fun e => e.1 = i).map Prod.snd

theorem evOf_cons (i j : Nat) (m : Msg) (l : List (Nat × Msg)) :
    evOf i ((j, m) :: l) = if j = i then m :: evOf i l else evOf i l := by
  by_cases h : j = i <;> simp [evOf, h]

theorem outOf_append (i : Nat) (o₁ o₂ : List (Nat × List Msg)) : outOf i (o₁ ++ o₂) = outOf i o₁ ++ outOf i o₂ := by
  simp only [outOf, List.filter_append, List.map_append]

theorem outOf_tag (i j : Nat) (bs : List (List Msg)) :
    outOf i (bs.map fun b => (j, b)) = if j = i then bs else [] := by
  by_cases h : j = i <;> simp [outOf, List.filter_map, Function.comp_def, h]

/-- **instances never mix**: in any interleaving of the traffic of any number of instances (runs of the same or
of different protocols, over the same or different trees) on one server, what instance `i` queues and
dispatches is exactly what it would queue and dispatch if its own messages were the only traffic. -/
theorem c04_instances_independent (s : Sys) (i : Nat) (l : List (Nat × Msg)) :
    (sysRun s l).1.cfg = s.cfg ∧
    (sysRun s l).1.q i = (run (s.cfg i) (s.q i) (evOf i l)).1 ∧
    outOf i (sysRun s l).2 = (run (s.cfg i) (s.q i) (evOf i l)).2 := by
  induction l generalizing s with
  | nil => exact ⟨rfl, rfl, rfl⟩
  | cons e l ih =>
    obtain ⟨j, m⟩ := e
    obtain ⟨h1, h2, h3⟩ := ih (sysStep s j m).1
    have hcfg : (sysStep s j m).1.cfg = s.cfg := rfl
    rw [hcfg] at h1 h2 h3
    rw [sysRun, outOf_append, outOf_tag, evOf_cons, h2, h3]
    refine ⟨h1, ?_⟩
    by_cases hj : j = i
    · subst hj; simp [sysStep, run]
    · simp [sysStep, hj, Ne.symm hj]

/-- **batches of different instances, types and rounds never mix, all at once**: take any schedule over any
number of instances.  For every instance `i` and every aggregated type `t` whose children's messages arrive
as consecutive rounds of one message per child (interleaved in any way with the other instances' traffic, the
other types, parent messages, and the rounds of the other (instance, type) pairs), instance `i` dispatches for
`t` exactly those rounds, one batch per round, and keeps nothing. -/
theorem c04_sys_rounds (s : Sys) (l : List (Nat × Msg)) (i t : Nat) (rounds : List (List Msg))
    (hq : s.q i t = []) (hn : 1 ≤ (s.cfg i).nChildren)
    (hr : ∀ r ∈ rounds, r.length = (s.cfg i).nChildren)
    (hl : (evOf i l).filter (kid (s.cfg i) t) = rounds.flatten) :
    (outOf i (sysRun s l).2).filter (isAggBatch (s.cfg i) t) = rounds ∧ (sysRun s l).1.q i t = [] := by
  obtain ⟨_, h2, h3⟩ := c04_instances_independent s i l
  rw [h2, h3]
  exact proj_eq (c04_rounds (s.cfg i) t (s.q i) (evOf i l) rounds hq hn hr hl)

/-- every batch any instance dispatches is homogeneous: one bypassing message, or `nChildren` (of that
instance) children's messages of one aggregated type — whatever the interleaving with other instances -/
theorem c04_sys_batch_shape (s : Sys) (l : List (Nat × Msg)) (hq : ∀ i, QInv (s.cfg i) (s.q i)) :
    ∀ e ∈ (sysRun s l).2,
      (∃ m, e.2 = [m] ∧ bypass (s.cfg e.1) m = true) ∨
      (∃ t, e.2.length = (s.cfg e.1).nChildren ∧ ∀ m ∈ e.2, kid (s.cfg e.1) t m = true) := by
  intro e he
  have : e.2 ∈ outOf e.1 (sysRun s l).2 := List.mem_map.mpr ⟨e, List.mem_filter.mpr ⟨he, by simp⟩, rfl⟩
  rw [(c04_instances_independent s e.1 l).2.2] at this
  exact c04_batch_shape (s.cfg e.1) (s.q e.1) _ (hq e.1) e.2 this

private def sys2 : Sys :=
  { cfg := fun i => if i = 0 then { isRoot := false, nChildren := 2, agg := fun t => t == 1 || t == 2 }
                    else { isRoot := true, nChildren := 3, agg := fun t => t == 1 },
    q := fun _ => emptyQ }

/-- two instances (fan-outs 2 and 3), two aggregated types in the first one, two rounds of type 1 in the first
instance, everything interleaved, a parent message and a plain message in between -/
example : (sysRun sys2
    [(0, k 0 1), (1, k 2 2), (0, ⟨2, some 1, 3⟩), (0, par 4), (1, k 0 5), (0, k 1 6), (1, oth 0 7), (0, ⟨2, some 0, 8⟩),
     (0, k 1 9), (1, k 1 10), (0, k 0 11)]).2
    = [(0, [par 4]), (0, [k 0 1, k 1 6]), (1, [oth 0 7]), (0, [⟨2, some 1, 3⟩, ⟨2, some 0, 8⟩]),
       (1, [k 2 2, k 0 5, k 1 10]), (0, [k 1 9, k 0 11])] := by decide +kernel

/-! ### registration: the flag is the form of what was registered (treenode.go:226-261, 294-328) -/

/-- **what a successful registration does, and only that**: it concerns one message type `mt`, it stores the
handler or the channel for `mt`, and it sets the aggregation flag of `mt` to "the argument has slice form" —
nothing else changes. (In particular the flag of `mt` is overwritten whatever was registered for `mt` before.) -/
theorem c04_reg_effect {r r' : Reg} {c : RegCall} (h : regCall r c = .ok r') :
    ∃ mt f, formOf c = some (mt, f) ∧
      r'.flags = (fun t => if t = mt then f == .slice else r.flags t) ∧
      ((∃ cap, r'.channels = (fun t => if t = mt then some (f, cap) else r.channels t) ∧ r'.handlers = r.handlers) ∨
       (r'.handlers = (fun t => if t = mt then some f else r.handlers t) ∧ r'.channels = r.channels)) := by
  cases c with
  | handler a =>
    obtain ⟨f, mt, rfl, rfl⟩ := registerHandler_eq_ok.mp h
    exact ⟨mt, f, by cases f <;> rfl, rfl, .inr ⟨rfl, rfl⟩⟩
  | channel a n =>
    cases a with
    | chanPtr e =>
      obtain ⟨f, mt, rfl, rfl⟩ := registerChanValue_eq_ok.mp h
      exact ⟨mt, f, by cases f <;> rfl, rfl, .inl ⟨n, rfl, rfl⟩⟩
    | chanVal e cap isNil =>
      cases isNil with
      | true => cases h
      | false =>
        obtain ⟨f, mt, rfl, rfl⟩ := registerChanValue_eq_ok.mp h
        exact ⟨mt, f, by cases f <;> rfl, rfl, .inl ⟨cap, rfl, rfl⟩⟩
    | _ => cases h

/-- **a refused registration changes nothing** (all checks precede the stores) — by construction of `regCall`,
stated for the variadic calls: what `RegisterHandlers`/`RegisterChannels` registered before the first refused
argument stays registered, nothing after it is looked at. -/
theorem c04_reg_many_prefix (r : Reg) (pre post : List RegCall) (c : RegCall) (e : RegErr)
    (hpre : (regMany r pre).2 = true) (hc : regCall (regMany r pre).1 c = .error e) :
    regMany r (pre ++ c :: post) = ((regMany r pre).1, false) := by
  induction pre generalizing r with
  | nil =>
    have hc : regCall r c = .error e := hc
    show regMany r (c :: post) = (r, false)
    rw [regMany, hc]
  | cons a pre ih =>
    cases ha : regCall r a with
    | error _ => rw [regMany, ha] at hpre; cases hpre
    | ok r' =>
      rw [regMany, ha] at hpre hc
      rw [List.cons_append, regMany, ha, regMany, ha]
      exact ih r' hpre hc

/-- handlers that are dispatch targets always agree with the flag -/
def HInv (r : Reg) : Prop := ∀ t f, r.channels t = none → r.handlers t = some f → r.flags t = (f == .slice)

theorem HInv.flag {r : Reg} (hi : HInv r) {t : Nat} {f : Form} (ht : r.target t = .handler f) :
    r.flags t = (f == .slice) :=
  hi t f (target_handler ht).1 (target_handler ht).2

/-- **whatever a constructor registers, in whatever order, well-formed or not: a handler that is the dispatch
target of its type takes a slice exactly when the type's flag says "aggregated"** — the reflection calls of
`dispatchHandler` can never meet a form they do not expect. -/
theorem c04_reg_handler_target_consistent (gs : List (List RegCall)) : HInv (regScript Reg.empty gs).1 := by
  refine regScript_inv gs (fun _ _ c _ r r' hr h t f' hc hh => ?_) _ (fun _ _ _ h => nomatch h)
  obtain ⟨mt, f, _, hf, hchan | hhandler⟩ := c04_reg_effect h
  · obtain ⟨cap, hch, hha⟩ := hchan
    simp only [hf, hch, hha] at hc hh ⊢
    by_cases e : t = mt
    -- `t` has a channel: no handler of `t` is a target
    · rw [if_pos e] at hc; cases hc
    · rw [if_neg e] at hc ⊢; exact hr t f' hc hh
  · obtain ⟨hha, hch⟩ := hhandler
    simp only [hf, hch, hha] at hc hh ⊢
    by_cases e : t = mt
    -- the flag was set from the form `f` of the handler just registered
    · rw [if_pos e] at hh ⊢; rw [Option.some.inj hh]
    · rw [if_neg e] at hh ⊢; exact hr t f' hc hh

/-- every registered thing of type `t` has form `F t`, and the flag of a registered type says so -/
def FInv (F : Nat → Form) (r : Reg) : Prop :=
  ∀ t, (∀ f, r.handlers t = some f → f = F t) ∧ (∀ f c, r.channels t = some (f, c) → f = F t) ∧
       ((r.handlers t ≠ none ∨ r.channels t ≠ none) → r.flags t = (F t == .slice))

/-- **the flag is derived from the registered Go type**: if a constructor registers every message type in one
form only (`F t`: slice or plain — as every protocol does that registers a type once), then after the whole
script, for every type, the flag `aggregate` consults equals "the handler / channel that will receive the type
takes a slice". -/
theorem c04_reg_consistent (F : Nat → Form) (gs : List (List RegCall))
    (hF : ∀ g ∈ gs, ∀ c ∈ g, ∀ t f, formOf c = some (t, f) → f = F t) :
    (regScript Reg.empty gs).1.consistent ∧ FInv F (regScript Reg.empty gs).1 := by
  have hfin : FInv F (regScript Reg.empty gs).1 := by
    refine regScript_inv gs (fun g hg c hc r r' hr h t => ?_) _
      (fun _ => ⟨fun _ h => (nomatch h), fun _ _ h => (nomatch h), fun h => h.elim (absurd rfl) (absurd rfl)⟩)
    obtain ⟨mt, f, hfo, hf, hcase⟩ := c04_reg_effect h
    cases hF g hg c hc mt f hfo
    by_cases e : t = mt
    · subst e
      rcases hcase with ⟨cap, hch, hha⟩ | ⟨hha, hch⟩ <;> simp only [hf, hch, hha, if_pos]
      -- a channel was registered
      · exact ⟨(hr t).1, fun _ _ h1 => by cases h1; rfl, fun _ => trivial⟩
      -- a handler was registered
      · exact ⟨fun _ h1 => by cases h1; rfl, (hr t).2.1, fun _ => trivial⟩
    -- any other type: the three tables are unchanged at `t`
    · rcases hcase with ⟨cap, hch, hha⟩ | ⟨hha, hch⟩ <;> simp only [hf, hch, hha, if_neg e] <;> exact hr t
  refine ⟨fun t => ?_, hfin⟩
  obtain ⟨h1, h2, h3⟩ := hfin t
  unfold Reg.target
  cases hc : (regScript Reg.empty gs).1.channels t with
  | some fc => exact (h3 (.inr (by rw [hc]; nofun))).trans (by rw [h2 fc.1 fc.2 hc])
  | none =>
    cases hh : (regScript Reg.empty gs).1.handlers t with
    | some f => exact (h3 (.inl (by rw [hh]; nofun))).trans (by rw [h1 f hh])
    | none => trivial

/-- the boundary: a message type registered as a slice channel and later as a plain handler keeps the channel
as its target but carries the handler's flag — flag and target disagree (the code then recovers from a
reflection panic in `dispatchChannel` and delivers nothing, see `c04_dispatch_mismatch_dropped`) -/
theorem c04_reg_mixed_forms_inconsistent :
    ¬ (regScript Reg.empty [[.channel (.chanPtr (.slice (.strct 2 true 1))) 10],
                            [.handler (.fn (.strct 2 true 1) [.err])]]).1.consistent :=
  fun h => Bool.false_ne_true (h 1)

/-- **registration accepts exactly the documented shapes**: a handler is accepted iff it is a function with the
single result `error` whose parameter is `struct{*TreeNode; M}` or a slice of it. -/
theorem c04_reg_handler_accepts_iff (r : Reg) (a : Arg) :
    (∃ r', registerHandler r a = .ok r') ↔ ∃ f mt, a = .fn (formTy f mt) [.err] := by
  simp only [registerHandler_eq_ok]
  exact ⟨fun ⟨_, f, mt, h, _⟩ => ⟨f, mt, h⟩, fun ⟨f, mt, h⟩ => ⟨_, f, mt, h, rfl⟩⟩

/-- a channel is accepted iff it is a non-nil channel (or the address of a channel variable) whose elements are
`struct{*TreeNode; M}` or slices of it -/
theorem c04_reg_channel_accepts_iff (r : Reg) (a : Arg) (n : Nat) :
    (∃ r', registerChannelLength r a n = .ok r') ↔
      ∃ f mt, a = .chanPtr (formTy f mt) ∨ ∃ cap, a = .chanVal (formTy f mt) cap false := by
  have key : ∀ e cap, (∃ r', registerChanValue r e cap = .ok r') ↔ ∃ f mt, e = formTy f mt := fun e cap =>
    ⟨fun ⟨_, h⟩ => let ⟨f, mt, he, _⟩ := registerChanValue_eq_ok.mp h; ⟨f, mt, he⟩,
     fun ⟨f, mt, he⟩ => ⟨_, registerChanValue_eq_ok.mpr ⟨f, mt, he, rfl⟩⟩⟩
  cases a with
  | chanVal e c isNil => cases isNil <;> simp [registerChannelLength, key]
  | _ => simp [registerChannelLength, key]

/-! ### dispatch: what the handler or channel receives (treenode.go:387-424, 447-496, 577-586) -/

/-- **registration can never make the reader goroutine crash in `dispatchHandler`**: with the invariant every
registration script establishes, no batch meets a handler of the wrong form. -/
theorem c04_no_crash (s : IState) (mt : Nat) (b : List Msg) (h : HInv s.reg) : (dispatch s mt b).2 ≠ .crash := by
  rcases dispatch_cases s mt b with ⟨f, ht, e⟩ | ⟨_, e | ⟨_, _, e, rfl | ⟨_, rfl⟩⟩ | e⟩ <;> rw [e]
  -- a handler: it crashes only when flag and form disagree, which `HInv` excludes
  · rw [if_pos (h.flag ht)]; exact nofun
  -- no handler: `dropped`, `sent` or `blocked`
  all_goals exact nofun

/-- a handler registered in slice form is called once, with the whole batch -/
theorem c04_dispatch_handler_slice (s : IState) (mt : Nat) (b : List Msg) (hi : HInv s.reg)
    (ht : s.reg.target mt = .handler .slice) : dispatch s mt b = (s, .calls [b]) := by
  have := hi.flag ht
  simp only [dispatch, ht, this]; rfl

/-- a handler registered in plain form is called once per message -/
theorem c04_dispatch_handler_plain (s : IState) (mt : Nat) (b : List Msg) (hi : HInv s.reg)
    (ht : s.reg.target mt = .handler .plain) : dispatch s mt b = (s, .calls (b.map fun m => [m])) := by
  have := hi.flag ht
  simp only [dispatch, ht, this]; rfl

/-- a channel registered in slice form receives the whole batch as one item, behind what it already holds -/
theorem c04_dispatch_chan_slice (s : IState) (mt cap : Nat) (b : List Msg)
    (ht : s.reg.target mt = .chan .slice cap) (hf : s.reg.flags mt = true) (hroom : (s.chans mt).length < cap) :
    dispatch s mt b = ({ s with chans := fun t => if t = mt then s.chans mt ++ [b] else s.chans t }, .sent [b]) := by
  simp only [dispatch, ht, hf, if_pos hroom]; rfl

/-- a channel registered in plain form receives the messages one by one, as long as it has room -/
theorem c04_dispatch_chan_plain (s : IState) (mt cap : Nat) (b : List Msg) (hb : b ≠ [])
    (ht : s.reg.target mt = .chan .plain cap) (hf : s.reg.flags mt = false)
    (hroom : (s.chans mt).length + b.length ≤ cap) :
    dispatch s mt b = ({ s with chans := fun t => if t = mt then s.chans mt ++ b.map (fun m => [m]) else s.chans t },
                       .sent (b.map fun m => [m])) := by
  have : (b.map fun m => [m]).isEmpty = false := by cases b with | nil => exact absurd rfl hb | cons _ _ => rfl
  simp only [dispatch, ht, hf, sendPlain_room b cap (s.chans mt) hroom, this]; rfl

/-- **a slow reader loses nothing**: a complete batch for a slice-form channel is either put into the channel or
— when the channel has no room (always, for an unbuffered one) — kept by the reader goroutine, which waits
inside `Send`; it is never dropped … -/
theorem c04_slice_channel_never_drops (s : IState) (mt cap : Nat) (b : List Msg)
    (ht : s.reg.target mt = .chan .slice cap) (hf : s.reg.flags mt = true) :
    ((dispatch s mt b).2 = .sent [b] ∧ (dispatch s mt b).1.chans mt = s.chans mt ++ [b] ∧
        (dispatch s mt b).1.stuck = s.stuck) ∨
    ((dispatch s mt b).2 = .blocked ∧ (dispatch s mt b).1.chans = s.chans ∧
        (dispatch s mt b).1.stuck = some (mt, b)) := by
  by_cases hroom : (s.chans mt).length < cap
  · rw [c04_dispatch_chan_slice s mt cap b ht hf hroom]; exact .inl ⟨rfl, if_pos rfl, rfl⟩
  · right; simp only [dispatch, ht, hf, if_neg hroom]; exact ⟨rfl, rfl, rfl⟩

/-- … and the protocol receives it, behind everything that was in the channel, as soon as it reads. -/
theorem c04_blocked_batch_received (s : IState) (mt : Nat) (b : List Msg) (h : s.stuck = some (mt, b)) :
    (irecv s mt).2 = s.chans mt ++ [b] ∧ (irecv s mt).1.stuck = none ∧ (irecv s mt).1.chans mt = [] := by
  unfold irecv
  rw [h]
  dsimp only
  rw [if_pos rfl]
  exact ⟨rfl, rfl, if_pos rfl⟩

/-- the documented boundary of plain channels: a message that finds the channel full (`out.Len() == out.Cap()`,
always the case for an unbuffered channel) is not delivered — `dispatchChannel` returns "channel too small" -/
theorem c04_plain_channel_full_drops (s : IState) (mt cap : Nat) (m : Msg)
    (ht : s.reg.target mt = .chan .plain cap) (hf : s.reg.flags mt = false) (hfull : cap ≤ (s.chans mt).length) :
    (dispatch s mt [m]).2 = .dropped ∧ (dispatch s mt [m]).1.chans = s.chans := by
  simp only [dispatch, ht, hf, sendPlain, if_neg (Nat.not_lt.mpr hfull), Bool.false_eq_true, if_false]
  refine ⟨rfl, funext fun t => ?_⟩
  by_cases e : t = mt
  · rw [if_pos e, e]
  · exact if_neg e

/-- a type nobody registered, or a channel whose form contradicts the flag: nothing is delivered, nothing changes -/
theorem c04_dispatch_mismatch_dropped (s : IState) (mt : Nat) (b : List Msg)
    (h : s.reg.target mt = .none ∨ ∃ f cap, s.reg.target mt = .chan f cap ∧ s.reg.flags mt ≠ (f == .slice)) :
    dispatch s mt b = (s, .dropped) := by
  rcases h with h | ⟨f, cap, h, hne⟩
  · simp only [dispatch, h]
  · cases f with
    | plain =>
      cases hf : s.reg.flags mt with
      | false => exact absurd hf hne
      | true => simp only [dispatch, h, hf]; rfl
    | slice =>
      cases hf : s.reg.flags mt with
      | true => exact absurd hf hne
      | false => simp only [dispatch, h, hf]; rfl

/-! ### from the registered Go type to the batches the handler sees -/

/-- the registration-and-dispatch layer sits on top of `aggregate` without touching it: queues and
configuration evolve exactly as in `run` -/
theorem c04_irun_refines (s : IState) (l : List Msg) :
    (irun s l).1.q = (run s.cfg s.q l).1 ∧ (irun s l).1.cfg = s.cfg ∧ (irun s l).1.reg = s.reg := by
  induction l generalizing s with
  | nil => exact ⟨rfl, rfl, rfl⟩
  | cons m l ih =>
    obtain ⟨h1, h2, h3⟩ := istep_frame s m
    rw [irun, run, ← h1, ← h2, ← h3]
    exact ih (istep s m).1

/-- a released batch of message type `t` (collected or bypassing) -/
def ofType (t : Nat) (b : List Msg) : Bool := !b.isEmpty && b.all (fun m => m.ty == t)

theorem ofType_ty {t : Nat} {b : List Msg} (h : ofType t b = true) : ∀ x ∈ b, x.ty = t := fun x hx =>
  eq_of_beq (List.all_eq_true.mp (Bool.and_eq_true_iff.mp h).2 x hx)

theorem ofType_of_isAggBatch {cfg : Cfg} {t : Nat} {b : List Msg} (h : isAggBatch cfg t b = true) :
    ofType t b = true := by
  obtain ⟨h1, h2⟩ := Bool.and_eq_true_iff.mp h
  refine Bool.and_eq_true_iff.mpr ⟨h1, List.all_eq_true.mpr fun x hx => ?_⟩
  rw [(kid_iff.mp (List.all_eq_true.mp h2 x hx)).1]; exact beq_self_eq_true t

theorem released_type {cfg : Cfg} {q : Queues} {m : Msg} {b : List Msg} (hq : QInv cfg q)
    (h : (aggregate cfg q m).2 = some b) (t : Nat) : ofType t b = (m.ty == t) := by
  rcases aggregate_releases h with ⟨rfl, _⟩ | ⟨rfl, _⟩
  · simp [ofType]
  · have : ∀ x ∈ q m.ty, x.ty = m.ty := fun x hx => (kid_iff.mp (hq _ x hx)).1
    by_cases e : m.ty = t
    · subst e; simpa [ofType] using this
    · simp [ofType, beq_false_of_ne e]

theorem calls_istep (s : IState) (m : Msg) (hi : HInv s.reg) :
    callsOf (istep s m).2.toList =
      match s.reg.target m.ty with | .handler _ => (aggregate s.cfg s.q m).2.toList | _ => [] := by
  cases hb : (aggregate s.cfg s.q m).2 with
  | none => simp only [istep, hb]; cases s.reg.target m.ty <;> rfl
  | some b =>
    simp only [istep, hb]
    rcases dispatch_cases { s with q := (aggregate s.cfg s.q m).1 } m.ty b with
      ⟨f, ht, e⟩ | ⟨hnh, e | ⟨_, _, e, rfl | ⟨_, rfl⟩⟩ | e⟩ <;> rw [e]
    -- a handler: `calls [b]` when the type is flagged, else `calls (b.map ([·]))`; an unflagged type bypasses, so
    -- there `b = [m]` and both are `[b]`
    · have ht : s.reg.target m.ty = .handler f := ht
      rw [ht, if_pos (hi.flag ht)]
      cases hfl : s.reg.flags m.ty with
      | true => rfl
      | false =>
        have hbp : bypass s.cfg m = true := by rw [bypass, show s.cfg.agg m.ty = false from hfl]; exact Bool.or_true _
        rw [c04_bypass s.cfg s.q m hbp] at hb
        cases hb; rfl
    -- no handler (`hnh`): `dropped`, `sent` or `blocked` hold no calls
    all_goals cases ht : s.reg.target m.ty with
      | handler f => exact absurd ht (hnh f)
      | _ => rfl

theorem calls_filter (s : IState) (l : List Msg) (t : Nat) (f : Form) (hi : HInv s.reg)
    (ht : s.reg.target t = .handler f) (p : List Msg → Bool) (hp : ∀ b, p b = true → ∀ x ∈ b, x.ty = t) :
    (callsOf (irun s l).2).filter p = (run s.cfg s.q l).2.filter p := by
  induction l generalizing s with
  | nil => rfl
  | cons m l ih =>
    obtain ⟨h1, h2, h3⟩ := istep_frame s m
    rw [irun, run, callsOf_append, List.filter_append, List.filter_append,
      ih (istep s m).1 (h2 ▸ hi) (h2 ▸ ht), h1, h3, calls_istep s m hi]
    congr 1
    by_cases e : m.ty = t
    · rw [e, ht]
    · cases s.reg.target m.ty with
      | handler _ => rfl
      | _ => exact (released_filter_other hp e).symm

/-- **end to end, from the Go type to the batches**: let a constructor run *any* registration script, and let
message type `t` end up with a slice-form handler as its dispatch target.  Then for every schedule the calls of
that handler with collected batches of `t` are exactly the batches `aggregate` releases for `t`. -/
theorem c04_handler_calls (s : IState) (l : List Msg) (t : Nat) (hq : QInv s.cfg s.q) (hi : HInv s.reg)
    (ht : s.reg.target t = .handler .slice) :
    (callsOf (irun s l).2).filter (isAggBatch s.cfg t) = (run s.cfg s.q l).2.filter (isAggBatch s.cfg t) :=
  have _ := hq  -- not needed
  calls_filter s l t .slice hi ht _ fun _ hb => ofType_ty (ofType_of_isAggBatch hb)

/-- **the property for a handler registered in slice form**: whatever else the constructor registers, if the
children's messages of type `t` arrive as consecutive rounds of one per child (interleaved with anything), the
handler is called exactly once per round, with exactly that round. -/
theorem c04_registered_rounds (gs : List (List RegCall)) (isRoot : Bool) (n t : Nat) (l : List Msg)
    (rounds : List (List Msg))
    (ht : (regScript Reg.empty gs).1.target t = .handler .slice)
    (hn : 1 ≤ n) (hr : ∀ r ∈ rounds, r.length = n)
    (hl : l.filter (kid { isRoot := isRoot, nChildren := n, agg := (regScript Reg.empty gs).1.flags } t) = rounds.flatten) :
    (callsOf (irun { isRoot := isRoot, nChildren := n, reg := (regScript Reg.empty gs).1 } l).2).filter
      (isAggBatch { isRoot := isRoot, nChildren := n, agg := (regScript Reg.empty gs).1.flags } t) = rounds :=
  (c04_handler_calls { isRoot := isRoot, nChildren := n, reg := (regScript Reg.empty gs).1 } l t
    (qinv_empty _) (c04_reg_handler_target_consistent gs) ht).trans
  (proj_eq (c04_rounds _ t emptyQ l rounds rfl hn hr hl)).1

/-- **the property for a channel registered in slice form**: as long as the channel has room (the protocol reads
often enough, or the channel is long enough — otherwise the reader waits, `c04_slice_channel_never_drops`), the
channel of type `t` receives, in order, exactly the batches `aggregate` releases for `t`: behind what it already
held, one item per batch. -/
theorem c04_chan_contents (s : IState) (l : List Msg) (t cap : Nat) (hq : QInv s.cfg s.q)
    (ht : s.reg.target t = .chan .slice cap) (hf : s.reg.flags t = true)
    (hroom : (s.chans t).length + ((run s.cfg s.q l).2.filter (ofType t)).length ≤ cap) :
    (irun s l).1.chans t = s.chans t ++ (run s.cfg s.q l).2.filter (ofType t) := by
  induction l generalizing s with
  | nil => exact (List.append_nil _).symm
  | cons m l ih =>
    obtain ⟨h1, h2, h3⟩ := istep_frame s m
    rw [run, List.filter_append, List.length_append] at hroom
    have hstep : (istep s m).1.chans t = s.chans t ++ (aggregate s.cfg s.q m).2.toList.filter (ofType t) := by
      cases hb : (aggregate s.cfg s.q m).2 with
      | none => simp [istep, hb]
      | some b =>
        have hty := released_type hq hb t
        rw [hb] at hroom
        by_cases e : m.ty = t
        -- `b` is of type `t`: the filter keeps it, `hroom` leaves room for it, `dispatch` appends it to `chans t`
        · have hkeep : ofType t b = true := by rw [hty, e]; exact beq_self_eq_true t
          have hlt : (s.chans t).length < cap := by simp [hkeep] at hroom; omega
          simp [istep, hb, hkeep, e, c04_dispatch_chan_slice { s with q := (aggregate s.cfg s.q m).1 } t cap b ht hf hlt]
        -- `b` is not of type `t`: the filter drops it, its dispatch leaves `chans t` alone
        · have hdrop : ofType t b = false := by rw [hty]; exact beq_false_of_ne e
          have hsame : (dispatch { s with q := (aggregate s.cfg s.q m).1 } m.ty b).1.chans t = s.chans t :=
            (dispatch_frame { s with q := (aggregate s.cfg s.q m).1 } m.ty b).2.2.2 t (Ne.symm e)
          simp [istep, hb, hdrop, hsame]
    rw [irun, run, List.filter_append, ← List.append_assoc, ← hstep, ← h1, ← h3]
    refine ih (istep s m).1 ?_ (by rw [h2]; exact ht) (by rw [h2]; exact hf) ?_
    · rw [h1, h3]; exact qinv_run s.cfg s.q [m] hq
    · rw [h1, h3, hstep, List.length_append]; omega

/-- the rounds arrive in the channel: one item per round, exactly the round, when the children's messages of
type `t` come as consecutive rounds and the channel is long enough for what is not read meanwhile -/
theorem c04_registered_rounds_chan (s : IState) (l : List Msg) (t cap : Nat) (rounds : List (List Msg))
    (hfresh : s.q = emptyQ) (hempty : s.chans t = [])
    (ht : s.reg.target t = .chan .slice cap) (hf : s.reg.flags t = true)
    (hn : 1 ≤ s.nChildren) (hr : ∀ r ∈ rounds, r.length = s.nChildren)
    (hl : l.filter (kid s.cfg t) = rounds.flatten)
    (hroom : ((run s.cfg s.q l).2.filter (ofType t)).length ≤ cap) :
    ((irun s l).1.chans t).filter (isAggBatch s.cfg t) = rounds := by
  have hq : QInv s.cfg s.q := hfresh ▸ qinv_empty _
  rw [c04_chan_contents s l t cap hq ht hf (by rw [hempty]; exact (Nat.zero_add _).symm ▸ hroom), hempty,
    List.nil_append, List.filter_filter]
  have : (fun b => isAggBatch s.cfg t b && ofType t b) = isAggBatch s.cfg t := funext fun b => by
    cases hb : isAggBatch s.cfg t b with
    | false => rfl
    | true => exact ofType_of_isAggBatch hb
  rw [this]
  exact (proj_eq (c04_rounds s.cfg t s.q l rounds (hfresh ▸ rfl) hn hr hl)).1

theorem run_filter_ofType_plain (cfg : Cfg) (t : Nat) (q : Queues) (l : List Msg) (h : cfg.agg t = false) :
    (run cfg q l).2.filter (ofType t) = (l.filter (fun m => m.ty == t)).map fun m => [m] := by
  induction l generalizing q with
  | nil => rfl
  | cons m l ih =>
    rw [run, List.filter_append, ih]
    by_cases e : m.ty = t
    · have hb : bypass cfg m = true := by rw [bypass, e, h]; exact Bool.or_true _
      simp [c04_bypass cfg q m hb, ofType, e]
    · simp [released_filter_other (fun _ => ofType_ty) e, e]

/-- **registered one by one ⇒ delivered one by one**: a message type whose dispatch target is a plain-form
handler reaches it message by message, all of them, in arrival order — whatever else is interleaved. -/
theorem c04_registered_plain_one_by_one (s : IState) (l : List Msg) (t : Nat) (hi : HInv s.reg)
    (ht : s.reg.target t = .handler .plain) :
    (callsOf (irun s l).2).filter (ofType t) = (l.filter (fun m => m.ty == t)).map fun m => [m] := by
  rw [calls_filter s l t .plain hi ht (ofType t) fun _ => ofType_ty]
  exact run_filter_ofType_plain s.cfg t s.q l (hi.flag ht)

/-! ### non-vacuity of the registration / dispatch / several-instances statements -/

/-- non-vacuity: the standard recording protocol's registrations (M1 slice handler, M3 plain handler, M2 slice
channel, M4 plain channel) meet the hypotheses for type 1 -/
example : (regScript Reg.empty Drv.stdScript).1.target 1 = .handler .slice := by decide +kernel
example : (regScript Reg.empty Drv.stdScript).1.target 2 = .chan .slice 1000 := by decide +kernel
example : (regScript Reg.empty Drv.stdScript).2 = [true, true] := by decide +kernel

/-- the hypotheses of `c04_sys_rounds` are met by the interleaved schedule of the example above, for instance 0
and type 1 (two rounds) and, at once, for instance 1 and type 1 (one round of three) -/
example :
    let l : List (Nat × Msg) := [(0, k 0 1), (1, k 2 2), (0, ⟨2, some 1, 3⟩), (0, par 4), (1, k 0 5), (0, k 1 6), (1, oth 0 7),
      (0, ⟨2, some 0, 8⟩), (0, k 1 9), (1, k 1 10), (0, k 0 11)]
    (evOf 0 l).filter (kid (sys2.cfg 0) 1) = [[k 0 1, k 1 6], [k 1 9, k 0 11]].flatten ∧
    (evOf 1 l).filter (kid (sys2.cfg 1) 1) = [[k 2 2, k 0 5, k 1 10]].flatten := by decide +kernel

/-- the standard protocol's script registers every type in one form: the premise of `c04_reg_consistent` -/
example : ∀ g ∈ Drv.stdScript, ∀ c ∈ g, ∀ t f, formOf c = some (t, f) →
    f = (fun t => if t = 1 ∨ t = 2 then Form.slice else Form.plain) t := by
  have : ∀ g ∈ Drv.stdScript, ∀ c ∈ g, ∀ p ∈ formOf c,
      p.2 = if p.1 = 1 ∨ p.1 = 2 then Form.slice else Form.plain := by decide +kernel
  exact fun g hg c hc t f h => this g hg c hc (t, f) h

example : (regScript Reg.empty Drv.stdScript).1.flags 2 = true ∧
    (regScript Reg.empty Drv.stdScript).1.target 3 = .handler .plain ∧
    (regScript Reg.empty Drv.stdScript).1.target 4 = .chan .plain 1000 := by decide +kernel

/-- a slice channel of capacity 1: the first batch goes in, the second waits with the reader, one read receives both -/
example :
    let r : Reg := (regScript Reg.empty [[.channel (.chanPtr (.slice (.strct 2 true 1))) 1]]).1
    let s0 : IState := { isRoot := true, nChildren := 1, reg := r }
    let s1 := (istep s0 (k 0 1)).1
    let s2 := (istep s1 (k 0 2)).1
    (istep s0 (k 0 1)).2 = some (.sent [[k 0 1]]) ∧ (istep s1 (k 0 2)).2 = some .blocked ∧
    s2.stuck = some (1, [k 0 2]) ∧ (irecv s2 1).2 = [[k 0 1], [k 0 2]] := by decide +kernel

/-- a plain channel of capacity 1 that is not read: the second message is refused -/
example :
    let r : Reg := (regScript Reg.empty [[.channel (.chanPtr (.strct 2 true 3)) 1]]).1
    let s0 : IState := { isRoot := true, nChildren := 2, reg := r }
    (irun s0 [⟨3, some 0, 1⟩, ⟨3, some 1, 2⟩]).2 = [.sent [[⟨3, some 0, 1⟩]], .dropped] := by decide +kernel

/-! ## Composition with the instance's reader (property C05's model and theorems, imported) -/
namespace Comp

/-- one instance as the code runs it: C05's state machine of `ProcessProtocolMsg` / `dispatchMsgReader` /
`closeDispatch` (queue, wake-up token, reader), plus `msgQueue` and the batches handed to `dispatchMsgToProtocol`'s
second half so far.  `aggregate` runs where the code calls it: on the reader goroutine, when it takes a message off
the queue and enters `dispatchMsgToProtocol` (C05's step `top → handling m`). -/
structure St where
  inst : C05.St := {}
  q    : Queues := emptyQ
  out  : List (List Msg) := []

/-- what the reader's step adds: the message it has just entered the handler with, if any -/
def entered (s s' : C05.St) : Option Nat :=
  match s.pc, s'.pc with
  | .top, .handling m => some m
  | _, _ => none

def step (cfg : Cfg) (μ : Nat → Msg) (s : St) (a : C05.Act) : Option St :=
  match C05.step s.inst a with
  | none => none
  | some i' =>
    match entered s.inst i' with
    | some m =>
      let r := aggregate cfg s.q (μ m)
      some { inst := i', q := r.1, out := s.out ++ r.2.toList }
    | none => some { s with inst := i' }

/-- any schedule of feeders (`accept`), reader steps and `close`; a blocked thread does not move -/
def run (cfg : Cfg) (μ : Nat → Msg) (s : St) : List C05.Act → Option St
  | [] => some s
  | a :: as => match step cfg μ s a with
      | some s' => run cfg μ s' as
      | none => run cfg μ s as

/-- the glue invariant: the queues and the dispatched batches are `C04.run` over the handlers started so far -/
def Glue (cfg : Cfg) (μ : Nat → Msg) (s : St) : Prop :=
  C04.run cfg emptyQ (s.inst.started.map μ) = (s.q, s.out)

theorem started_step (s s' : C05.St) (a : C05.Act) (h : C05.step s a = some s') :
    s'.started = s.started ++ (entered s s').toList := by
  -- only the reader's move `pop` enters a handler
  cases C05.step_move h with
  | pop m q hpc =>
    simp only [entered, hpc]
    rfl
  | refuse | accept | close =>
    cases hpc : s.pc <;> simp only [entered, hpc] <;> exact (List.append_nil _).symm
  | stop hpc | sleep hpc | finish _ hpc | wake hpc =>
    simp only [entered, hpc]
    exact (List.append_nil _).symm

theorem glue_run (cfg : Cfg) (μ : Nat → Msg) (as : List C05.Act) (s s' : St) (hg : Glue cfg μ s)
    (h : run cfg μ s as = some s') : Glue cfg μ s' ∧ C05.run s.inst as = some s'.inst := by
  induction as generalizing s with
  | nil => cases h; exact ⟨hg, rfl⟩
  | cons a as ih =>
    rw [run, step] at h
    rw [C05.run]
    cases hi : C05.step s.inst a with
    | none => rw [hi] at h; exact ih s hg h
    | some i' =>
      have hs := started_step _ _ _ hi
      simp only [hi] at h
      cases he : entered s.inst i' with
      | none =>
        rw [he] at h hs
        refine ih _ ?_ h
        rw [Glue, hs, Option.toList_none, List.append_nil]; exact hg
      | some m =>
        -- the handler of `m` started: `C04.run` takes one more message
        rw [he] at h hs
        refine ih _ ?_ h
        rw [Glue, hs, List.map_append]; exact (run_snoc ..).trans (by rw [hg])

/-- **the batches follow the acceptance order, under every schedule** (C05's `c05_fifo`, instantiated): whatever
the interleaving of any number of feeding goroutines, reader steps and `closeDispatch`, the queues and the batches
dispatched are those of `C04.run` — the sequential model every C04 theorem is about — over a *prefix of the accepted
messages in acceptance order*.  `aggregate` never sees a message twice, out of order, or two at once. -/
theorem c04_comp_batches_follow_acceptance (cfg : Cfg) (μ : Nat → Msg) (as : List C05.Act) (s : St)
    (h : run cfg μ {} as = some s) :
    ∃ pre, pre <+: s.inst.accepted ∧ C04.run cfg emptyQ (pre.map μ) = (s.q, s.out) :=
  have hg := glue_run cfg μ as {} s rfl h
  ⟨s.inst.started, C05.c05_fifo as s.inst hg.2, hg.1⟩

/-- **at quiescence every accepted message went through `aggregate`, once, in acceptance order** (C05's
`c05_quiescent_all_handled` + `c05_serial` + `c05_fifo`, instantiated): when the reader can do nothing more and the
instance was not closed, the state is exactly `C04.run` over ALL accepted messages. -/
theorem c04_comp_quiescent (cfg : Cfg) (μ : Nat → Msg) (as : List C05.Act) (s : St)
    (h : run cfg μ {} as = some s) (hb : C05.step s.inst .reader = none) (hc : s.inst.closing = false) :
    C04.run cfg emptyQ (s.inst.accepted.map μ) = (s.q, s.out) := by
  have hg := glue_run cfg μ as {} s rfl h
  -- started = finished ++ running is a prefix of accepted = finished, so it is all of it
  obtain ⟨r, hr, _⟩ := C05.c05_serial as s.inst hg.2
  have hlen : s.inst.accepted.length ≤ s.inst.started.length := by
    rw [hr, (C05.c05_quiescent_all_handled as s.inst hg.2 hb hc).1, List.length_append]
    exact Nat.le_add_right ..
  rw [← (C05.c05_fifo as s.inst hg.2).eq_of_length_le hlen]
  exact hg.1

/-- **the property's batch clause, end to end from the hand-over**: if the messages handed to the instance
(`ProcessProtocolMsg`, by any number of goroutines in any interleaving with the reader) contain the children's
messages of aggregated type `t` as `k` consecutive rounds of one message per child, then at quiescence exactly
those `k` batches have been dispatched for `t`, each holding its round, and nothing of `t` waits — `c04_rounds`
with its hypothesis "arrival order" discharged by C05's theorems instead of assumed. -/
theorem c04_comp_rounds (cfg : Cfg) (μ : Nat → Msg) (as : List C05.Act) (s : St) (t : Nat) (rounds : List (List Msg))
    (h : run cfg μ {} as = some s) (hb : C05.step s.inst .reader = none) (hc : s.inst.closing = false)
    (hn : 1 ≤ cfg.nChildren) (hr : ∀ r ∈ rounds, r.length = cfg.nChildren)
    (hl : (s.inst.accepted.map μ).filter (kid cfg t) = rounds.flatten) :
    proj cfg t (s.q, s.out) = (rounds, []) := by
  rw [← c04_comp_quiescent cfg μ as s h hb hc]
  exact c04_rounds cfg t emptyQ _ rounds rfl hn hr hl

/-- **nothing before the last child, under every schedule**: as long as fewer than `nChildren` children's
messages of type `t` have been *accepted*, no batch of type `t` has been dispatched — whatever the reader has or
has not done yet. -/
theorem c04_comp_nothing_before_complete (cfg : Cfg) (μ : Nat → Msg) (as : List C05.Act) (s : St) (t : Nat)
    (h : run cfg μ {} as = some s) (hn : 1 ≤ cfg.nChildren)
    (hlt : ((s.inst.accepted.map μ).filter (kid cfg t)).length < cfg.nChildren) :
    s.out.filter (isAggBatch cfg t) = [] := by
  have _ := hn  -- not needed: it follows from `hlt`
  obtain ⟨pre, ⟨suf, hp⟩, hrun⟩ := c04_comp_batches_follow_acceptance cfg μ as s h
  rw [← hp, List.map_append, List.filter_append, List.length_append] at hlt
  have := c04_nothing_before_complete cfg t emptyQ (pre.map μ) (by rw [show (emptyQ t).length = 0 from rfl]; omega)
  rw [hrun] at this
  exact (proj_eq this).1

/-- **`closing`**: a message handed over after `closeDispatch` never reaches `aggregate` (C05's `accept` on a
closing instance changes nothing): the state is that of the schedule without it. -/
theorem c04_comp_closed_takes_nothing (cfg : Cfg) (μ : Nat → Msg) (s : St) (m : Nat) (hc : s.inst.closing = true) :
    step cfg μ s (.accept m) = some s := by
  have : C05.step s.inst (.accept m) = some s.inst := by rw [C05.step, if_pos hc]
  rw [step, this]
  cases hpc : s.inst.pc <;> simp only [entered, hpc]

private def cfg2 : Cfg := { isRoot := true, nChildren := 2, agg := fun t => t == 1 }
private def mu (i : Nat) : Msg := { ty := 1, src := some (i % 2), val := i }

/-- non-vacuity: two feeders and the reader interleaved, two children, one aggregated type -/
example : (run cfg2 mu {} [.accept 0, .reader, .accept 1, .reader, .reader, .reader, .reader, .reader, .reader]).map
    (fun s => (s.out, s.inst.accepted, decide (C05.step s.inst .reader = none), s.inst.closing))
    = some ([[mu 0, mu 1]], [0, 1], true, false) := by decide +kernel

/-- **negation witness for the variant without the single reader** (the hand-over goroutines call `aggregate`
themselves, as `ProcessProtocolMsg` would without queue and reader): two children's messages arriving on two
connections both read `msgQueue[t]` before either writes it back — the second write wins, the first child's
message is gone and the batch is never dispatched, although every child has sent. -/
theorem c04_comp_unserialised_loses_batch :
    let q0 := emptyQ
    let serial := aggregate cfg2 (aggregate cfg2 q0 (mu 0)).1 (mu 1)
    let racy := aggregate cfg2 q0 (mu 1)      -- computed from the queues as they were BEFORE `mu 0` was stored
    serial.2 = some [mu 0, mu 1] ∧ racy.2 = none ∧ racy.1 1 = [mu 1] := by decide +kernel

/-! ### … and with the overlay's hand-over (property C01's model of the `transmitMux` region, imported) -/

/-- **routing by token, composed**: take ANY schedule of the overlay's region — arrivals for any tokens from any number
of connections, their threads taking `transmitMux` in any order, constructors of any duration (`C01.Inst`) — and feed its
hand-over log, in hand-over order, to the instance table (`sysRun`: the instance a message is handed to is the one its
token names, C01's `c01_handed_to_its_instance`).  Then for every token (1) what its instance queues and dispatches is
`C04.run` over the messages handed to IT alone, in that order — whatever was handed to other instances in between —, and
(2) once every arrival thread is through and no instance has finished, those messages are exactly the arrivals for that
token, each handed over exactly once (`c01_region_exactly_once`, instantiated).  With `c04_comp_rounds` behind it (the
reader), C04's batch theorems hold from the moment a message leaves the connection's goroutine. -/
theorem c04_comp_routing (s : Sys) (μ : Nat → Msg) (as : List C01.Inst.Act) (tok : Nat)
    (hq : ∀ t ∈ (C01.Inst.run {} as).thr, t.pc = .fin) (hd : (C01.Inst.run {} as).doneToks = []) :
    let handed := (C01.Inst.run {} as).handed
    let evs : List (Nat × Msg) := handed.map fun p => (p.1, μ p.2)
    (sysRun s evs).1.q tok = (C04.run (s.cfg tok) (s.q tok) (evOf tok evs)).1 ∧
    outOf tok (sysRun s evs).2 = (C04.run (s.cfg tok) (s.q tok) (evOf tok evs)).2 ∧
    (∀ p ∈ handed, p.1 ∈ (C01.Inst.run {} as).inst ∧ p.1 ∈ (C01.Inst.run {} as).created) ∧
    ∀ m, handed.count (tok, m) = (C01.Inst.run {} as).arrived.count (tok, m) := by
  intro handed evs
  have hi := c04_instances_independent s tok evs
  refine ⟨hi.2.1, hi.2.2, ?_, ?_⟩
  · intro p hp
    obtain ⟨h1 | h1, h2⟩ := C01.Inst.c01_handed_to_its_instance as p hp
    · exact ⟨h1, h2⟩
    · rw [hd] at h1; cases h1
  · intro m
    have hdrop : (C01.Inst.run {} as).dropped.count (tok, m) = 0 := List.count_eq_zero.mpr fun hm => by
      have := C01.Inst.c01_dropped_only_finished as (tok, m) hm
      rw [hd] at this; cases this
    have h := C01.Inst.c01_region_exactly_once as hq tok m
    rw [hdrop] at h
    exact h

/-- non-vacuity: two tokens, three arrivals, the constructor of token 7 still running when the second message for it
arrives -/
example :
    let as : List C01.Inst.Act := [.arrive 7 1, .arrive 9 2, .thread 0, .arrive 7 3, .thread 2, .thread 1, .thread 0, .thread 1, .thread 2, .thread 1, .thread 2]
    (C01.Inst.run {} as).handed = [(7, 1), (9, 2), (7, 3)] ∧ (C01.Inst.run {} as).doneToks = [] ∧
    ∀ t ∈ (C01.Inst.run {} as).thr, t.pc = .fin := by
  decide +kernel

end Comp

/-! ### the code regions the model stands for
Regenerated from /repo's source on every run (`harness/cmd/astfacts` → `OnetVerif/Shapes.lean`): the
calls that matter for synchronisation and data flow, the lock regions and (for decision logic) the
conditions, in source order.  A re-ordering, a dropped call or a changed condition breaks these
obligations even when no sampled input or schedule shows a difference; the check then searches for
a failing input. -/
theorem c04_shape_TreeNodeInstance_aggregate :
    Shapes.treenode_TreeNodeInstance_aggregate =
   ["n.IsRoot", "n.Parent", "TreeNodeID.Equal",
     "if:(fromParent||!n.hasFlag(mt,AggregateMessages))", "return:mt,?,true", "if:!ok",
     "if:(len(msgs)==len(n.Children()))", "return:mt,msgs,true", "return:mt,nil,false"] := rfl

theorem c04_shape_TreeNodeInstance_dispatchMsgToProtocol :
    Shapes.treenode_TreeNodeInstance_dispatchMsgToProtocol =
   ["rx.add", "n.aggregate", "n.dispatchChannel", "n.dispatchHandler"] := rfl

theorem c04_shape_TreeNodeInstance_dispatchHandler :
    Shapes.treenode_TreeNodeInstance_dispatchHandler =
   ["n.hasFlag", "to.Elem", "n.createValueAndVerify", "msgs.Index", "Index().Set", "f.Call",
     "errV.IsValid", "errV.IsNil", "n.createValueAndVerify", "f.Call", "errV.IsNil"] := rfl

theorem c04_shape_TreeNodeInstance_dispatchChannel :
    Shapes.treenode_TreeNodeInstance_dispatchChannel =
   ["defer{", "}", "n.hasFlag", "to.Elem", "to.Elem", "n.createValueAndVerify", "out.Index",
     "Index().Set", "to.Elem", "n.createValueAndVerify", "out.Len", "out.Cap",
     "msgDispatchQueueMutex.Lock", "msgDispatchQueueMutex.Unlock", "out.Send"] := rfl

theorem c04_shape_TreeNodeInstance_RegisterHandler :
    Shapes.treenode_TreeNodeInstance_RegisterHandler =
   ["uint32", "if:(cr.Kind()!=reflect.Func)", "return:xerrors.New(\"\")", "if:(cr.NumOut()!=1)",
     "return:xerrors.New(\"\")", "if:(cr.Out(0)!=reflect.TypeOf().Elem())",
     "return:xerrors.New(\"\")", "cr.In", "if:(ci.Kind()==reflect.Slice)", "ci.Elem",
     "if:(ci.Kind()!=reflect.Struct)", "return:xerrors.New(\"\")", "if:(ci.NumField()!=2)",
     "return:xerrors.New(\"\")", "if:(ci.Field().Type!=reflect.TypeOf(&?))",
     "return:xerrors.New(\"\")", "ptr.Interface", "network.RegisterMessage", "return:nil"] := rfl

theorem c04_shape_TreeNodeInstance_RegisterChannelLength :
    Shapes.treenode_TreeNodeInstance_RegisterChannelLength =
   ["uint32", "if:(cr.Kind()==reflect.Ptr)", "val.Set",
     "return:n.RegisterChannel(reflect.Indirect().Interface())", "else",
     "if:reflect.ValueOf().IsNil()", "return:xerrors.New(\"\")", "if:(cr.Kind()!=reflect.Chan)",
     "return:xerrors.New(\"\")", "if:(cr.Elem().Kind()==reflect.Slice)", "cr.Elem",
     "if:(cr.Elem().Kind()!=reflect.Struct)", "return:xerrors.New(\"\")",
     "if:(cr.Elem().NumField()!=2)", "return:xerrors.New(\"\")",
     "if:(cr.Elem().Field().Type!=reflect.TypeOf(&?))", "return:xerrors.New(\"\")",
     "m.Interface", "network.RegisterMessage", "return:nil"] := rfl

theorem c04_shape_TreeNodeInstance_RegisterChannel :
    Shapes.treenode_TreeNodeInstance_RegisterChannel =
   ["n.RegisterChannelLength", "if:(err!=nil)", "return:xerrors.Errorf(\"\",err)", "return:nil"] := rfl

theorem c04_shape_TreeNodeInstance_RegisterHandlers :
    Shapes.treenode_TreeNodeInstance_RegisterHandlers =
   ["n.RegisterHandler", "if:(err!=nil)", "return:xerrors.Errorf(\"\",h,err.Error())",
     "return:nil"] := rfl

theorem c04_shape_TreeNodeInstance_RegisterChannels :
    Shapes.treenode_TreeNodeInstance_RegisterChannels =
   ["n.RegisterChannel", "if:(err!=nil)", "return:xerrors.Errorf(\"\",ch,err.Error())",
     "return:nil"] := rfl

theorem c04_shape_TreeNodeInstance_RegisterChannelsLength :
    Shapes.treenode_TreeNodeInstance_RegisterChannelsLength =
   ["n.RegisterChannelLength", "if:(err!=nil)", "return:xerrors.Errorf(\"\",ch,err.Error())",
     "return:nil"] := rfl

theorem c04_shape_TreeNodeInstance_hasFlag :
    Shapes.treenode_TreeNodeInstance_hasFlag =
   ["return:((n.messageTypeFlags[]&f)!=0)"] := rfl

theorem c04_shape_TreeNodeInstance_aggregate_b2 :
    Shapes.treenode_TreeNodeInstance_aggregate_b2 =
   ["assign:mt:=onetMsg.MsgType", "n.IsRoot", "n.Parent", "TreeNodeID.Equal",
     "assign:fromParent:=(!n.IsRoot()&&onetMsg.From.TreeNodeID.Equal(n.Parent().ID))",
     "if:(fromParent||!n.hasFlag(mt,AggregateMessages))", "return:mt,conv{onetMsg},true",
     "assign:_,ok:=n.msgQueue[mt]", "if:!ok", "assign:n.msgQueue[mt]=make(conv,0)",
     "assign:msgs:=append(n.msgQueue[mt],onetMsg)", "assign:n.msgQueue[mt]=msgs",
     "if:(len(msgs)==len(n.Children()))", "return:mt,msgs,true", "return:mt,nil,false"] := rfl

theorem c04_shape_TreeNodeInstance_setFlag_b2 :
    Shapes.treenode_TreeNodeInstance_setFlag_b2 =
   ["assign:n.messageTypeFlags[mt]|=f"] := rfl

theorem c04_shape_TreeNodeInstance_clearFlag_b2 :
    Shapes.treenode_TreeNodeInstance_clearFlag_b2 =
   ["assign:n.messageTypeFlags[mt]&^=f"] := rfl

theorem c04_shape_TreeNodeInstance_hasFlag_b2 :
    Shapes.treenode_TreeNodeInstance_hasFlag_b2 =
   ["return:((n.messageTypeFlags[mt]&f)!=0)"] := rfl

theorem c04_shape_TreeNodeInstance_dispatchHandler_b2 :
    Shapes.treenode_TreeNodeInstance_dispatchHandler_b2 =
   ["assign:mt:=msgSlice[0].MsgType", "assign:to:=reflect.TypeOf().In(0)",
     "assign:f:=reflect.ValueOf(n.handlers[mt])", "if:n.hasFlag(mt,AggregateMessages)",
     "assign:msgs:=reflect.MakeSlice(to,len(msgSlice),len(msgSlice))", "range:i,msg:=msgSlice{",
     "to.Elem", "n.createValueAndVerify", "assign:m,err:=n.createValueAndVerify(to.Elem(),msg)",
     "if:(err!=nil)", "return:xerrors.Errorf(\"\",err)", "msgs.Index", "Index().Set", "}",
     "f.Call", "assign:errV=f.Call(conv{msgs})[0]", "else", "range:_,msg:=msgSlice{",
     "if:(errV.IsValid()&&!errV.IsNil())", "n.createValueAndVerify",
     "assign:m,err:=n.createValueAndVerify(to,msg)", "if:(err!=nil)",
     "return:xerrors.Errorf(\"\",err)", "f.Call", "assign:errV=f.Call(conv{m})[0]", "}",
     "if:!errV.IsNil()", "return:xerrors.Errorf(\"\",errV.Interface())", "return:nil"] := rfl

theorem c04_shape_TreeNodeInstance_dispatchChannel_b2 :
    Shapes.treenode_TreeNodeInstance_dispatchChannel_b2 =
   ["assign:mt:=msgSlice[0].MsgType", "defer{", "assign:r:=recover()", "if:(r!=nil)", "}",
     "assign:to:=reflect.TypeOf(n.channels[mt])", "if:n.hasFlag(mt,AggregateMessages)",
     "to.Elem", "assign:to=to.Elem()",
     "assign:out:=reflect.MakeSlice(to,len(msgSlice),len(msgSlice))", "range:i,msg:=msgSlice{",
     "to.Elem", "n.createValueAndVerify", "assign:m,err:=n.createValueAndVerify(to.Elem(),msg)",
     "if:(err!=nil)", "return:xerrors.Errorf(\"\",err)", "out.Index", "Index().Set", "}", "else",
     "range:_,msg:=msgSlice{", "assign:out:=reflect.ValueOf(n.channels[mt])", "to.Elem",
     "n.createValueAndVerify", "assign:m,err:=n.createValueAndVerify(to.Elem(),msg)",
     "if:(err!=nil)", "return:xerrors.Errorf(\"\",err)", "if:(out.Len()<out.Cap())",
     "msgDispatchQueueMutex.Lock", "assign:closing:=n.closing", "msgDispatchQueueMutex.Unlock",
     "if:!closing", "out.Send", "else", "return:xerrors.Errorf((\"\"+\"\"),mt,n.ProtocolName())",
     "}", "return:nil"] := rfl

theorem c04_shape_TreeNodeInstance_dispatchMsgToProtocol_b2 :
    Shapes.treenode_TreeNodeInstance_dispatchMsgToProtocol_b2 =
   ["rx.add", "if:(onetMsg.From==nil)", "return:xerrors.New(\"\")", "n.aggregate",
     "assign:msgType,msgs,done:=n.aggregate(onetMsg)", "if:!done", "return:nil", "switch:{",
     "case:(n.channels[msgType]!=nil)", "n.dispatchChannel",
     "assign:err=n.dispatchChannel(msgs)", "case:(n.handlers[msgType]!=nil)",
     "n.dispatchHandler", "assign:err=n.dispatchHandler(msgs)", "default",
     "return:xerrors.Errorf(\"\",reflect.TypeOf(onetMsg.Msg))", "}", "if:(err!=nil)",
     "return:xerrors.Errorf(\"\",err)", "return:nil"] := rfl

theorem c04_shape_TreeNodeInstance_RegisterHandler_b2 :
    Shapes.treenode_TreeNodeInstance_RegisterHandler_b2 =
   ["uint32", "assign:flags:=uint32(0)", "assign:cr:=reflect.TypeOf(c)",
     "if:(cr.Kind()!=reflect.Func)", "return:xerrors.New(\"\")", "if:(cr.NumOut()!=1)",
     "return:xerrors.New(\"\")", "if:(cr.Out(0)!=reflect.TypeOf().Elem())",
     "return:xerrors.New(\"\")", "cr.In", "assign:ci:=cr.In(0)", "if:(ci.Kind()==reflect.Slice)",
     "assign:flags+=AggregateMessages", "ci.Elem", "assign:ci=ci.Elem()",
     "if:(ci.Kind()!=reflect.Struct)", "return:xerrors.New(\"\")", "if:(ci.NumField()!=2)",
     "return:xerrors.New(\"\")", "if:(ci.Field(0).Type!=reflect.TypeOf(&TreeNode{}))",
     "return:xerrors.New(\"\")", "assign:ptr:=reflect.New(ci.Field(1).Type)", "ptr.Interface",
     "network.RegisterMessage", "assign:typ:=network.RegisterMessage(ptr.Interface())",
     "assign:n.handlers[typ]=c", "assign:n.messageTypeFlags[typ]=flags", "return:nil"] := rfl

theorem c04_shape_TreeNodeInstance_RegisterChannelLength_b2 :
    Shapes.treenode_TreeNodeInstance_RegisterChannelLength_b2 =
   ["uint32", "assign:flags:=uint32(0)", "assign:cr:=reflect.TypeOf(c)",
     "if:(cr.Kind()==reflect.Ptr)", "assign:val:=reflect.ValueOf().Elem()", "val.Set",
     "return:n.RegisterChannel(reflect.Indirect().Interface())", "else",
     "if:reflect.ValueOf().IsNil()", "return:xerrors.New(\"\")", "if:(cr.Kind()!=reflect.Chan)",
     "return:xerrors.New(\"\")", "if:(cr.Elem().Kind()==reflect.Slice)",
     "assign:flags+=AggregateMessages", "cr.Elem", "assign:cr=cr.Elem()",
     "if:(cr.Elem().Kind()!=reflect.Struct)", "return:xerrors.New(\"\")",
     "if:(cr.Elem().NumField()!=2)", "return:xerrors.New(\"\")",
     "if:(cr.Elem().Field(0).Type!=reflect.TypeOf(&TreeNode{}))", "return:xerrors.New(\"\")",
     "assign:m:=reflect.New(cr.Elem().Field(1).Type)", "m.Interface", "network.RegisterMessage",
     "assign:typ:=network.RegisterMessage(m.Interface())", "assign:n.channels[typ]=c",
     "assign:n.messageTypeFlags[typ]=flags", "return:nil"] := rfl

end C04

import OnetVerif.Proofs.C02
import OnetVerif.Model.C04
import OnetVerif.Shapes
/-! Property C02 — handlers only see messages from the authenticated tree member they name.
A run is split once into what `aggregate` releases and the dispatch of each released batch
(`c02_run_is_released_then_verified`); the theorems about runs and about the transport side are read off that split.
`Sound` (most statements write its three conjuncts out), `msgOf`, `accept`, `released` are defined in `Proofs/C02.lean`. -/
namespace C02

/-- the three ways a claimed sender is refused -/
theorem c02_verify_none_iff (nodes : List Node) (m : Msg) :
    verify nodes m = none ↔
      search nodes m.sender = none ∨
      ∃ n p, search nodes m.sender = some n ∧ m.peer = some p ∧ n.server ≠ p := by
  unfold verify
  cases search nodes m.sender with
  | none => exact iff_of_true rfl (.inl rfl)
  | some n =>
    cases m.peer with
    | none => simp only [reduceCtorEq, false_and, and_false, exists_false, or_self]
    | some p =>
      simp only [ite_eq_right_iff, reduceCtorEq, imp_false, Option.some.injEq, exists_and_left, exists_eq_left',
        false_or, ne_eq]

/-- a node id that does not occur in the tree is refused, whoever the peer is -/
theorem c02_unknown_sender_refused (nodes : List Node) (m : Msg)
    (h : ∀ n ∈ nodes, n.id ≠ m.sender) : verify nodes m = none := by
  rw [verify, search_eq_none_iff.mpr h]

/-- a member claiming to be a node hosted by another server is refused -/
theorem c02_impersonation_refused (nodes : List Node) (m : Msg) (p : Nat)
    (hp : m.peer = some p) (h : ∀ n ∈ nodes, n.id = m.sender → n.server ≠ p) :
    verify nodes m = none := by
  refine Option.eq_none_iff_forall_ne_some.mpr fun n hv => ?_
  have hn := verify_some hv
  exact h n hn.1 hn.2.1 (hn.2.2 p hp)

/-- completeness under the weaker premise real trees satisfy (node ids are derived from the server's key, so
nodes with equal ids are hosted by the same server — also in trees that repeat servers, property C12): a
message from a member over that member's connection is accepted, with a node of that id on that server. -/
theorem c02_honest_accepted_same_server (nodes : List Node) (n : Node) (m : Msg)
    (hn : n ∈ nodes) (hid : ∀ a ∈ nodes, ∀ b ∈ nodes, a.id = b.id → a.server = b.server)
    (hs : m.sender = n.id) (hp : m.peer = some n.server) :
    ∃ n', verify nodes m = some n' ∧ n'.id = n.id ∧ n'.server = n.server ∧ n' ∈ nodes := by
  cases hx : search nodes m.sender with
  | none => exact absurd hs.symm (search_eq_none_iff.mp hx n hn)
  | some x =>
    have ⟨hxn, hxid⟩ := search_some hx
    have hxs := hid x hxn n hn (hxid.trans hs)
    refine ⟨x, verify_eq_some_iff.mpr ⟨hx, fun p hp' => ?_⟩, hxid.trans hs, hxs, hxn⟩
    rw [hp] at hp'
    cases hp'
    exact hxs

/-- **completeness**: in a tree with pairwise distinct node ids, a message from a member that
arrives over that member's connection is accepted. -/
theorem c02_honest_accepted (nodes : List Node) (n : Node) (m : Msg)
    (hn : n ∈ nodes) (hid : ∀ a ∈ nodes, ∀ b ∈ nodes, a.id = b.id → a = b)
    (hs : m.sender = n.id) (hp : m.peer = some n.server) : verify nodes m = some n := by
  obtain ⟨n', hv, hid', _, hn'⟩ := c02_honest_accepted_same_server nodes n m hn
    (fun a ha b hb e => congrArg Node.server (hid a ha b hb e)) hs hp
  rw [hv, hid n' hn' n hn hid']

/-- **soundness of one dispatch**: whatever a handler or channel receives, every element names a
node of the instance's tree, that node is the claimed sender, and its server is the peer the
transport attached to the connection the message arrived on. -/
theorem c02_batch_sound (nodes : List Node) (b : List Msg) (xs : List (Node × Msg))
    (h : deliverBatch nodes b = some xs) :
    xs.map Prod.snd = b ∧
    ∀ x ∈ xs, x.1 ∈ nodes ∧ x.1.id = x.2.sender ∧ ∀ p, x.2.peer = some p → x.1.server = p :=
  ⟨(deliverBatch_eq_some h).2, (deliverBatch_eq_some h).1 ▸ (deliverPlain_sound nodes b).1⟩

/-- **no partial or placeholder delivery**: if any element of a batch has a claimed sender that is
not a node of the tree, or a node hosted by another server than the connection's peer, nothing of
the batch is delivered. -/
theorem c02_bad_sender_not_delivered (nodes : List Node) (b : List Msg) (m : Msg) (hm : m ∈ b)
    (hbad : verify nodes m = none) : deliverBatch nodes b = none :=
  deliverBatch_eq_none_iff.mpr ⟨m, hm, hbad⟩

/-- **both dispatch forms, handlers and channels alike**: whatever `dispatch` hands over — one slice with the
whole batch, or the messages one by one — every element is sound. -/
theorem c02_dispatch_sound (i : Inst) (ty : Nat) (b : List Msg) :
    ∀ d ∈ dispatch i ty b, ∀ x ∈ d, Sound i.nodes x :=
  fun _ hd x hx => (deliverPlain_sound i.nodes b).1 x (dispatch_subset i ty b _ hd x hx)

/-- **this model = C04's batches + the sender check**: a run is `aggregate` over the envelopes that carry a sender
token, followed by `dispatch` (the verification) of every released batch, in the order of release; the queues it
leaves are the queues `aggregate` leaves. -/
theorem c02_run_is_released_then_verified (i : Inst) (q : Queues) (ws : List Wire) :
    run i q ws = ((released i q (ws.filterMap msgOf)).2).flatMap (fun p => dispatch i p.1 p.2) ∧
    finalQ i q ws = (released i q (ws.filterMap msgOf)).1 := by
  induction ws generalizing q with
  | nil => exact ⟨rfl, rfl⟩
  | cons w ws ih =>
    rw [run, finalQ, List.filterMap_cons, receive, msgOf]
    cases w.sender with
    | none => exact ih q
    | some s =>
      simp only [Option.map_some, released, List.flatMap_append, (ih _).1, (ih _).2]
      cases (aggregate i q _).2 <;> simp

/-- **every delivery of every run is sound** — for all trees, receiving nodes, aggregated and
plain types, and all sequences of envelopes with arbitrary (claimed sender, peer) pairs. -/
theorem c02_sound (i : Inst) (q : Queues) (ws : List Wire) :
    ∀ d ∈ run i q ws, ∀ x ∈ d,
      x.1 ∈ i.nodes ∧ x.1.id = x.2.sender ∧ ∀ p, x.2.peer = some p → x.1.server = p := by
  intro d hd
  rw [(c02_run_is_released_then_verified i q ws).1] at hd
  obtain ⟨p, _, hd⟩ := List.mem_flatMap.mp hd
  exact c02_dispatch_sound i p.1 p.2 d hd

/-- **nothing is made up**: every message a handler or channel receives is the image of an envelope that
arrived (or was waiting in the queues before) — type, claimed sender, peer identity and payload unchanged. -/
theorem c02_provenance (i : Inst) (q : Queues) (ws : List Wire) :
    ∀ d ∈ run i q ws, ∀ x ∈ d, (∃ w ∈ ws, msgOf w = some x.2) ∨ ∃ t, x.2 ∈ q t := by
  intro d hd x hx
  rw [(c02_run_is_released_then_verified i q ws).1] at hd
  obtain ⟨p, hp, hd⟩ := List.mem_flatMap.mp hd
  have hx2 := (deliverPlain_sound i.nodes p.2).2.subset (List.mem_map_of_mem (dispatch_subset i p.1 p.2 d hd x hx))
  exact (released_provenance i q _ p hp x.2 hx2).imp_left List.mem_filterMap.mp

theorem run_congr (i : Inst) (q : Queues) {ws ws' : List Wire}
    (h : ws.filterMap msgOf = ws'.filterMap msgOf) : run i q ws = run i q ws' := by
  rw [(c02_run_is_released_then_verified i q ws).1, h, ← (c02_run_is_released_then_verified i q ws').1]

/-- **the identity field inside the wire message is not an input**: whatever the sender writes into the
`ServerIdentity` field of the message itself, every run delivers the same — only the identity the
transport attached to the connection (`Wire.peer`) is consulted. -/
theorem c02_wire_identity_ignored (i : Inst) (q : Queues) (ws : List Wire) (f : Wire → Option Nat) :
    run i q (ws.map fun w => { w with claimed := f w }) = run i q ws :=
  run_congr i q (List.filterMap_map ..)

/-- a missing sender token never reaches the handlers -/
theorem c02_missing_sender_refused (i : Inst) (q : Queues) (w : Wire) (h : w.sender = none) :
    receive i q w = (q, []) := by
  simp only [receive, h]

/-- **never in part, never as a placeholder**: if any message of the batch `aggregate` releases has a claimed
sender that is absent from the tree or hosted by another server than its connection's peer, *nothing* of the
batch reaches the handler or channel — in the slice form because the first failure aborts the dispatch, in the
one-by-one form because such a batch is a single message. -/
theorem c02_no_partial_delivery (i : Inst) (q : Queues) (w : Wire) (s : Nat) (b : List Msg)
    (hs : w.sender = some s)
    (hb : (aggregate i q { ty := w.ty, sender := s, peer := w.peer, val := w.val }).2 = some b)
    (hbad : ∃ m ∈ b, verify i.nodes m = none) :
    (receive i q w).2 = [] := by
  obtain ⟨m, hm, hv⟩ := hbad
  simp only [receive, hs, hb, dispatch]
  cases hf : i.agg w.ty with
  | true => simp only [if_true, c02_bad_sender_not_delivered i.nodes b m hm hv, Option.toList_none]
  | false =>
    rw [aggregate_plain i q _ hf] at hb
    cases hb
    cases List.mem_singleton.mp hm
    simp [deliverPlain, hv]

/-- **completeness at the handler, aggregated types**: when the batch `aggregate` releases holds only messages
the tree accepts, the handler or channel receives exactly one slice holding exactly that batch. -/
theorem c02_honest_batch_delivered (i : Inst) (q : Queues) (w : Wire) (s : Nat) (b : List Msg)
    (hs : w.sender = some s) (hf : i.agg w.ty = true)
    (hb : (aggregate i q { ty := w.ty, sender := s, peer := w.peer, val := w.val }).2 = some b)
    (hok : ∀ m ∈ b, (verify i.nodes m).isSome) :
    ∃ xs, (receive i q w).2 = [xs] ∧ xs.map Prod.snd = b := by
  cases hx : deliverBatch i.nodes b with
  | none =>
    obtain ⟨m, hm, hv⟩ := deliverBatch_eq_none_iff.mp hx
    have := hok m hm
    rw [hv] at this
    cases this
  | some xs =>
    exact ⟨xs, by simp only [receive, hs, hb, dispatch, hf, if_true, hx, Option.toList_some],
      (deliverBatch_eq_some hx).2⟩

/-- **completeness at the handler, plain types**: a message of a type registered one by one whose claimed sender
the tree accepts for that peer is handed over at once, alone, with exactly that node. -/
theorem c02_honest_plain_delivered (i : Inst) (q : Queues) (w : Wire) (s : Nat) (n : Node)
    (hs : w.sender = some s) (hf : i.agg w.ty = false)
    (hv : verify i.nodes { ty := w.ty, sender := s, peer := w.peer, val := w.val } = some n) :
    receive i q w = (q, [[(n, { ty := w.ty, sender := s, peer := w.peer, val := w.val })]]) := by
  simp [receive_plain i q w hf, accept, msgOf, hs, hv]

/-- **sound, complete, in order, once — in one statement**: for message types registered one by one, what the
handlers and channels of an instance receive over any sequence of envelopes is exactly the sub-sequence of
envelopes whose claimed sender is a node of the tree hosted by the envelope's peer, each handed over alone, in
arrival order, independently of what is queued for other types. -/
theorem c02_plain_run_is_filter (i : Inst) (q : Queues) (ws : List Wire) (hplain : ∀ w ∈ ws, i.agg w.ty = false) :
    run i q ws = (ws.filterMap (accept i.nodes)).map fun x => [x] := by
  induction ws generalizing q with
  | nil => rfl
  | cons w ws ih =>
    rw [run, receive_plain i q w (hplain w List.mem_cons_self),
      ih q fun w' hw' => hplain w' (List.mem_cons_of_mem w hw'), List.filterMap_cons]
    cases accept i.nodes w <;> rfl

private def nodes4 : List Node := [⟨10, 0⟩, ⟨11, 1⟩, ⟨12, 2⟩, ⟨13, 3⟩]

private def inst : Inst := { nodes := nodes4, parent := some 10, nChildren := 2, agg := fun t => t == 1 }

/-- honest children 12, 13 of node 11: one batch of two; a forged third message is refused -/
example : run inst (fun _ => [])
    [⟨1, some 12, some 2, 7, none⟩, ⟨1, some 13, some 3, 8, none⟩, ⟨3, some 12, some 3, 9, none⟩, ⟨3, none, some 2, 1, none⟩, ⟨3, some 99, some 2, 1, none⟩]
    = [[(⟨12, 2⟩, ⟨1, 12, some 2, 7⟩), (⟨13, 3⟩, ⟨1, 13, some 3, 8⟩)]] := by decide +kernel

/-- one impersonating element poisons the whole aggregated batch: nothing is delivered -/
example : run inst (fun _ => []) [⟨1, some 12, some 2, 7, none⟩, ⟨1, some 13, some 2, 8, none⟩] = [] := by decide +kernel

/-- the hypotheses of `c02_honest_accepted` / `_same_server` are met by this tree -/
example : ∀ a ∈ nodes4, ∀ b ∈ nodes4, a.id = b.id → a = b := by decide +kernel

/-- a tree that repeats a server (and hence a node id): the weaker premise holds, the stronger does not -/
example : let t : List Node := [⟨10, 0⟩, ⟨11, 1⟩, ⟨10, 0⟩]
    (∀ a ∈ t, ∀ b ∈ t, a.id = b.id → a.server = b.server) ∧ verify t ⟨3, 10, some 0, 5⟩ = some ⟨10, 0⟩ := by decide +kernel

/-- non-vacuity: a message claiming node 12 (hosted by server 2) over server 3's connection, with the
wire field saying "server 2", is refused; the honest one is delivered -/
example : run { nodes := [⟨10, 0⟩, ⟨11, 1⟩, ⟨12, 2⟩, ⟨13, 3⟩], parent := some 10, nChildren := 2, agg := fun _ => false }
    (fun _ => []) [{ ty := 3, sender := some 12, peer := some 3, val := 7, claimed := some 2 },
                   { ty := 3, sender := some 12, peer := some 2, val := 8 }]
    = [[(⟨12, 2⟩, ⟨3, 12, some 2, 8⟩)]] := by decide +kernel

/-- non-vacuity of `c02_plain_run_is_filter`: five envelopes of a plain type, two acceptable -/
example : (([⟨3, some 12, some 2, 1, none⟩, ⟨3, some 12, some 3, 2, none⟩, ⟨3, none, some 2, 3, none⟩,
             ⟨3, some 99, some 2, 4, none⟩, ⟨3, some 13, some 3, 5, none⟩] : List Wire).filterMap (accept nodes4))
    = [(⟨12, 2⟩, ⟨3, 12, some 2, 1⟩), (⟨13, 3⟩, ⟨3, 13, some 3, 5⟩)] := by decide +kernel

/-- **the router always names a peer**: an envelope that comes out of `Router.handleConn` or of the send-to-self
shortcut carries an identity — the branch of `createValueAndVerify` that skips the comparison (no identity)
is not reachable from the network. -/
theorem c02_router_always_names_peer (self : Nat) (ident : Nat → Nat) (a : Arrival) :
    (arrive self ident a).peer = some (a.origin self ident) ∧
    (arrive self ident a).sender = a.frame.sender ∧ (arrive self ident a).ty = a.frame.ty ∧
    (arrive self ident a).val = a.frame.val := by
  cases a <;> exact ⟨rfl, rfl, rfl, rfl⟩

/-- **the statement of the property, transport included**: take any set of connections, each set up with some
identity, and any sequence of frames arriving on them (or sent by the server to itself), every field of every
frame chosen by its sender.  Whatever a handler or channel of the instance receives, each element names a node
of the instance's tree, that node is the sender the frame claimed, and the node's server is the identity of the
very connection the frame arrived on. -/
theorem c02_net_sound (i : Inst) (self : Nat) (ident : Nat → Nat) (evs : List Arrival) :
    ∀ d ∈ netRun i self ident (fun _ => []) evs, ∀ x ∈ d,
      x.1 ∈ i.nodes ∧ x.1.id = x.2.sender ∧
      ∃ a ∈ evs, a.frame.sender = some x.2.sender ∧ a.frame.ty = x.2.ty ∧ a.frame.val = x.2.val ∧
                 x.1.server = a.origin self ident := by
  intro d hd x hx
  have ⟨hn, hid, hp⟩ := c02_sound i _ _ d hd x hx
  rcases c02_provenance i _ _ d hd x hx with ⟨w, hw, hm⟩ | ⟨t, ht⟩
  · obtain ⟨a, ha, rfl⟩ := List.mem_map.mp hw
    obtain ⟨hpeer, hsnd, hty, hval⟩ := c02_router_always_names_peer self ident a
    obtain ⟨n, m⟩ := x
    obtain ⟨s, hs, rfl⟩ := Option.map_eq_some_iff.mp hm
    exact ⟨hn, hid, a, ha, hsnd ▸ hs, hty.symm, hval.symm, hp _ hpeer⟩
  · cases ht

/-- **what a server sends to itself is checked like everything else**: an element delivered from a frame the
server sent to itself names a node the server itself hosts -/
theorem c02_self_sent_names_own_node (i : Inst) (self : Nat) (ident : Nat → Nat) (evs : List Arrival)
    (hs : ∀ a ∈ evs, ∃ f, a = .self f) :
    ∀ d ∈ netRun i self ident (fun _ => []) evs, ∀ x ∈ d, x.1.server = self := by
  intro d hd x hx
  obtain ⟨_, _, a, ha, _, _, _, ho⟩ := c02_net_sound i self ident evs d hd x hx
  obtain ⟨f, rfl⟩ := hs a ha
  exact ho

/-- **an instance a peer conjured cannot speak for its node**: a peer can make the server create an instance for
ANY node of the tree (the destination token decides, `TransmitMsg` does not ask whether the server hosts the
node); when that instance — honest protocol code — sends to a node the server does host, the message names the
conjured node as its sender.  If that node is hosted elsewhere, nothing of it reaches a handler or channel. -/
theorem c02_conjured_instance_cannot_speak_for_others (i : Inst) (self : Nat) (ident : Nat → Nat) (j ty v : Nat)
    (h : ∀ n ∈ i.nodes, n.id = j → n.server ≠ self) :
    ∀ d ∈ netRun i self ident (fun _ => []) [localSend j ty v], d = [] := by
  intro d hd
  refine List.eq_nil_iff_forall_not_mem.mpr fun x hx => ?_
  obtain ⟨hm, hid, a, ha, hsnd, _, _, ho⟩ := c02_net_sound i self ident _ d hd x hx
  cases List.mem_singleton.mp ha
  exact h x.1 hm (hid.trans (Option.some.inj hsnd).symm) ho

/-- … and it is delivered when the server does host the node (a tree in which a server hosts several nodes) -/
example : netRun { nodes := [⟨10, 0⟩, ⟨11, 1⟩, ⟨12, 0⟩], parent := none, nChildren := 2, agg := fun _ => false } 0 id
      (fun _ => []) [localSend 12 3 7, localSend 11 3 8]
    = [[(⟨12, 0⟩, ⟨3, 12, some 0, 7⟩)]] := by decide +kernel

/-- **on a TLS connection the stamped identity is the authenticated key**: whatever identity the peer announces,
an accepted connection carries the key its handshake proved -/
theorem c02_tls_setup_identity_is_proven (k a i : Nat) (h : receiveServerIdentity (some k) a = some i) : i = k :=
  have ⟨e, h'⟩ := Option.ite_none_right_eq_some.mp h
  (e.trans (Option.some.inj h')).symm

/-- … and the honest announcement is accepted -/
theorem c02_tls_setup_honest_accepted (k : Nat) : receiveServerIdentity (some k) k = some k :=
  if_pos rfl

/-- **the statement of the property with the connection set-up inside**: every connection `c` is a TLS connection
whose handshake proved the key `key c` and on which the peer announced `ann c`, accepted by `receiveServerIdentity`
as `ident c`.  Every element a handler or channel receives names a node hosted by the server whose key the
connection's handshake proved — whatever was announced. -/
theorem c02_tls_net_sound (i : Inst) (self : Nat) (key ann ident : Nat → Nat) (evs : List Arrival)
    (hid : ∀ c, receiveServerIdentity (some (key c)) (ann c) = some (ident c)) :
    ∀ d ∈ netRun i self ident (fun _ => []) evs, ∀ x ∈ d,
      x.1 ∈ i.nodes ∧ x.1.id = x.2.sender ∧
      ∃ a ∈ evs, a.frame.sender = some x.2.sender ∧ x.1.server = a.origin self key := by
  have e : ident = key := funext fun c => c02_tls_setup_identity_is_proven _ _ _ (hid c)
  subst e
  intro d hd x hx
  obtain ⟨h1, h2, a, ha, h3, _, _, h4⟩ := c02_net_sound i self ident evs d hd x hx
  exact ⟨h1, h2, a, ha, h3, h4⟩

/-- the announcement matters on a plain connection only (that is the residual assumption of this property) -/
example : receiveServerIdentity (some 2) 1 = none ∧ receiveServerIdentity none 1 = some 1 := by decide +kernel

/-- what the frames say about their origin is not an input: the deliveries are the same for every content of
the frames' own identity field -/
theorem c02_frame_identity_ignored (i : Inst) (self : Nat) (ident : Nat → Nat) (q : Queues) (evs : List Arrival)
    (g : Frame → Option Nat) :
    netRun i self ident q (evs.map fun a => match a with
        | .conn c f => .conn c { f with claimed := g f }
        | .self f => .self { f with claimed := g f }) = netRun i self ident q evs := by
  refine run_congr i q ?_
  rw [List.map_map, List.filterMap_map, List.filterMap_map]
  congr 1
  funext a
  cases a <;> rfl

/-- non-vacuity: server 3 claims node 12 (server 2) on its own connection and writes "server 2" into the frame:
refused; server 2 on its own connection: delivered; the receiving server (1) sending to itself as its own node -/
example : netRun { nodes := nodes4, parent := some 10, nChildren := 2, agg := fun _ => false } 1 id (fun _ => [])
    [.conn 3 ⟨3, some 12, some 2, 7⟩, .conn 2 ⟨3, some 12, none, 8⟩, .self ⟨3, some 11, none, 9⟩, .self ⟨3, some 12, none, 9⟩]
    = [[(⟨12, 2⟩, ⟨3, 12, some 2, 8⟩)], [(⟨11, 1⟩, ⟨3, 11, some 1, 9⟩)]] := by decide +kernel

/-- the protocol-message frames of a connection's stream -/
def framesOf : List Item → List Frame
  | [] => []
  | .frame f :: l => f :: framesOf l
  | .ident _ :: l => framesOf l

/-- **a later self-description changes nothing**: whatever the peer sends on an established connection — frames and
`ServerIdentity` messages describing any server, in any order —, the overlay gets exactly the frames, each stamped with
the identity the connection was SET UP with. -/
theorem c02_midconn_identity_ignored (remote : Nat) (items : List Item) :
    handleStream remote items = (framesOf items).map (handleConn remote) := by
  induction items with
  | nil => rfl
  | cons it l ih => cases it <;> simp [handleStream, framesOf, ih]

/-- **the property's statement over such streams**: every element a handler or channel receives from the stream of a
connection names a node of the instance's tree hosted by the server the connection was set up with — whatever
identities the peer announced in between. -/
theorem c02_midconn_sound (i : Inst) (remote : Nat) (items : List Item) :
    ∀ d ∈ run i (fun _ => []) ((handleStream remote items).map process), ∀ x ∈ d,
      x.1 ∈ i.nodes ∧ x.1.id = x.2.sender ∧ x.1.server = remote := by
  have e : (handleStream remote items).map process =
      ((framesOf items).map (Arrival.conn 0)).map (arrive 0 fun _ => remote) := by
    rw [c02_midconn_identity_ignored, List.map_map, List.map_map]; rfl
  rw [e]
  intro d hd x hx
  obtain ⟨hn, hid, a, ha, _, _, _, ho⟩ := c02_net_sound i 0 (fun _ => remote) _ d hd x hx
  obtain ⟨f, _, rfl⟩ := List.mem_map.mp ha
  exact ⟨hn, hid, ho⟩

/-- **negation witness for the router that follows the peer's later self-descriptions** (seeded C02r7-A): member 2
connects honestly, announces itself again as member 1, names member 1's node — the handler receives the message
"from node 11", hosted by server 1, over a connection that was set up (on TLS: proved) as server 2. -/
theorem c02_midconn_adopt_variant_spoofs :
    let i : Inst := { nodes := [⟨10, 0⟩, ⟨11, 1⟩, ⟨12, 2⟩], parent := none, nChildren := 2, agg := fun _ => false }
    let items : List Item := [.ident 1, .frame { ty := 3, sender := some 11, claimed := none, val := 7 }]
    run i (fun _ => []) ((handleStreamAdopt 2 items).map process) = [[(⟨11, 1⟩, { ty := 3, sender := 11, peer := some 1, val := 7 })]] ∧
    run i (fun _ => []) ((handleStream 2 items).map process) = [] := by
  decide +kernel

/-- every delivery is sound also when the overlay drives the instance: for every sequence of arriving envelopes,
arrival of the tree (parked envelopes re-enter) and re-registration of the tree, from every state, each delivered
element names a node of the tree with the claimed id, hosted by the connection's peer where a peer is known. -/
theorem c02_sound_ops (i : Inst) (s : St) (ops : List Op) :
    ∀ d ∈ opRun i s ops, ∀ x ∈ d,
      x.1 ∈ i.nodes ∧ x.1.id = x.2.sender ∧ ∀ p, x.2.peer = some p → x.1.server = p := by
  induction ops generalizing s with
  | nil => exact List.forall_mem_nil _
  | cons o ops ih =>
    intro d hd
    obtain ⟨ws, hws⟩ := opStep_out i s o
    rw [opRun, hws] at hd
    rcases List.mem_append.mp hd with hd | hd
    · exact c02_sound i s.q ws d hd
    · exact ih _ d hd

/-- nothing is delivered while the tree is unknown; what was parked is judged by the same rule when the tree
arrives, in arrival order -/
theorem c02_parked_then_flushed (i : Inst) (q : Queues) (ws : List Wire) :
    opRun i { q := q, parked := some [] } (ws.map Op.msg ++ [.treeArrives]) = run i q ws :=
  opRun_parked i q [] ws

/-- non-vacuity of `c02_sound_ops` / `c02_parked_then_flushed`: two envelopes arrive before the tree, one forged;
nothing is delivered until the tree arrives, then the honest one is -/
example : opRun { nodes := nodes4, parent := some 10, nChildren := 2, agg := fun _ => false } { parked := some [] }
    [.msg ⟨3, some 12, some 3, 1, none⟩, .msg ⟨3, some 12, some 2, 2, none⟩, .treeArrives, .rereg,
     .msg ⟨3, some 13, some 3, 3, none⟩]
    = [[(⟨12, 2⟩, ⟨3, 12, some 2, 2⟩)], [(⟨13, 3⟩, ⟨3, 13, some 3, 3⟩)]] := by decide +kernel

/-- **membership is membership in the instance's own tree**: on a server whose store holds arbitrary other
trees (same root server, overlapping members, nodes with the claimed id …), every delivered element names a
node of the tree stored under the instance's tree id. -/
theorem c02_store_membership (s : Store) (tid : Nat) (par : Option Nat) (k : Nat) (agg : Nat → Bool)
    (nodes : List Node) (hget : s.get tid = some nodes) (q : Queues) (ws : List Wire) :
    ∀ d ∈ run (instOf s tid par k agg) q ws, ∀ x ∈ d,
      x.1 ∈ nodes ∧ x.1.id = x.2.sender ∧ ∀ p, x.2.peer = some p → x.1.server = p :=
  instOf_nodes hget par k agg ▸ c02_sound (instOf s tid par k agg) q ws

/-- the other entries of the store are not an input of the instance -/
theorem c02_other_trees_irrelevant (s s' : Store) (tid : Nat) (par : Option Nat) (k : Nat) (agg : Nat → Bool)
    (h : s.get tid = s'.get tid) : instOf s tid par k agg = instOf s' tid par k agg := by
  rw [instOf, h, instOf]

/-- a member of another stored tree that is not a member of the instance's tree is refused — also over its own
connection, also when the two trees have the same root -/
theorem c02_member_of_other_stored_tree_refused (s : Store) (tid tid' : Nat) (par : Option Nat) (k : Nat)
    (agg : Nat → Bool) (nodes other : List Node) (n : Node) (m : Msg)
    (hget : s.get tid = some nodes) (_hother : s.get tid' = some other) (_hn : n ∈ other)
    (_hs : m.sender = n.id) (_hp : m.peer = some n.server)
    (hnot : ∀ a ∈ nodes, a.id ≠ n.id) :
    verify (instOf s tid par k agg).nodes m = none := by
  rw [instOf_nodes hget]
  exact c02_unknown_sender_refused nodes m (_hs ▸ hnot)

/-- non-vacuity: the store holds the instance's tree (id 0) and a tree with the same root (server 0) that also
has server 8; server 8 naming its own node over its own connection is refused, a member is accepted -/
example :
    let s : Store := [(0, nodes4), (5, [⟨10, 0⟩, ⟨18, 8⟩])]
    run (instOf s 0 (some 10) 2 (fun _ => false)) (fun _ => [])
      [⟨3, some 18, some 8, 1, none⟩, ⟨3, some 12, some 2, 2, none⟩] = [[(⟨12, 2⟩, ⟨3, 12, some 2, 2⟩)]] := by decide +kernel

/-! ### this model's `aggregate` is property C04's

C02 carries its own copy of `TreeNodeInstance.aggregate` (over messages that still name their claimed sender and
peer).  Seen through the map that forgets the peer and turns "claimed sender = my parent" into C04's "from the
parent", it is C04's function step for step — so everything C04 proves about batches (one per round, complete,
types and rounds never mixed) holds for the batches this model verifies. -/

def toC04Cfg (i : Inst) : C04.Cfg := { isRoot := i.parent.isNone, nChildren := i.nChildren, agg := i.agg }

def toC04Msg (i : Inst) (m : Msg) : C04.Msg :=
  { ty := m.ty, src := if i.parent = some m.sender then none else some m.sender, val := m.val }

/-- one step of this model's `aggregate`, seen through `toC04Msg`, is one step of C04's `aggregate` on the mapped
queues and the mapped message: the same queues afterwards, the same released batch. -/
theorem c02_aggregate_refines_c04 (i : Inst) (q : Queues) (m : Msg) :
    C04.aggregate (toC04Cfg i) (fun t => (q t).map (toC04Msg i)) (toC04Msg i m) =
      ((fun t => ((aggregate i q m).1 t).map (toC04Msg i)), (aggregate i q m).2.map (List.map (toC04Msg i))) := by
  have hl : (q m.ty).map (toC04Msg i) ++ [toC04Msg i m] = (q m.ty ++ [m]).map (toC04Msg i) := by
    rw [List.map_append]; rfl
  have hu : ∀ l, (fun t => if t = m.ty then l.map (toC04Msg i) else (q t).map (toC04Msg i)) =
      fun t => (if t = m.ty then l else q t).map (toC04Msg i) :=
    fun l => funext fun t => by split <;> rfl
  have hb : C04.bypass (toC04Cfg i) (toC04Msg i m) = ((i.parent == some m.sender) || !i.agg m.ty) := by
    unfold C04.bypass C04.fromParent toC04Cfg toC04Msg
    cases i.parent with
    | none => rfl
    | some p => by_cases e : p = m.sender <;> simp [e]
  unfold C04.aggregate
  rw [hb]
  dsimp only
  rw [show (toC04Msg i m).ty = m.ty from rfl, hl, List.length_map]
  fun_cases aggregate i q m
  · next h => rw [if_pos h]; rfl
  · next h1 _ h2 => rw [if_neg h1]; exact (if_pos h2).trans (congrArg (·, _) (hu []))
  · next h1 _ h2 => rw [if_neg h1]; exact (if_neg h2).trans (congrArg (·, _) (hu _))

/-- … and the released batches are, message for message, the batches of C04's model over the same arrivals
(with "claimed sender = my parent" read as "from the parent"): every theorem of C04 about which batches exist —
one per round, complete, never mixed — is a theorem about the batches this model verifies. -/
theorem c02_released_refines_c04 (i : Inst) (q : Queues) (l : List Msg) :
    C04.run (toC04Cfg i) (fun t => (q t).map (toC04Msg i)) (l.map (toC04Msg i)) =
      ((fun t => ((released i q l).1 t).map (toC04Msg i)),
       (released i q l).2.map fun p => p.2.map (toC04Msg i)) := by
  induction l generalizing q with
  | nil => rfl
  | cons m l ih =>
    rw [List.map_cons, C04.run, c02_aggregate_refines_c04, released]
    dsimp only
    rw [ih]
    cases (aggregate i q m).2 <;> rfl

/-- the documented boundary for trees that repeat servers (property C12's known finding; node ids derive from
the server's key): a child hosted by the server of the receiver's parent has the parent's node id, `aggregate`
tells "from the parent" by that id, so the child's message of an aggregated type is released alone and the
batch of its siblings stays incomplete. The sender check itself is unaffected (the node is a member hosted by
the connection's peer). -/
theorem c02_child_with_parents_id_bypasses :
    run { nodes := [⟨10, 0⟩, ⟨11, 1⟩, ⟨12, 2⟩, ⟨10, 0⟩], parent := some 10, nChildren := 2, agg := fun t => t == 1 }
      (fun _ => []) [⟨1, some 12, some 2, 7, none⟩, ⟨1, some 10, some 0, 8, none⟩]
    = [[(⟨10, 0⟩, ⟨1, 10, some 0, 8⟩)]] := by decide +kernel

/-! ### the code regions the model stands for
Regenerated from /repo's source on every run (`harness/cmd/astfacts` → `OnetVerif/Shapes.lean`): the
calls that matter for synchronisation and data flow, the lock regions and (for decision logic) the
conditions, in source order.  A re-ordering, a dropped call or a changed condition breaks these
obligations even when no sampled input or schedule shows a difference; the check then searches for
a failing input. -/

theorem c02_shape_TreeNodeInstance_createValueAndVerify :
    Shapes.treenode_TreeNodeInstance_createValueAndVerify =
   ["n.Tree", "if:(t!=nil)", "tr.Search", "if:(tn==nil)", "return:m,xerrors.New(\"\")",
     "m.Field", "Field().Set", "m.Field", "Field().Set",
     "if:(((msg.ServerIdentity!=nil)&&(tn!=nil))&&!tn.ServerIdentity.Equal(msg.ServerIdentity))",
     "return:m,xerrors.Errorf(\"\",tn.ServerIdentity,msg.ServerIdentity)", "return:m,nil"] := rfl

theorem c02_shape_TreeNodeInstance_dispatchHandler :
    Shapes.treenode_TreeNodeInstance_dispatchHandler =
   ["n.hasFlag", "to.Elem", "n.createValueAndVerify", "msgs.Index", "Index().Set", "f.Call",
     "errV.IsValid", "errV.IsNil", "n.createValueAndVerify", "f.Call", "errV.IsNil"] := rfl

theorem c02_shape_TreeNodeInstance_dispatchChannel :
    Shapes.treenode_TreeNodeInstance_dispatchChannel =
   ["defer{", "}", "n.hasFlag", "to.Elem", "to.Elem", "n.createValueAndVerify", "out.Index",
     "Index().Set", "to.Elem", "n.createValueAndVerify", "out.Len", "out.Cap",
     "msgDispatchQueueMutex.Lock", "msgDispatchQueueMutex.Unlock", "out.Send"] := rfl

theorem c02_shape_TreeNodeInstance_dispatchMsgToProtocol :
    Shapes.treenode_TreeNodeInstance_dispatchMsgToProtocol =
   ["rx.add", "n.aggregate", "n.dispatchChannel", "n.dispatchHandler"] := rfl

theorem c02_shape_Overlay_Process :
    Shapes.overlay_Overlay_Process =
   ["MsgType.Equal", "o.handleConfigMessage", "protoIO.getByPacketType", "io.Unwrap",
     "o.handleRequestTree", "o.handleSendTree", "o.handleSendTreeMarshal",
     "o.handleRequestRoster", "o.handleSendRoster", "network.MessageType", "o.TransmitMsg"] := rfl

theorem c02_shape_TreeNodeInstance_Tree :
    Shapes.treenode_TreeNodeInstance_Tree =
   ["treeStorage.Get", "if:(tree==nil)", "return:tree"] := rfl

theorem c02_shape_Tree_Search :
    Shapes.tree_Tree_Search =
   ["if:tns.ID.Equal(tn)", "Root.Visit", "return:ret"] := rfl

theorem c02_shape_struct_ServerIdentity_Equal :
    Shapes.network_struct_ServerIdentity_Equal =
   ["if:((((si==nil)||(e2==nil))||(si.Public==nil))||(e2.Public==nil))", "return:false",
     "return:si.Public.Equal(e2.Public)"] := rfl

theorem c02_shape_TreeNodeInstance_createValueAndVerify_b2 :
    Shapes.treenode_TreeNodeInstance_createValueAndVerify_b2 =
   ["assign:m:=reflect.Indirect(reflect.New(t))", "n.Tree", "assign:tr:=n.Tree()", "if:(t!=nil)",
     "tr.Search", "assign:tn:=tr.Search(msg.From.TreeNodeID)", "if:(tn==nil)",
     "return:m,xerrors.New(\"\")", "m.Field", "Field().Set", "m.Field", "Field().Set",
     "if:(((msg.ServerIdentity!=nil)&&(tn!=nil))&&!tn.ServerIdentity.Equal(msg.ServerIdentity))",
     "return:m,xerrors.Errorf(\"\",tn.ServerIdentity,msg.ServerIdentity)", "return:m,nil"] := rfl

theorem c02_shape_TreeNodeInstance_Tree_b2 :
    Shapes.treenode_TreeNodeInstance_Tree_b2 =
   ["treeStorage.Get", "assign:tree:=n.overlay.treeStorage.Get(n.token.TreeID)",
     "if:(tree==nil)", "return:tree"] := rfl

theorem c02_shape_Tree_Search_b2 :
    Shapes.tree_Tree_Search_b2 =
   ["if:tns.ID.Equal(tn)", "assign:ret=tns", "assign:found:=func", "Root.Visit", "return:ret"] := rfl

theorem c02_shape_Overlay_Process_b2 :
    Shapes.overlay_Overlay_Process_b2 =
   ["if:env.MsgType.Equal(ConfigMsgID)", "o.handleConfigMessage", "return:",
     "protoIO.getByPacketType", "assign:io:=o.protoIO.getByPacketType(env.MsgType)", "io.Unwrap",
     "assign:inner,info,err:=io.Unwrap(env.Msg)", "if:(err!=nil)", "return:", "switch:{",
     "case:(info.RequestTree!=nil)", "o.handleRequestTree", "case:(info.ResponseTree!=nil)",
     "o.handleSendTree", "case:(info.TreeMarshal!=nil)", "o.handleSendTreeMarshal",
     "case:(info.RequestRoster!=nil)", "o.handleRequestRoster", "case:(info.Roster!=nil)",
     "o.handleSendRoster", "default", "network.MessageType",
     "assign:typ:=network.MessageType(inner)",
     "assign:protoMsg:=&ProtocolMsg{From:info.TreeNodeInfo.From,To:info.TreeNodeInfo.To,ServerIdentity:env.ServerIdentity,Msg:inner,MsgType:typ,Size:env.Size}",
     "o.TransmitMsg", "assign:err=o.TransmitMsg(protoMsg,io)", "if:(err!=nil)", "}"] := rfl

theorem c02_shape_router_Router_handleConn_b2 :
    Shapes.network_router_Router_handleConn_b2 =
   ["defer{", "c.Close", "assign:err:=c.Close()", "if:(err!=nil)", "c.Rx", "c.Tx",
     "assign:rx,tx:=c.Rx(),c.Tx()", "traffic.updateRx", "traffic.updateTx", "wg.Done",
     "r.removeConnection", "verifC10Point", "}", "verifC10Point", "c.Remote",
     "assign:address:=c.Remote()", "for:{", "c.Receive", "assign:packet,err:=c.Receive()",
     "verifC10Point", "r.Lock", "assign:paused:=r.paused", "r.Unlock", "if:(paused!=nil)",
     "recv:paused", "return:", "if:r.Closed()",
     "return:", "if:(err!=nil)", "if:xerrors.Is(err,ErrTimeout)",
     "r.triggerConnectionErrorHandlers", "return:",
     "if:(xerrors.Is(err,ErrClosed)||xerrors.Is(err,ErrEOF))",
     "r.triggerConnectionErrorHandlers", "return:", "if:xerrors.Is(err,ErrUnknown)",
     "r.triggerConnectionErrorHandlers", "return:", "continue",
     "assign:packet.ServerIdentity=remote", "verifC10Point", "msgTraffic.updateRx", "r.Dispatch",
     "assign:err:=r.Dispatch(packet)", "if:(err!=nil)", "}"] := rfl

theorem c02_shape_router_Router_Send_b2 :
    Shapes.network_router_Router_Send_b2 =
   ["range:_,msg:=msgs{", "if:(msg==nil)", "return:0,xerrors.New(\"\")", "}",
     "if:(len(msgs)==0)", "return:0,xerrors.New(\"\")", "msgTraffic.updateTx",
     "if:e.GetID().Equal(r.ServerIdentity.GetID())", "range:_,msg:=msgs{", "MessageType",
     "assign:packet:=&Envelope{ServerIdentity:e,MsgType:MessageType(msg),Msg:msg}", "r.Dispatch",
     "assign:err:=r.Dispatch(packet)", "if:(err!=nil)", "return:0,xerrors.Errorf(\"\",err)",
     "Marshal", "assign:b,err:=Marshal(msg)", "if:(err!=nil)",
     "return:0,xerrors.Errorf(\"\",err)", "assign:sent+=uint64(len(b))", "}", "return:sent,nil",
     "e.GetID", "r.connection", "assign:c:=r.connection(e.GetID())", "if:(c==nil)", "r.connect",
     "assign:c,sentLen,err=r.connect(e)", "assign:totSentLen+=sentLen", "if:(err!=nil)",
     "return:totSentLen,xerrors.Errorf(\"\",err)", "range:_,msg:=msgs{", "c.Send",
     "assign:sentLen,err:=c.Send(msg)", "assign:totSentLen+=sentLen", "if:(err!=nil)",
     "r.connect", "assign:c,sentLen,err:=r.connect(e)", "assign:totSentLen+=sentLen",
     "if:(err!=nil)", "return:totSentLen,xerrors.Errorf(\"\",err)", "c.Send",
     "assign:sentLen,err=c.Send(msg)", "assign:totSentLen+=sentLen", "if:(err!=nil)",
     "return:totSentLen,xerrors.Errorf(\"\",err)", "}", "return:totSentLen,nil"] := rfl

theorem c02_shape_struct_ServerIdentity_Equal_b2 :
    Shapes.network_struct_ServerIdentity_Equal_b2 =
   ["if:((((si==nil)||(e2==nil))||(si.Public==nil))||(e2.Public==nil))", "return:false",
     "return:si.Public.Equal(e2.Public)"] := rfl

theorem c02_shape_treeStorage_Get_b2 :
    Shapes.treestorage_treeStorage_Get_b2 =
   ["ts.Lock", "defer:ts.Unlock", "return:ts.trees[id]"] := rfl

theorem c02_shape_router_Router_receiveServerIdentity_b2 :
    Shapes.network_router_Router_receiveServerIdentity_b2 =
   ["c.Receive", "assign:nm,err:=c.Receive()", "if:(err!=nil)",
     "return:nil,xerrors.Errorf(\"\",err)", "if:(nm.MsgType!=ServerIdentityType)",
     "return:nil,xerrors.Errorf(\"\",nm.MsgType.String())",
     "assign:dst:=nm.Msg.(ServerIdentity)", "assign:tcpConn,ok:=c.(TCPConn)", "if:ok",
     "assign:tlsConn,ok:=tcpConn.conn.(tls.Conn)", "if:ok", "tlsConn.ConnectionState",
     "assign:cs:=tlsConn.ConnectionState()", "if:(len(cs.PeerCertificates)==0)",
     "return:nil,xerrors.New(\"\")", "pubFromCN",
     "assign:pub,err:=pubFromCN(tcpConn.suite,cs.PeerCertificates[0].Subject.CommonName)",
     "if:(err!=nil)", "return:nil,xerrors.Errorf(\"\",err)", "if:!pub.Equal(dst.Public)",
     "return:nil,xerrors.New(\"\")", "else", "if:!r.UnauthOk", "return:dst,nil"] := rfl

end C02

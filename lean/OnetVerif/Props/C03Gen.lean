import OnetVerif.Model.C03
import OnetVerif.Gen.C03
import OnetVerif.Proofs.Lists
/-! Property C03 — the conditions regenerated from the Go source (`Gen/C03.lean`, written by `harness/cmd/go2lean` on
every check run from `network/tcp.go` and `network/encoding.go`).  `receiveRawProd` and `sendRaw` read and write a socket and cannot be
translated as functions; their **decisions** are lifted out as predicates over the variables they read
(`"extract"` in `meta/go2lean.json`): the size test of the header against `MaxPacketSize`, the loop condition of the
body read, the loop condition of the body write.  The model (`recvFrame`) takes the limit as its parameter `max`.
`typeRegistry.get` / `put` of `encoding.go` are translated as functions and shown to be the model's `Registry.get` / `put`.
Nothing imports this file. -/
namespace C03

/-- the three conditions as read from the source: strictly greater than the limit; as long as fewer bytes than
announced have been read / written -/
theorem c03_gen_conditions (total max read sent size : Nat) :
    Gen.C03.receiveRawProd_tooBig total max = decide (total > max) ∧
    Gen.C03.receiveRawProd_moreToRead read total = decide (read < total) ∧
    Gen.C03.sendRaw_moreToWrite sent size = decide (sent < size) := ⟨rfl, rfl, rfl⟩

/-- **the size test of the model is the translated one**: once the four header bytes are there, `recvFrame` refuses
the frame exactly when the translated test of the announced size against the limit says so (a frame of exactly
`max` bytes is accepted), and otherwise goes on to read exactly the announced number of bytes -/
theorem c03_gen_recvFrame_size_test (max : Nat) (c c1 : Segs) (hdr : List Nat)
    (h : readExact 4 c 4 [] = (some hdr, c1)) :
    recvFrame max c =
      if Gen.C03.receiveRawProd_tooBig (unbe32 hdr) max then (.error .tooBig, c1)
      else match readExact (unbe32 hdr) c1 (unbe32 hdr) [] with
        | (none, c2) => (.error .eof, c2)
        | (some b, c2) => (.ok b, c2) := by
  unfold recvFrame Gen.C03.receiveRawProd_tooBig
  rw [h]
  by_cases hm : unbe32 hdr > max
  · simp [hm]
  · simp only [hm, if_false, decide_false, Bool.false_eq_true]
    rcases readExact (unbe32 hdr) c1 (unbe32 hdr) [] with ⟨_ | b, c2⟩ <;> rfl

/-- the boundary: a frame of exactly the limit passes the test, one byte more does not -/
theorem c03_gen_limit_boundary (max : Nat) :
    Gen.C03.receiveRawProd_tooBig max max = false ∧ Gen.C03.receiveRawProd_tooBig (max + 1) max = true := by
  simp [Gen.C03.receiveRawProd_tooBig]

/-! ### the type registry (`encoding.go` `typeRegistry.get` / `put`, translated as functions) -/

theorem lookup_eq_find (r : Registry) (id : List Nat) :
    List.lookup id r = (r.find? (fun e => e.1 == id)).map (·.2) := by
  rw [List.lookup_eq_findSome?, ← List.findSome?_ite]
  exact congrArg (List.findSome? · r) (funext fun e => by rw [BEq.comm])

/-- **the registry of the model is the translated one**: on the table `newTypeRegistry` makes (a non-nil map),
`registry.get` as translated from the source returns the model's `Registry.get` (with Go's comma-ok pair: the zero
type and `false` for an unknown id), and `registry.put` is the model's `Registry.put` — the latest registration of
an id is the one found (`c03_registry_last_wins` is about exactly this table) and `put` never panics.
(Falsified by: a `put` that keeps the first registration, a `get` on another table or key.) -/
theorem c03_gen_registry (r : Registry) (id : List Nat) (t : GoType) :
    Gen.C03.typeRegistry_get ⟨some r⟩ id = ((r.get id).getD ⟨[], 0⟩, (r.get id).isSome) ∧
    Gen.C03.typeRegistry_put ⟨some r⟩ id t = some ⟨some (r.put id t)⟩ := by
  refine ⟨?_, rfl⟩
  simp only [Gen.C03.typeRegistry_get, Gen.Rt.Map.find, Option.getD_some, Registry.get, lookup_eq_find]

/-- … and therefore a registration followed by a look-up of the same id finds the type just registered, whatever was
registered before — on the translated functions -/
theorem c03_gen_put_get (r : Registry) (id : List Nat) (t : GoType) :
    (Gen.C03.typeRegistry_put ⟨some r⟩ id t).map (fun tr => Gen.C03.typeRegistry_get tr id) = some (t, true) := by
  simp [Gen.C03.typeRegistry_put, Gen.Rt.Map.insert?, Gen.C03.typeRegistry_get, Gen.Rt.Map.find]

end C03

import OnetVerif.Proofs.C03Wire
import OnetVerif.Proofs.C03Frame
import OnetVerif.Proofs.C03Send
import OnetVerif.Proofs.C03Codec
import OnetVerif.Shapes
/-! Property C03 — wire integrity: values, framing and order survive any segmentation.
Property theorems (`c03_…`), witnesses and non-vacuity examples.  The words of the statements that are not in
`Model/C03*.lean` are defined in `Proofs/C03*.lean`. -/
namespace C03

/-- **the length header round-trips** for every length a `uint32` can hold -/
theorem c03_be32_roundtrip (n : Nat) (h : n < 2^32) : unbe32 (be32 n) = n := unbe32_be32 n h

/-- **framing round trip under every segmentation**: for every limit, every list of frames within
the limit and every way the transport may cut the byte stream, `receiveRaw` yields exactly those
frames, in order, then EOF. -/
theorem c03_frame_roundtrip (max : Nat) (hmax : max < 2^32) (frames : List (List Nat))
    (hf : ∀ f ∈ frames, f.length ≤ max) (c : Segs) (hc : c.flatten = wire frames)
    (fuel : Nat) (hfuel : frames.length + 1 ≤ fuel) :
    recvFrames max fuel c = (frames, some .eof) :=
  recvFrames_wire max hmax frames [] .eof hf (endsWith_nil max) fuel hfuel c (by rw [hc, List.append_nil])

/-- **refinement**: `handleConn` over `receiveRawProd` over `conn.Read`, fed by *any* list of segments,
computes the byte-stream parser on their concatenation — for every stream, well-formed or not. -/
theorem c03_loop_refines_parser {V : Type} (cd : Codec V) (max fuel : Nat) (c : Segs) :
    recvLoop cd max fuel c = specLoop cd max fuel c.flatten := by
  induction fuel generalizing c with
  | zero => rfl
  | succ fuel ih =>
    obtain ⟨r, c', hr⟩ := recvFrame_pair max c
    have hs := recvFrame_spec max c
    rw [hr] at hs
    cases r with
    | error e => rw [recvLoop_err cd max fuel c c' e hr, specLoop_err cd max fuel _ e hs.1.symm]
    | ok b => rw [recvLoop_ok cd max fuel c c' b hr, specLoop_ok cd max fuel _ b hs.1.symm, ih c', hs.2 b rfl]

/-- **segmentation is irrelevant**: the whole behaviour of the receive loop — what is delivered,
what is refused, in which order, how the connection ends — is a function of the bytes sent, not of
how the transport cut them. Holds for every stream, well-formed or not. -/
theorem c03_segmentation_irrelevant {V : Type} (cd : Codec V) (max fuel : Nat) (c d : Segs)
    (h : c.flatten = d.flatten) : recvLoop cd max fuel c = recvLoop cd max fuel d := by
  rw [c03_loop_refines_parser, c03_loop_refines_parser, h]

/-- **causality (prefix monotonicity), for every byte stream**: cut a stream anywhere — inside a
header, inside a body, between frames, in the middle of garbage — and what the loop does up to its
final close is a prefix of what it does on the uncut stream.  Nothing that arrives later changes,
reorders or withdraws what was already delivered or refused. -/
theorem c03_prefix_monotone {V : Type} (cd : Codec V) (max fuel : Nat) (c d : Segs) (k : Nat)
    (h : d.flatten = c.flatten.take k) :
    (recvLoop cd max fuel d).dropLast <+: recvLoop cd max fuel c := by
  rw [c03_loop_refines_parser, c03_loop_refines_parser, h]
  exact specLoop_take cd max fuel c.flatten k

/-- **envelope round trip** under the codec hypothesis: what `Marshal` produces, `Unmarshal` turns
back into the same value (same type, since the type id is part of the buffer). -/
theorem c03_marshal_roundtrip {V : Type} (cd : Codec V) (hcd : cd.Sound) (v : V) (b : List Nat)
    (h : marshal cd v = some b) : unmarshal cd b = .ok v := by
  unfold marshal at h
  split at h
  · obtain rfl := Option.some.inj h
    exact unmarshal_bufOf cd hcd v ‹_›
  · cases h

/-- **garbage is total, `Unmarshal`**: every byte string is answered with a value or with one of three errors, none
of which ends the connection -/
theorem c03_garbage_unmarshal {V : Type} (cd : Codec V) (buf : List Nat) :
    (∃ v, unmarshal cd buf = .ok v) ∨
    (∃ e, unmarshal cd buf = .error e ∧ (e = .short ∨ e = .unknownType ∨ e = .decode) ∧
      fatal (sentinelOf e) = false) := by
  rw [unmarshal]
  by_cases h1 : buf.length < 16
  · rw [if_pos h1]; exact .inr ⟨_, rfl, .inl rfl, rfl⟩
  · rw [if_neg h1]
    by_cases h2 : cd.registered (buf.take 16) = true
    · rw [if_pos h2]
      cases cd.dec (buf.take 16) (buf.drop 16) with
      | some v => exact .inl ⟨v, rfl⟩
      | none => exact .inr ⟨_, rfl, .inr (.inr rfl), rfl⟩
    · rw [if_neg h2]; exact .inr ⟨_, rfl, .inr (.inl rfl), rfl⟩

/-- **values arrive equal, in order, without loss or duplication (TCP)**: for every sequence of
sendable values whose buffers respect the receiver's limit and every segmentation of what the
sender wrote, the receiving router dispatches exactly those values in sending order, then sees the
peer's close. -/
theorem c03_value_delivery {V : Type} (cd : Codec V) (hcd : cd.Sound) (max : Nat) (hmax : max < 2^32)
    (vs : List V) (hv : ∀ v ∈ vs, cd.sendable v = true ∧ (bufOf cd v).length ≤ max)
    (c : Segs) (hc : c.flatten = wire (vs.map (bufOf cd))) :
    recvAll cd max c = vs.map .deliver ++ [.closed .eof] := by
  rw [recvAll_frames cd max hmax (vs.map (bufOf cd)) [] .eof
    (List.forall_mem_map.mpr fun v h => (hv v h).2)
    (endsWith_nil max) c (by rw [hc, List.append_nil]),
    map_classify_bufOf cd hcd vs fun v h => (hv v h).1]

/-- **the same on the in-memory transport** (whole buffers, no limit) -/
theorem c03_value_delivery_local {V : Type} (cd : Codec V) (hcd : cd.Sound)
    (vs : List V) (hv : ∀ v ∈ vs, cd.sendable v = true) :
    localLoop cd (vs.map (bufOf cd)) = vs.map .deliver ++ [.closed .closed] := by
  rw [localLoop, map_classify_bufOf cd hcd vs hv]

/-- **garbage is total, the receive loop**: on *every* byte stream under *every* segmentation the loop
terminates (the default fuel is never exhausted) with exactly one close — by EOF or by the
too-big rule — after finitely many deliveries/refusals; there is no other outcome (no crash state
exists in the model: every error of `Receive` is classified by `react`). -/
theorem c03_garbage_total {V : Type} (cd : Codec V) (max : Nat) (c : Segs) :
    ∃ evs e, recvAll cd max c = evs ++ [.closed e] ∧ (e = .eof ∨ e = .tooBig) ∧
      ∀ x ∈ evs, x.isClosed = false := by
  obtain ⟨fs, e, hr, he⟩ := recvFrames_total max (inflight c + 1) c (Nat.lt_succ_self _)
  exact ⟨fs.map (classify cd), e, by rw [recvAll, recvLoop_eq_frames, hr, closing_some], he,
    List.forall_mem_map.mpr fun b _ => classify_not_closed cd b⟩

/-- **a refused frame is isolated**: a frame the receiver cannot use (too short for a type id,
unknown type, undecodable body) costs exactly that frame — everything before and after it is
received intact, in order, under every segmentation. -/
theorem c03_refused_frame_isolated {V : Type} (cd : Codec V) (max : Nat) (hmax : max < 2^32)
    (pre post : List (List Nat)) (bad : List Nat) (e : RecvErr)
    (hbad : unmarshal cd bad = .error e)
    (hf : ∀ f ∈ pre ++ bad :: post, f.length ≤ max)
    (c : Segs) (hc : c.flatten = wire (pre ++ bad :: post)) :
    recvAll cd max c =
      pre.map (classify cd) ++ .refused e :: post.map (classify cd) ++ [.closed .eof] := by
  rw [recvAll_frames cd max hmax (pre ++ bad :: post) [] .eof hf (endsWith_nil max) c
    (by rw [hc, List.append_nil]), List.map_append, List.map_cons, classify_error cd bad e hbad,
    List.append_assoc]

/-- **an over-limit frame closes the connection** (the repaired behaviour): everything sent before
it is delivered/classified intact, the connection is closed at the oversize header, and *nothing
after the header is ever interpreted* — the events do not depend on the bytes that follow. -/
theorem c03_oversize_closes {V : Type} (cd : Codec V) (max : Nat) (hmax : max < 2^32)
    (frames : List (List Nat)) (n : Nat) (junk : List Nat)
    (hf : ∀ f ∈ frames, f.length ≤ max) (hn : max < n) (h32 : n < 2^32)
    (c : Segs) (hc : c.flatten = wire frames ++ (be32 n ++ junk)) :
    recvAll cd max c = frames.map (classify cd) ++ [.closed .tooBig] :=
  recvAll_frames cd max hmax frames (be32 n ++ junk) .tooBig hf
    (endsWith_oversize max n junk hn h32) c hc

/-- a connection cut in the middle of a frame: the complete frames before the cut are received,
the partial one is dropped, the connection ends with EOF -/
theorem c03_truncated_stream {V : Type} (cd : Codec V) (max : Nat) (hmax : max < 2^32)
    (frames : List (List Nat)) (b : List Nat) (k : Nat)
    (hf : ∀ f ∈ frames, f.length ≤ max) (hb : b.length ≤ max) (hk : k < (encFrame b).length)
    (c : Segs) (hc : c.flatten = wire frames ++ (encFrame b).take k) :
    recvAll cd max c = frames.map (classify cd) ++ [.closed .eof] :=
  recvAll_frames cd max hmax frames _ .eof hf
    (endsWith_truncated max b k hb (Nat.lt_of_le_of_lt hb hmax) hk) c hc

/-- **a peer that stalls inside or between frames** for longer than the read deadline: the
complete frames before the stall are received, the connection is closed by the time-out, and
nothing the peer writes afterwards is interpreted (the events do not mention it) -/
theorem c03_stall_closes {V : Type} (cd : Codec V) (max : Nat) (hmax : max < 2^32)
    (frames : List (List Nat)) (b : List Nat) (k : Nat)
    (hf : ∀ f ∈ frames, f.length ≤ max) (hb : b.length ≤ max) (hk : k < (encFrame b).length)
    (c : Segs) (hc : c.flatten = wire frames ++ (encFrame b).take k) :
    stalled (recvAll cd max c) = frames.map (classify cd) ++ [.closed .timeout] := by
  rw [c03_truncated_stream cd max hmax frames b k hf hb hk c hc, stalled,
    map_frames_closed cd _ (fun _ => rfl) (fun _ => rfl)]

/-- **a connection reset inside or between frames**: the complete frames before the reset are
received, the connection is closed by the unknown network error, nothing else is interpreted -/
theorem c03_reset_closes {V : Type} (cd : Codec V) (max : Nat) (hmax : max < 2^32)
    (frames : List (List Nat)) (b : List Nat) (k : Nat)
    (hf : ∀ f ∈ frames, f.length ≤ max) (hb : b.length ≤ max) (hk : k < (encFrame b).length)
    (c : Segs) (hc : c.flatten = wire frames ++ (encFrame b).take k) :
    wasReset (recvAll cd max c) = frames.map (classify cd) ++ [.closed .unknownNet] := by
  rw [c03_truncated_stream cd max hmax frames b k hf hb hk c hc, wasReset,
    map_frames_closed cd _ (fun _ => rfl) (fun _ => rfl)]

/-- **a connection cut anywhere** (the peer closes, crashes, is disconnected — after any number of bytes
of any stream): the loop with its default fuel does, up to its final close, a prefix of what it does on
the uncut stream, and the values dispatched are a prefix of the values dispatched from the uncut stream:
in sending order, none twice, none invented. -/
theorem c03_cut_anywhere {V : Type} (cd : Codec V) (max : Nat) (c d : Segs) (k : Nat)
    (h : d.flatten = c.flatten.take k) :
    (recvAll cd max d).dropLast <+: recvAll cd max c ∧
    delivered (recvAll cd max d) <+: delivered (recvAll cd max c) := by
  have hlen : inflight d ≤ inflight c := by
    rw [inflight, h, List.length_take]; exact Nat.min_le_right _ _
  have e1 : recvAll cd max c = specLoop cd max (inflight c + 1) c.flatten := c03_loop_refines_parser cd max _ c
  have e2 : recvAll cd max d = specLoop cd max (inflight c + 1) (c.flatten.take k) := by
    rw [recvAll, c03_loop_refines_parser, h, ← Nat.add_sub_cancel' hlen, Nat.add_right_comm,
      specLoop_fuel cd max (inflight d + 1) _ _ (by rw [inflight, h]; exact Nat.lt_succ_self _)]
  have hp : (recvAll cd max d).dropLast <+: recvAll cd max c := by
    rw [e1, e2]; exact specLoop_take cd max _ _ k
  refine ⟨hp, ?_⟩
  obtain ⟨evs, e, hd, _, _⟩ := c03_garbage_total cd max d
  rw [hd, List.dropLast_concat] at hp
  rw [hd, delivered_append_closed]
  exact delivered_prefix _ _ hp

/-- the theorem is about streams that are *not* well-formed too: garbage, cut inside the garbage -/
example : recvAll (Drv.tableCodec [] []) 100 [[0, 0, 0, 2, 7, 7, 0, 0, 0, 1, 9, 0, 0]] =
    [.refused .short, .refused .short, .closed .eof] ∧
    recvAll (Drv.tableCodec [] []) 100 [[0, 0, 0, 2, 7, 7, 0, 0], [0]] = [.refused .short, .closed .eof] := by
  decide +kernel

/-- the codec the driver runs is sound whenever no sendable buffer is in the refusal table -/
theorem tableCodec_sound (reg bad : List (List Nat)) (unenc : List (List Nat) := [])
    (h : ∀ v, (Drv.tableCodec reg bad unenc).sendable v = true → bad.contains v = false) :
    (Drv.tableCodec reg bad unenc).Sound := by
  have hs : ∀ v, (Drv.tableCodec reg bad unenc).sendable v = true →
      16 ≤ v.length ∧ reg.contains (v.take 16) = true := by
    intro v hv
    simp only [Drv.tableCodec, Bool.and_eq_true, decide_eq_true_eq] at hv
    exact hv.1
  refine ⟨fun v hv => List.length_take_of_le (hs v hv).1, fun v hv => (hs v hv).2, fun v hv => ?_⟩
  show (if bad.contains (v.take 16 ++ v.drop 16) then none else some (v.take 16 ++ v.drop 16)) = some v
  rw [List.take_append_drop, h v hv]
  rfl

/-! ### non-vacuity: concrete streams that meet the hypotheses -/

private def tyA : List Nat := List.replicate 16 7
private def tyB : List Nat := List.replicate 16 9
private def cdx : Codec (List Nat) := Drv.tableCodec [tyA] [tyA ++ [0xff]]
private def m1 : List Nat := tyA ++ [1, 2, 3]
private def m2 : List Nat := tyA
private def mU : List Nat := tyB ++ [5]
private def mD : List Nat := tyA ++ [0xff]

/-- two valid messages, one of unknown type, one undecodable, one too short, in 1-byte and odd
segments: delivered / refused one by one, then EOF -/
example : recvAll cdx 64 (Drv.cut (wire [m1, mU, m2, mD, [1, 2], m1]) [1, 1, 1, 1, 1, 3, 20, 2, 5]) =
    [.deliver m1, .refused .unknownType, .deliver m2, .refused .decode, .refused .short, .deliver m1,
     .closed .eof] := by decide +kernel

/-- an over-limit header followed by a body that itself looks like frames: closed, nothing of the
body is parsed -/
example : recvAll cdx 20 (Drv.cut (wire [m1] ++ (be32 21 ++ wire [m1, m1])) [3, 9]) =
    [.deliver m1, .closed .tooBig] := by decide +kernel

private def cdg : Codec (List Nat) := Drv.tableCodec [tyA] []
private theorem cdg_sound : cdg.Sound := tableCodec_sound _ _ [] (by intro v _; rfl)

/-- the hypotheses of `c03_value_delivery` are satisfiable: a sound codec, two sendable values -/
example (c : Segs) (hc : c.flatten = wire ([m1, m2].map (bufOf cdg))) :
    recvAll cdg 64 c = [.deliver m1, .deliver m2, .closed .eof] :=
  c03_value_delivery cdg cdg_sound 64 (by omega) [m1, m2] (by decide +kernel) c hc

/-- … and of `c03_refused_frame_isolated` / `c03_oversize_closes` -/
example (c : Segs) (hc : c.flatten = wire ([m1] ++ mU :: [m2])) :
    recvAll cdx 64 c = [.deliver m1, .refused .unknownType, .deliver m2, .closed .eof] :=
  c03_refused_frame_isolated cdx 64 (by omega) [m1] [m2] mU .unknownType (by rfl) (by decide +kernel) c hc

example (junk : List Nat) (c : Segs) (hc : c.flatten = wire [m1] ++ (be32 65 ++ junk)) :
    recvAll cdx 64 c = [.deliver m1, .closed .tooBig] :=
  c03_oversize_closes cdx 64 (by omega) [m1] 65 junk (by decide +kernel) (by omega) (by omega) c hc

/-- the in-memory queues with capacity 1: a blocked send is skipped, order is kept -/
example : (lrun 1 {} [.send [1], .send [2], .move, .send [3], .recv, .move, .recv]).1.got = [[1], [3]] := by
  decide +kernel


/-! ### the sending side -/

/-- **send, then receive, is the identity on sequences of messages** — over every way the transport
takes the sender's writes (partial writes of any sizes, header cut anywhere) and every way it hands
the bytes to the receiver's reads: every `Send` reports success and `receiveRaw` yields exactly the
buffers sent, in order, then EOF. -/
theorem c03_send_recv_identity (max : Nat) (hmax : max < 2^32) (bufs : List (List Nat))
    (hb : ∀ f ∈ bufs, f.length ≤ max) (o : List WAct) (ho : NoFail o)
    (c : Segs) (hc : c.flatten = (({ oracle := o } : SConn).sendAll bufs).1.out.flatten)
    (fuel : Nat) (hfuel : bufs.length + 1 ≤ fuel) :
    (({ oracle := o } : SConn).sendAll bufs).2 = List.replicate bufs.length true ∧
    recvFrames max fuel c = (bufs, some .eof) := by
  have h := sendAll_noFail bufs o ho
  exact ⟨h.1, c03_frame_roundtrip max hmax bufs hb c (hc.trans h.2) fuel hfuel⟩

/-- the same at the level of values: marshalled, written in whatever pieces, read in whatever
pieces, unmarshalled, dispatched — equal values, in order, once -/
theorem c03_send_recv_values {V : Type} (cd : Codec V) (hcd : cd.Sound) (max : Nat) (hmax : max < 2^32)
    (vs : List V) (hv : ∀ v ∈ vs, cd.sendable v = true ∧ (bufOf cd v).length ≤ max)
    (o : List WAct) (ho : NoFail o) (c : Segs)
    (hc : c.flatten = (({ oracle := o } : SConn).sendAll (vs.map (bufOf cd))).1.out.flatten) :
    recvAll cd max c = vs.map .deliver ++ [.closed .eof] :=
  c03_value_delivery cd hcd max hmax vs hv c (hc.trans (sendAll_noFail _ o ho).2)

/-- **a failed write is contained**: whatever the transport does (partial writes, failures at any
byte), a sender that goes on calling `Send` gets successes up to some call `j` and errors from
there on, and the receiver — under every segmentation — is handed exactly the `j` frames reported
written, in order (plus, at most, the one frame whose write failed, when the failure came after
its last byte), then EOF.  No frame reported written is lost, nothing is mis-parsed. -/
theorem c03_send_failure_contained {V : Type} (cd : Codec V) (max : Nat) (hmax : max < 2^32)
    (bufs : List (List Nat)) (hb : ∀ f ∈ bufs, f.length ≤ max) (o : List WAct) (c : Segs)
    (hc : c.flatten = (({ oracle := o } : SConn).sendAll bufs).1.out.flatten) :
    ∃ j, j ≤ bufs.length ∧
      (({ oracle := o } : SConn).sendAll bufs).2 =
        List.replicate j true ++ List.replicate (bufs.length - j) false ∧
      (recvAll cd max c = (bufs.take j).map (classify cd) ++ [.closed .eof] ∨
       recvAll cd max c = (bufs.take (j + 1)).map (classify cd) ++ [.closed .eof]) := by
  obtain ⟨j, k, hj, _, hres, he⟩ := sendAll_spec bufs { oracle := o } [] rfl rfl
  refine ⟨j, hj, hres, ?_⟩
  have htake : ∀ n, ∀ f ∈ bufs.take n, f.length ≤ max := fun n f hf => hb f (List.mem_of_mem_take hf)
  rw [List.nil_append] at he
  cases hbj : bufs[j]? with
  | none =>
    rw [hbj] at he
    exact .inl (recvAll_frames cd max hmax (bufs.take j) [] .eof (htake j) (endsWith_nil max) c
      (by rw [hc, he]; exact congrArg _ List.take_nil))
  | some b =>
    rw [hbj] at he
    by_cases hk : k < (encFrame b).length
    · exact .inl (c03_truncated_stream cd max hmax (bufs.take j) b k (htake j) (hb b (List.mem_of_getElem? hbj)) hk c
        (by rw [hc, he]; rfl))
    · have hsucc : bufs.take (j + 1) = bufs.take j ++ [b] := by
        rw [List.take_add_one, hbj]; rfl
      refine .inr (recvAll_frames cd max hmax (bufs.take (j + 1)) [] .eof (htake (j + 1)) (endsWith_nil max) c ?_)
      rw [hc, he, hsucc, wire_append, List.append_nil]
      exact congrArg _ ((List.take_of_length_le (Nat.le_of_not_lt hk)).trans (List.append_nil _).symm)


/-! ### concurrent senders: `sendMutex` -/

/-- **concurrent senders on one connection cannot interleave frames** (`sendMutex`): under every
schedule of any number of threads calling `Send`, with their writes cut into pieces of any sizes,
whenever nobody is inside `Send` the wire is the concatenation of whole frames in the order the
mutex was taken — so the receiver, under every segmentation, gets exactly those buffers — and the
buffers of each thread appear in that thread's own order, none lost, none twice. -/
theorem c03_mutex_no_interleave (q : Nat → List (List Nat)) (sched : List (Nat × Nat))
    (max : Nat) (hmax : max < 2^32) (hq : ∀ i, ∀ b ∈ q i, b.length ≤ max)
    (hl : (crun true (cinit q) sched).locked = none)
    (c : Segs) (hc : c.flatten = (crun true (cinit q) sched).wire)
    (fuel : Nat) (hfuel : (crun true (cinit q) sched).log.length + 1 ≤ fuel) :
    recvFrames max fuel c = ((crun true (cinit q) sched).log.map (·.2), some .eof) ∧
    ∀ i, (((crun true (cinit q) sched).log.filter (fun e => e.1 == i)).map (·.2)) ++
        ((crun true (cinit q) sched).thr i).todo = q i := by
  have hinv := crun_inv q sched (cinit q) (cinv_init q)
  exact ⟨c03_frame_roundtrip max hmax _
      (List.forall_mem_map.mpr fun e hm => hq e.1 e.2 (log_mem_queue q _ hinv e.1 e.2 hm))
      c (by rw [hc, (hinv.unlocked hl).2]) fuel (by simpa using hfuel), hinv.order⟩

/-- while a thread is inside `Send`, the wire is whole frames followed by a prefix of *its* frame -/
theorem c03_mutex_partial_is_holders (q : Nat → List (List Nat)) (sched : List (Nat × Nat)) (h : Nat)
    (hl : (crun true (cinit q) sched).locked = some h) :
    ∃ pre b k, (crun true (cinit q) sched).log = pre ++ [(h, b)] ∧
      (crun true (cinit q) sched).wire = wire (pre.map (·.2)) ++ (encFrame b).take k := by
  obtain ⟨pre, b, n, hlog, hw, _⟩ := (crun_inv q sched (cinit q) (cinv_init q)).locked hl
  exact ⟨pre, b, n, hlog, hw⟩

/-- **nothing is stuck at quiescence**: when no thread can take a step, nobody holds the mutex,
every thread has sent all its buffers, and the wire holds them all as whole frames -/
theorem c03_mutex_quiescent (q : Nat → List (List Nat)) (s : CS) (hinv : CInv q s)
    (hq : ∀ i k, cstep true s i k = none) :
    s.locked = none ∧ (∀ i, (s.thr i).todo = [] ∧ (s.thr i).cur = none) ∧
    s.wire = wire (s.log.map (·.2)) ∧
    ∀ i, (s.log.filter (fun e => e.1 == i)).map (·.2) = q i := by
  have hcur : ∀ i, (s.thr i).cur = none := fun i => (cstep_none (hq i 0)).1
  have hl : s.locked = none := by
    cases hl : s.locked with
    | none => rfl
    | some h =>
      obtain ⟨_, _, _, _, _, hh⟩ := hinv.locked hl
      rw [hcur h] at hh; cases hh
  have htodo : ∀ i, (s.thr i).todo = [] := fun i =>
    (cstep_none (hq i 0)).2.resolve_right (by rw [hl]; decide)
  refine ⟨hl, fun i => ⟨htodo i, hcur i⟩, (hinv.unlocked hl).2, fun i => ?_⟩
  have := hinv.order i
  rwa [htodo i, List.append_nil] at this

/-- without the mutex two senders do interleave: the headers of two one-byte messages go out back
to back and the receiver reads garbage (a frame nobody sent, then a "length" above the limit) -/
theorem c03_no_mutex_interleaves :
    ∃ (q : Nat → List (List Nat)) (sched : List (Nat × Nat)),
      (crun false (cinit q) sched).locked = none ∧
      recvFrames 64 4 [(crun false (cinit q) sched).wire] = ([[0]], some .tooBig) :=
  ⟨fun i => if i = 0 then [[1]] else if i = 1 then [[2]] else [],
   [(0, 0), (1, 0), (0, 4), (1, 4), (0, 1), (1, 1), (0, 0), (1, 0)], by decide +kernel⟩

/-! ### non-vacuity and counter-examples for the sending side -/

/-- a transport that takes the header in two pieces and the body one, two, then all bytes at a
time: every `Send` succeeds (the hypotheses of `c03_send_recv_identity` are satisfiable) -/
example : NoFail [.acc 1, .acc 1, .acc 2, .acc 9] := by
  intro a ha; simp at ha; rcases ha with rfl | rfl | rfl | rfl <;> exact ⟨_, rfl⟩

example : (({ oracle := [.acc 1, .acc 1, .acc 2, .acc 9] } : SConn).sendAll [[7, 8, 9, 10], [5]]).1.out =
    [[0], [0, 0, 4], [7], [8, 9], [10], [0, 0, 0, 1], [5]] := by decide +kernel

/-- a write that fails inside the second frame: the connection is closed, the third `Send` is
refused, and the receiver gets the first frame and EOF -/
example : (({ oracle := [.acc 4, .acc 1, .acc 4, .fail 2] } : SConn).sendAll [[1], [2, 3, 4, 5, 6, 7, 8, 9, 10], [11]]).2 =
    [true, false, false] := by decide +kernel

/-- **before the fix** (the connection stayed usable after a failed write): the third `Send`
reports success, its frame is swallowed as the rest of the unfinished body, and the receiver never
sees it — `Send` returned nil for a message that is lost. -/
theorem c03_partial_write_reuse_loses :
    ∃ (bufs : List (List Nat)) (o : List WAct),
      (({ oracle := o } : SConn).sendAllNoClose bufs).2 = [true, false, true] ∧
      recvFrames 64 10 (({ oracle := o } : SConn).sendAllNoClose bufs).1.out = ([[1]], some .eof) :=
  ⟨[[1], [2, 3, 4, 5, 6, 7, 8, 9, 10], [11]], [.acc 4, .acc 1, .acc 4, .fail 2], by decide +kernel⟩

/-- two threads, two buffers each: thread 1 waits while thread 0 is inside `Send`, and is itself
inside `Send` (three header bytes out) when the schedule ends -/
example : (crun true (cinit fun i => if i < 2 then [[i], [i, i]] else [])
      [(0, 0), (1, 0), (0, 2), (0, 9), (1, 1), (0, 0), (1, 0), (1, 3), (0, 0)]).wire =
    wire [[0]] ++ [0, 0, 0] := by decide +kernel


/-! ### interface-typed fields -/

/-- the bytes of an untagged value are not mistaken for a tag (eight given bytes out of 2^64; the
generator of the harness checks it for every value it builds) -/
def NoTagPrefix (gs : Gens) (bytes : List Nat) : Prop := 8 < bytes.length → gs.get (bytes.take 8) = none

/-- **tagged points and scalars round-trip on every connection**: a value of Ed25519 or of
bn256 G1/G2/GT (points, and the bn256 scalars) is instantiated as its own dynamic type from its own
bytes whatever suite the receiving connection has — even none. -/
theorem c03_iface_tagged_any_suite (g : Grp) (hg : g.selfTagged = true) (suite : Option SuiteId)
    (k : Kind) (bytes : List Nat) (hb : bytes ≠ []) :
    ifaceSame onetGens suite k g bytes = true := by
  unfold Grp.selfTagged at hg
  cases hm : g.marshalID with
  | none => rw [hm] at hg; cases hg
  | some id =>
    rw [hm] at hg
    have hget : onetGens.get id = some g := by simpa using hg
    unfold ifaceSame
    rw [hm, iface_tagged onetGens _ id bytes g (marshalID_length g id hm) hb hget]
    simp

example : [Grp.edP, .edS, .g1P, .g2P, .gtP, .bnS].all Grp.selfTagged = true := by decide +kernel

/-- **untagged points (the nist groups P256 and Residue512) round-trip exactly on a connection of
their own suite**: `DefaultConstructors` is a function of the suite it is given — of the
connection at hand, not of whatever suite the process used first. -/
theorem c03_iface_untagged_own_suite (g : Grp) (hg : g.marshalID = none) (suite : Option SuiteId)
    (k : Kind) (bytes : List Nat) (hp : NoTagPrefix onetGens bytes) :
    ifaceSame onetGens suite k g bytes = true ↔ ∃ s, suite = some s ∧ s.make k = g := by
  unfold ifaceSame
  rw [hg, iface_untagged onetGens _ none bytes (by intro id h; cases h) hp]
  cases suite with
  | none => simp [defaultConstructors]
  | some s => simp [defaultConstructors]

/-- every registered suite decodes the points and scalars it makes itself — except the `mod.Int`
scalars of the nist suites (next theorem) -/
theorem c03_iface_own_suite (s : SuiteId) (k : Kind) (bytes : List Nat) (hb : bytes ≠ [])
    (hp : NoTagPrefix onetGens bytes) (hn : s.make k ≠ .p256S ∧ s.make k ≠ .resS) :
    ifaceSame onetGens (some s) k (s.make k) bytes = true := by
  rcases grp_cases (s.make k) with ht | hm | h | h
  · exact c03_iface_tagged_any_suite _ ht _ _ _ hb
  · exact (c03_iface_untagged_own_suite _ hm _ _ _ hp).mpr ⟨s, rfl, rfl⟩
  · exact absurd h hn.1
  · exact absurd h hn.2

/-- what the full statement would be: every registered suite decodes its own points and scalars -/
def C03_iface_full : Prop :=
  ∀ (s : SuiteId) (k : Kind) (bytes : List Nat), bytes ≠ [] → NoTagPrefix onetGens bytes →
    ifaceSame onetGens (some s) k (s.make k) bytes = true

/-- **it is false on the code** (known finding): the scalars of P256 and Residue512 are `mod.Int`s,
whose tag `"mod.int "` does not name the modulus; `init()` registered the bn256 scalar under that
tag, so such a scalar is instantiated as a bn256 scalar on every connection — it arrives as an
error (value out of range / wrong size) or as a scalar of another group. -/
theorem c03_iface_modint_clash (g : Grp) (hg : g = .p256S ∨ g = .resS) (suite : Option SuiteId)
    (k : Kind) (bytes : List Nat) (hb : bytes ≠ []) :
    ifaceSame onetGens suite k g bytes = false := by
  have hget : onetGens.get [109, 111, 100, 46, 105, 110, 116, 32] = some .bnS := by decide +kernel
  have hm : g.marshalID = some [109, 111, 100, 46, 105, 110, 116, 32] := by rcases hg with rfl | rfl <;> rfl
  rw [ifaceSame, hm, iface_tagged onetGens _ _ bytes .bnS rfl hb hget]
  rcases hg with rfl | rfl <;> rfl

/-- not every registered suite decodes its own points and scalars: a P256 scalar with the bytes `[1]`, sent as
an interface-typed field over a connection of the P256 suite, is not instantiated as the P256 scalar it was. -/
theorem c03_iface_full_fails : ¬ C03_iface_full := by
  intro h
  have h1 := h .p256 .scalar [1] (by simp) (by intro h8; simp at h8)
  rw [show SuiteId.p256.make .scalar = .p256S from rfl,
    c03_iface_modint_clash .p256S (.inl rfl) (some .p256) .scalar [1] (by simp)] at h1
  cases h1


/-! ### the type registry -/

/-- **the last registration under an id wins**, for every history of `RegisterMessage` calls: what
`registry.get` answers for the id of `t` is the last registered type with that id. -/
theorem c03_registry_last_wins (r : Registry) (ts : List GoType) (t : GoType) :
    (registerAll r ts).get (typeIdOf t) =
      match ts.reverse.find? (fun u => typeIdOf u == typeIdOf t) with
      | some u => some u
      | none => r.get (typeIdOf t) := by
  induction ts generalizing r with
  | nil => rfl
  | cons u ts ih =>
    rw [registerAll_cons, ih, List.reverse_cons, List.find?_append]
    cases hf : ts.reverse.find? (fun u => typeIdOf u == typeIdOf t) with
    | some w => rfl
    | none =>
      by_cases h : typeIdOf u = typeIdOf t
      · simp [h, registry_get_put_same]
      · have : (typeIdOf u == typeIdOf t) = false := by simpa using h
        simp [this, registry_get_put_other _ _ _ _ (fun e => h e.symm)]

/-- **a registered type whose id no other registered type shares is found under its id** — whatever
else was registered before or after it. -/
theorem c03_registry_faithful (r : Registry) (ts : List GoType) (t : GoType) (ht : t ∈ ts)
    (huniq : ∀ u ∈ ts, typeIdOf u = typeIdOf t → u = t) :
    (registerAll r ts).get (typeIdOf t) = some t := by
  rw [c03_registry_last_wins]
  cases hf : ts.reverse.find? (fun u => typeIdOf u == typeIdOf t) with
  | some u =>
    have hm := List.mem_of_find?_eq_some hf
    have hp := List.find?_some hf
    simp only [beq_iff_eq] at hp
    simp [huniq u (by simpa using hm) hp]
  | none =>
    have := List.find?_eq_none.mp hf t (by simpa using ht)
    simp at this

/-- collision resistance of the hash, as a hypothesis: equal ids come from equal names -/
def HashInj : Prop := ∀ a b : GoType, typeIdOf a = typeIdOf b → a.name = b.name

/-- … so, the hash being collision-free, it is enough that no other registered type has the same
**name** (`reflect.Type.String()`) -/
theorem c03_registry_faithful_names (hinj : HashInj) (r : Registry) (ts : List GoType) (t : GoType)
    (ht : t ∈ ts) (huniq : ∀ u ∈ ts, u.name = t.name → u = t) :
    (registerAll r ts).get (typeIdOf t) = some t :=
  c03_registry_faithful r ts t ht fun u hu e => huniq u hu (hinj u t e)

/-- the full statement one would like: every registered type is found under its own id -/
def C03_registry_full : Prop :=
  ∀ (ts : List GoType) (t : GoType), t ∈ ts → (registerAll [] ts).get (typeIdOf t) = some t

/-- **it is false on the code** (known finding): two distinct Go types with the same
`reflect.Type.String()` — same package *name* in two paths, or two types declared inside functions —
get the same id; the later registration replaces the earlier one, and a value of the first type is
unmarshalled into the second. -/
theorem c03_type_name_clash : ¬ C03_registry_full := by
  intro h
  have := h [⟨[72], 0⟩, ⟨[72], 1⟩] ⟨[72], 0⟩ (by simp)
  have e : typeIdOf ⟨[72], 0⟩ = typeIdOf ⟨[72], 1⟩ := rfl
  rw [show registerAll [] [⟨[72], 0⟩, ⟨[72], 1⟩] = (registerAll [] [⟨[72], 0⟩]).put (typeIdOf ⟨[72], 1⟩) ⟨[72], 1⟩ from rfl,
    e, registry_get_put_same] at this
  cases this

/-- the codec over a registry satisfies the hypothesis of the delivery theorems as soon as every
sendable value's type is found under its own id -/
theorem c03_codecOf_sound {V : Type} (r : Registry) (tc : TCodec V) (htc : tc.Sound)
    (hf : ∀ v, (codecOf r tc).sendable v = true → r.get (typeIdOf (tc.typeOf v)) = some (tc.typeOf v)) :
    (codecOf r tc).Sound := by
  constructor
  · intro v _; exact typeIdOf_length _
  · intro v hv
    simp only [codecOf, Bool.and_eq_true] at hv
    exact hv.1
  · intro v hv
    have h1 := hf v hv
    simp only [codecOf, Bool.and_eq_true] at hv
    simp only [codecOf, h1]
    exact htc.roundtrip v hv.2

/-- **a value of a registered type arrives as an equal value of the same type**: for every history
of registrations in which no other type shares its id, `Unmarshal (Marshal v) = v` -/
theorem c03_registered_value_roundtrip {V : Type} (tc : TCodec V) (htc : tc.Sound) (r : Registry)
    (ts : List GoType) (v : V) (ht : tc.typeOf v ∈ ts)
    (huniq : ∀ u ∈ ts, typeIdOf u = typeIdOf (tc.typeOf v) → u = tc.typeOf v)
    (henc : tc.encodable v = true) :
    ∃ b, marshal (codecOf (registerAll r ts) tc) v = some b ∧
      unmarshal (codecOf (registerAll r ts) tc) b = .ok v := by
  have hget := c03_registry_faithful r ts (tc.typeOf v) ht huniq
  have hs : (codecOf (registerAll r ts) tc).sendable v = true := by simp [codecOf, hget, henc]
  refine ⟨_, marshal_bufOf _ v hs, ?_⟩
  rw [bufOf, unmarshal_append _ _ _ (show ((codecOf _ tc).tyOf v).length = 16 from typeIdOf_length _)]
  simp [codecOf, hget, htc.roundtrip v henc]


/-! ### the envelope -/

/-- **what a processor is handed**: for every sequence of sendable values within the limit, under
every segmentation, the receive loop dispatches one envelope per value, in order — `Msg` the value
sent, `MsgType` the id of its type (so the dispatcher picks the processor registered for *that*
type), `ServerIdentity` the peer of the connection, `Size` the length of the marshalled buffer —
to the processor registered for the type, or drops it with "no processor" when there is none. -/
theorem c03_envelope_fields {V : Type} (cd : Codec V) (hcd : cd.Sound) (max remote : Nat) (hmax : max < 2^32)
    (procs : List (List Nat)) (vs : List V)
    (hv : ∀ v ∈ vs, cd.sendable v = true ∧ (bufOf cd v).length ≤ max)
    (fuel : Nat) (hfuel : vs.length + 1 ≤ fuel) (c : Segs) (hc : c.flatten = wire (vs.map (bufOf cd))) :
    recvEnvLoop cd max remote procs fuel c =
      vs.map (fun v =>
        let env : Envelope V := { sender := remote, msgType := cd.tyOf v, msg := v, size := (bufOf cd v).length }
        if procs.contains (cd.tyOf v) then EnvEvent.processed env else EnvEvent.noProcessor env)
      ++ [.closed .eof] := by
  rw [recvEnvLoop_eq_frames, c03_frame_roundtrip max hmax (vs.map (bufOf cd))
    (List.forall_mem_map.mpr fun v h => (hv v h).2) c hc fuel
    (by rw [List.length_map]; exact hfuel), List.map_map]
  congr 1
  exact List.map_congr_left fun v h => classifyEnv_bufOf cd hcd remote procs v (hv v h).1

/-- **sending to oneself** (`Router.Send` with the router's own identity): no wire at all — every
value whose type is registered, encodable and has a processor is dispatched at once, in order, as
the very value sent, with the id of its type and the router's own identity; `Send` reports success. -/
theorem c03_self_send {V : Type} (r : Registry) (tc : TCodec V) (self : Nat) (procs : List (List Nat))
    (vs : List V)
    (hv : ∀ v ∈ vs, (codecOf r tc).sendable v = true ∧ procs.contains (typeIdOf (tc.typeOf v)) = true) :
    selfSend r tc self procs vs =
      (vs.map fun v => { sender := self, msgType := typeIdOf (tc.typeOf v), msg := v, size := 0 }, true) := by
  induction vs with
  | nil => rfl
  | cons v rest ih =>
    have hvv := hv v (by simp)
    have hreg : (r.get (typeIdOf (tc.typeOf v))).isSome = true := by
      have := hvv.1; simp only [codecOf, Bool.and_eq_true] at this; exact this.1
    have hmt : messageType r (tc.typeOf v) = typeIdOf (tc.typeOf v) := by simp [messageType, hreg]
    simp only [selfSend, hmt, hvv.2, hvv.1, if_true, List.map_cons]
    rw [ih (fun w hw => hv w (by simp [hw]))]

/-- a value of an unregistered type sent to oneself is refused before anything is dispatched (the
envelope would carry `ErrorType`, for which nobody registers a processor) -/
theorem c03_self_send_unregistered {V : Type} (r : Registry) (tc : TCodec V) (self : Nat)
    (procs : List (List Nat)) (v : V) (l : List V)
    (hreg : r.get (typeIdOf (tc.typeOf v)) = none) (hp : procs.contains errorType = false) :
    selfSend r tc self procs (v :: l) = ([], false) := by
  have hmt : messageType r (tc.typeOf v) = errorType := by simp [messageType, hreg]
  simp only [selfSend, hmt, hp, Bool.false_eq_true, if_false]

/-! ### the in-memory transport: refused buffers, close, quiescence -/

theorem localEnvLoop_erase {V : Type} (cd : Codec V) (remote : Nat) (procs : List (List Nat))
    (q : List (List Nat)) : (localEnvLoop cd remote procs q).map EnvEvent.erase = localLoop cd q := by
  unfold localEnvLoop localLoop
  rw [List.map_append, List.map_map]
  congr 1
  exact List.map_congr_left fun b _ => classifyEnv_erase cd remote procs b

/-- **a refused buffer is isolated on the in-memory transport too**: whatever is put into the queue
(too short for a type id, unknown type, undecodable body), the loop refuses exactly that buffer and
hands on every other one, in order, until the connection is closed -/
theorem c03_local_refused_isolated {V : Type} (cd : Codec V) (pre post : List (List Nat)) (bad : List Nat)
    (e : RecvErr) (hbad : unmarshal cd bad = .error e) :
    localLoop cd (pre ++ bad :: post) =
      pre.map (classify cd) ++ .refused e :: post.map (classify cd) ++ [.closed .closed] := by
  rw [localLoop, List.map_append, List.map_cons, classify_error cd bad e hbad, List.append_assoc]

/-- the in-memory queues under every schedule of senders, the forwarding goroutine and the
receiver: received ++ still queued = sent, always (FIFO, nothing lost, nothing duplicated). -/
theorem c03_local_fifo (cap : Nat) (s : LQ) (sched : List LAct) :
    (lrun cap s sched).1.got ++ (lrun cap s sched).1.out ++ (lrun cap s sched).1.inc
      = s.got ++ s.out ++ s.inc ++ (lrun cap s sched).2 := by
  induction sched generalizing s with
  | nil => exact (List.append_nil _).symm
  | cons a l ih =>
    simp only [lrun]
    cases hst : lstep cap s a with
    | none => exact ih s
    | some s' => exact (ih s').trans (by rw [lstep_fifo cap s s' a hst, List.append_assoc]; rfl)

/-- **closing an in-memory connection loses at most a suffix**: under every schedule, what was
received plus what can still be received after the close is a prefix of what was sent — the buffers
still in the first queue are gone, nothing else, and nothing is reordered or duplicated -/
theorem c03_local_close_prefix (cap : Nat) (s : LQ) (sched : List LAct) :
    (lclose (lrun cap s sched).1).got ++ (lclose (lrun cap s sched).1).out ++ (lrun cap s sched).1.inc =
      s.got ++ s.out ++ s.inc ++ (lrun cap s sched).2 := by
  simpa [lclose] using c03_local_fifo cap s sched

/-- **nothing is stuck in the in-memory queues at quiescence**: when neither the forwarding
goroutine nor the receiver can take a step, both queues are empty — everything sent was received -/
theorem c03_local_quiescent (cap : Nat) (hcap : 0 < cap) (s : LQ)
    (hm : lstep cap s .move = none) (hr : lstep cap s .recv = none) : s.inc = [] ∧ s.out = [] := by
  have hout : s.out = [] := by
    cases ho : s.out with
    | nil => rfl
    | cons b rest => simp [lstep, ho] at hr
  refine ⟨?_, hout⟩
  cases hi : s.inc with
  | nil => rfl
  | cons b rest => simp [lstep, hi, hout, hcap] at hm

/-! ### layer 2: the wire format of the protobuf library (`Model/C03Wire.lean`)

For the schema language of `Model/C03Wire.lean` the codec round trip is a theorem, not a hypothesis:
`decode ts (encMsg 1 ts vs) = some vs` for every schema and every value inside the lossless range. -/
namespace Wire

-- the names `meta/C03.json` lists for `uvarint_rt`, `zigzag_rt`, `decPacked_encPackedAll`
theorem getUvarint_uvarint (n : Nat) (rest : List Nat) (h : n < 2 ^ 64) :
    getUvarint (uvarint n ++ rest) = some (n, rest) := uvarint_rt n rest h

/-- the library's zig-zag decoder inverts its encoder on `-2^62 ≤ v < 2^62` -/
theorem unzigzag_zigzag (v : Int) (h1 : -2 ^ 62 ≤ v) (h2 : v < 2 ^ 62) : unzigzag (zigzag v) = v :=
  zigzag_rt v h1 h2

theorem decPacked_rt (t : Ty) (hp : t.packed = true) (l : List Val) (hw : wfAll t l = true)
    (fuel : Nat) (hf : (encPackedAll t l).length ≤ fuel) :
    decPacked t fuel (encPackedAll t l) = some l := decPacked_encPackedAll t hp l hw fuel hf

/-- **layer 2: the wire codec round-trips.** For every message schema of the language (integers of
both widths and signs, booleans, float64, byte strings, byte arrays of fixed length, nested messages
to any depth, packed and unpacked repeated fields, optional pointers) and every value of it inside the lossless range, what
`protobuf.Encode` writes, `protobuf.Decode` reads back as the same value. -/
theorem c03_wire_roundtrip (ts : List Ty) (vs : List Val) (hw : wf (.msg ts) (.msg vs) = true) :
    decode ts (encMsg 1 ts vs) = some vs := by
  have hw' := hw
  simp only [wf, Bool.and_eq_true, decide_eq_true_eq] at hw'
  obtain ⟨⟨hwfs, _⟩, htl⟩ := hw'
  exact fields_loop ts htl ts vs 0 (zeros ts) 0 _ rfl hwfs (wf_rt.2.2 ts vs hwfs)
    (zeros_length ts) rfl (Nat.le_refl 0) (Nat.lt_succ_self _)

end Wire

/-- the typed codec of layer 2: a message is a Go type and the values of its fields; the schema of
each Go type is a table; `Encode`/`Decode` are the wire model -/
def wireTCodec (schema : GoType → List Wire.Ty) : TCodec (GoType × List Wire.Val) where
  typeOf v := v.1
  encodable v := Wire.wf (.msg (schema v.1)) (.msg v.2)
  enc v := Wire.encMsg 1 (schema v.1) v.2
  dec t b := (Wire.decode (schema t) b).map fun vs => (t, vs)

/-- for messages of the schema language the codec hypothesis is a theorem -/
theorem wireTCodec_sound (schema : GoType → List Wire.Ty) : (wireTCodec schema).Sound := by
  constructor
  intro v hv
  simp only [wireTCodec] at hv ⊢
  rw [Wire.c03_wire_roundtrip (schema v.1) v.2 hv]
  rfl

/-- **values arrive equal, in order, once — without a codec hypothesis** for every message type of
the schema language: registered under an id no other registered type shares, marshalled by the wire
model of `protobuf.Encode`, written in whatever pieces the transport takes, read in whatever
segments it hands out, unmarshalled by the wire model of `protobuf.Decode`, dispatched. -/
theorem c03_wire_value_delivery (schema : GoType → List Wire.Ty) (r : Registry)
    (hf : ∀ v, (codecOf r (wireTCodec schema)).sendable v = true → r.get (typeIdOf v.1) = some v.1)
    (max : Nat) (hmax : max < 2 ^ 32) (vs : List (GoType × List Wire.Val))
    (hv : ∀ v ∈ vs, (codecOf r (wireTCodec schema)).sendable v = true ∧
      (bufOf (codecOf r (wireTCodec schema)) v).length ≤ max)
    (o : List WAct) (ho : NoFail o) (c : Segs)
    (hc : c.flatten = (({ oracle := o } : SConn).sendAll (vs.map (bufOf (codecOf r (wireTCodec schema))))).1.out.flatten) :
    recvAll (codecOf r (wireTCodec schema)) max c = vs.map .deliver ++ [.closed .eof] :=
  c03_send_recv_values _ (c03_codecOf_sound r _ (wireTCodec_sound schema) hf) max hmax vs hv o ho c hc

/-- non-vacuity: a nested message with every kind of field, inside the lossless range -/
example : Wire.wf (.msg [.i32, .bytes, .rep .i64, .opt (.msg [.u64, .bool]), .rep (.msg [.bytes]), .f64, .rep .bytes])
    (.msg [.int (-5), .bytes [104, 105], .rep [.int 1, .int (-2 ^ 62)], .opt (some (.msg [.nat 7, .bool true])),
      .rep [.msg [.bytes []], .msg [.bytes [1]]], .f64 4607182418800017408, .rep [.bytes [9], .bytes []]]) = true := by
  decide +kernel

/-- the bound on signed integers is the library's, and it is tight: `2^62` comes back as `-2^62`
(the zig-zag decoder shifts arithmetically) -/
example : (Wire.decode [.i64] (Wire.encMsg 1 [.i64] [.int (2 ^ 62)])).map (Wire.Val.sames · [.int (-2 ^ 62)]) = some true := by
  decide +kernel

/-- byte arrays of fixed length (`[16]byte`: the tree, roster, token and server ids of onet's
own messages) are part of the schema language: a struct with ids, also inside a nested and a repeated
message, is inside the theorem … -/
example : Wire.wf (.msg [.arr 4, .i64, .msg [.arr 2, .bytes], .rep (.msg [.arr 2, .bytes])])
    (.msg [.bytes [1, 2, 3, 4], .int 5, .msg [.bytes [0, 0], .bytes [7]],
      .rep [.msg [.bytes [9, 9], .bytes []], .msg [.bytes [0, 1], .bytes [1]]]]) = true := by
  decide +kernel

/-- … and the decoder insists on the length: a byte string of another length is refused for an array -/
example : Wire.decode [.arr 4] (Wire.encMsg 1 [.bytes] [.bytes [1, 2, 3]]) = none ∧
    (Wire.decode [.arr 3] (Wire.encMsg 1 [.bytes] [.bytes [1, 2, 3]])).map (Wire.Val.sames · [.bytes [1, 2, 3]]) = some true := by
  decide +kernel

/-- what a processor sees of a processed envelope: the type id and the value -/
def EnvEvent.payload {V : Type} : EnvEvent V → Option (List Nat × V)
  | .processed e => some (e.msgType, e.msg)
  | _ => none

/-- **the local path and the wire path of `Router.Send` are equivalent** (router.go:316-337 vs. the
connection path): for every sequence of values that are sendable (registered type, encodable), have a
processor and fit the frame limit, the processors of a router that sends to itself are handed exactly the
type ids and values, in the order, that the processors of a remote router are handed after `Marshal`,
framing, any segmentation of the byte stream, `receiveRaw` and `Unmarshal`; both `Send`s report success.
The envelopes differ in `ServerIdentity` (the router itself / the peer of the connection) and `Size`
(0 / the marshalled length) only.  (Falsified by: a self path that dispatches under another type id or
skips the dispatcher test, a wire path that alters, drops or reorders.) -/
theorem c03_self_send_equals_wire {V : Type} (r : Registry) (tc : TCodec V) (hsound : (codecOf r tc).Sound)
    (self remote max : Nat) (hmax : max < 2^32) (procs : List (List Nat)) (vs : List V)
    (hv : ∀ v ∈ vs, (codecOf r tc).sendable v = true ∧ procs.contains (typeIdOf (tc.typeOf v)) = true ∧
      (bufOf (codecOf r tc) v).length ≤ max)
    (fuel : Nat) (hfuel : vs.length + 1 ≤ fuel) (c : Segs)
    (hc : c.flatten = wire (vs.map (bufOf (codecOf r tc)))) :
    (selfSend r tc self procs vs).1.map (fun e => (e.msgType, e.msg)) =
      (recvEnvLoop (codecOf r tc) max remote procs fuel c).filterMap EnvEvent.payload ∧
    (selfSend r tc self procs vs).2 = true := by
  rw [c03_self_send r tc self procs vs (fun v h => ⟨(hv v h).1, (hv v h).2.1⟩)]
  rw [c03_envelope_fields (codecOf r tc) hsound max remote hmax procs vs
    (fun v h => ⟨(hv v h).1, (hv v h).2.2⟩) fuel hfuel c hc]
  refine ⟨?_, rfl⟩
  simp only [List.map_map, List.filterMap_append, List.filterMap_cons, EnvEvent.payload, List.filterMap_nil,
    List.append_nil]
  clear hc hfuel
  induction vs with
  | nil => rfl
  | cons v rest ih =>
    have hp : procs.contains ((codecOf r tc).tyOf v) = true := (hv v (by simp)).2.1
    simp only [List.map_cons, List.filterMap_cons, hp, if_true, EnvEvent.payload, Function.comp]
    rw [← ih (fun w hw => hv w (by simp [hw]))]
    -- the self path dispatches under the id of the value's type, which is the id the codec writes on the wire
    have hty : (codecOf r tc).tyOf v = typeIdOf (tc.typeOf v) := rfl
    rw [hty]


/-! #### interface-typed fields inside a message of the wire model -/

/-- **a point or scalar inside a message**: on the wire an interface-typed field is a byte-string field
(`encIface`: tag of the dynamic type if a generator is registered, then the value's own bytes; nothing when
nil — `Ty.opt .bytes`).  For every schema, every well-formed value and every position that holds such a
field: `Decode` hands the decoder of interface fields exactly the bytes `encIface` wrote, and it instantiates
the sent dynamic type from the sent bytes exactly when `ifaceSame` says so — layer 2 (`c03_wire_roundtrip`) and
the dispatch of interface fields (`c03_iface_*`) compose.  (Falsified by: a field written with another wire
type or without its length, a tag of another length, a decoder that strips the tag before looking it up.) -/
theorem c03_wire_iface_field (ts : List Wire.Ty) (vs : List Wire.Val) (hw : Wire.wf (.msg ts) (.msg vs) = true)
    (k : Nat) (suite : Option SuiteId) (kd : Kind) (g : Grp) (bytes : List Nat)
    (hk : vs[k]? = some (.opt (some (.bytes (encIface onetGens g.marshalID bytes))))) :
    ∃ vs', Wire.decode ts (Wire.encMsg 1 ts vs) = some vs' ∧
      ∃ b, vs'[k]? = some (.opt (some (.bytes b))) ∧
        (decIface onetGens (defaultConstructors suite kd) b = some (g, bytes) ↔
          ifaceSame onetGens suite kd g bytes = true) := by
  refine ⟨vs, Wire.c03_wire_roundtrip ts vs hw, _, hk, ?_⟩
  simp [ifaceSame]

/-- non-vacuity: an Ed25519 point (tagged `ed.point`) as the second field of a message is inside the theorem,
and it comes back on a connection of any suite -/
example :
    let fld : Wire.Val := .opt (some (.bytes (encIface onetGens Grp.edP.marshalID [1, 2, 3])))
    Wire.wf (.msg [.i32, .opt .bytes, .bytes]) (.msg [.int 5, fld, .bytes [7]]) = true ∧
    Wire.encMsg 1 [.i32, .opt .bytes, .bytes] [.int 5, fld, .bytes [7]] =
      [8, 10, 18, 11, 101, 100, 46, 112, 111, 105, 110, 116, 1, 2, 3, 26, 1, 7] ∧
    ifaceSame onetGens none .point .edP [1, 2, 3] = true := by decide +kernel

/-! #### field numbers (`Model/C03Fields.lean`) -/
namespace Fields

/-- **field numbers of a tag-free struct type are positions**: whatever embedded structs it has, at
whatever depth, `ProtoFields` numbers the wire fields `1, 2, …, n` in the order of the flattened field list
and does not panic — the positional numbering of `Model/C03Wire.lean` (`encMsg 1`, the cursor of `decMsg`)
is the library's for every such type.  (Falsified by: an embedded struct that takes a number of its own, a
counter that restarts inside an embedded struct, numbering from 0.) -/
theorem c03_field_numbers_are_positions (fs : List SField) (h : untaggedAll fs = true) :
    protoFields fs = some (List.range' 1 (leavesAll fs)) := by
  have := idsAll_untagged fs 0 h
  simp only [protoFields, this, Nat.zero_add]
  rw [if_pos (List.nodup_range' (s := 1) (n := leavesAll fs))]

/-- **the decoder's cursor finds every field** when the field numbers increase with the field order — it
only moves forward (`decode.go:117-121`): each entry the encoder wrote is stored in its field -/
theorem c03_cursor_finds_sorted (ids : List Nat) (h : ids.Pairwise (· < ·)) : findsAll ids ids = true :=
  findsAll_suffix ids [] h (by simp)

/-- … in particular for every tag-free struct type, embedded structs included: numbering and cursor of
the library agree with the positional model -/
theorem c03_untagged_all_fields_found (fs : List SField) (h : untaggedAll fs = true) :
    ∃ ids, protoFields fs = some ids ∧ findsAll ids ids = true :=
  ⟨_, c03_field_numbers_are_positions fs h, c03_cursor_finds_sorted _ (List.pairwise_lt_range' (s := 1))⟩

/-- what tags can do (negation witnesses; none of onet's own messages carries a numeric tag — the only tag
is `protobuf:"opt"` on `ServerIdentity.URL`, which has no number): a tag that repeats a number makes
`ProtoFields` panic, and numbers that do not increase with the field order make the forward-only cursor
miss a field that *was* encoded -/
theorem c03_tags_can_break_numbering :
    protoFields [.plain 0, .plain 1] = none ∧
    protoFields [.plain 2, .plain 1] = some [2, 1] ∧ findsAll [2, 1] [2, 1] = false ∧
    protoFields [.plain 0, .emb 7 [.plain 0, .plain 0], .plain 0] = some [1, 7, 8, 9] := by decide +kernel

/-- non-vacuity: two levels of embedding, the numbers run through -/
example : protoFields [.plain 0, .emb 0 [.plain 0, .emb 0 [.plain 0], .plain 0], .plain 0] = some [1, 2, 3, 4, 5] := by
  decide +kernel

end Fields


/-! ### the code regions the model stands for
Regenerated from /repo's source on every run (`harness/cmd/astfacts` → `OnetVerif/Shapes.lean`): the
calls that matter for synchronisation and data flow, the lock regions and (for decision logic) the
conditions, in source order.  A re-ordering, a dropped call or a changed condition breaks these
obligations even when no sampled input or schedule shows a difference; the check then searches for
a failing input. -/
theorem c03_shape_tcp_TCPConn_Receive :
    Shapes.network_tcp_TCPConn_Receive =
   ["c.receiveRaw", "assign:buff,err:=c.receiveRaw()", "if:(err!=nil)",
     "return:nil,xerrors.Errorf(\"\",err)", "Unmarshal",
     "assign:id,body,err:=Unmarshal(buff,c.suite)",
     "return:&Envelope{MsgType:id,Msg:body,Size:Size(len(buff))},err"] := rfl

theorem c03_shape_tcp_TCPConn_receiveRaw :
    Shapes.network_tcp_TCPConn_receiveRaw =
   ["if:(c.receiveRawTest!=nil)", "return:c.receiveRawTest()", "return:c.receiveRawProd()"] := rfl

theorem c03_shape_tcp_TCPConn_receiveRawProd :
    Shapes.network_tcp_TCPConn_receiveRawProd =
   ["receiveMutex.Lock", "defer:receiveMutex.Unlock", "timeoutLock.RLock", "time.Now",
     "Now().Add", "conn.SetReadDeadline", "timeoutLock.RUnlock", "binary.Read",
     "assign:err:=binary.Read(c.conn,globalOrder,&total)", "if:(err!=nil)",
     "return:nil,xerrors.Errorf(\"\",handleError(err))", "if:(total>MaxPacketSize)",
     "return:nil,xerrors.Errorf(\"\",c.conn.RemoteAddr().String(),total,MaxPacketSize,ErrUnknown)",
     "assign:b:=make(conv,total)", "for:(read<total){", "timeoutLock.RLock", "time.Now",
     "Now().Add", "conn.SetReadDeadline", "timeoutLock.RUnlock", "conn.Read",
     "assign:n,err:=c.conn.Read(b)", "if:(err!=nil)", "c.updateRx",
     "return:nil,xerrors.Errorf(\"\",handleError(err))", "buffer.Write",
     "assign:_,err:=buffer.Write(b[:n])", "if:(err!=nil)", "Size", "assign:read+=Size(n)",
     "assign:b=b[n:]", "}", "c.updateRx", "return:buffer.Bytes(),nil"] := rfl

theorem c03_shape_tcp_TCPConn_Send :
    Shapes.network_tcp_TCPConn_Send =
   ["sendMutex.Lock", "defer:sendMutex.Unlock", "Marshal", "assign:b,err:=Marshal(msg)",
     "if:(err!=nil)", "return:0,xerrors.Errorf(\"\",err.Error())", "c.sendRaw",
     "assign:len,err:=c.sendRaw(b)", "if:(err!=nil)", "return:len,xerrors.Errorf(\"\",err)",
     "return:len,nil"] := rfl

theorem c03_shape_tcp_TCPConn_sendRaw :
    Shapes.network_tcp_TCPConn_sendRaw =
   ["timeoutLock.RLock", "time.Now", "Now().Add", "conn.SetWriteDeadline", "timeoutLock.RUnlock",
     "Size", "assign:packetSize:=Size(len(b))", "binary.Write",
     "assign:err:=binary.Write(c.conn,globalOrder,packetSize)", "if:(err!=nil)", "c.Close",
     "return:0,xerrors.Errorf(\"\",err)", "for:(sent<packetSize){", "conn.Write",
     "assign:n,err:=c.conn.Write(b[sent:])", "if:(err!=nil)", "c.Close",
     "assign:sentLen:=(4+uint64(sent))", "c.updateTx",
     "return:sentLen,xerrors.Errorf(\"\",handleError(err))", "Size", "assign:sent+=Size(n)", "}",
     "assign:sentLen:=(4+uint64(sent))", "c.updateTx", "return:sentLen,nil"] := rfl

theorem c03_shape_tcp_handleError :
    Shapes.network_tcp_handleError =
   ["if:(strings.Contains(err.Error(),\"use of closed\")||strings.Contains(err.Error(),\"broken pipe\"))",
     "return:ErrClosed", "else", "if:strings.Contains(err.Error(),\"canceled\")",
     "return:ErrCanceled", "else", "if:((err==io.EOF)||strings.Contains(err.Error(),\"EOF\"))",
     "return:ErrEOF", "assign:netErr,ok:=err.(net.Error)", "if:!ok", "return:ErrUnknown",
     "if:netErr.Timeout()", "return:ErrTimeout",
     "if:strings.Contains(err.Error(),\"bad certificate\")", "else", "return:ErrUnknown"] := rfl

theorem c03_shape_encoding_Marshal :
    Shapes.network_encoding_Marshal =
   ["MessageType", "assign:msgType=MessageType(msg)", "if:(msgType==ErrorType)",
     "return:nil,xerrors.Errorf(\"\",reflect.TypeOf(msg))", "assign:b:=new(bytes.Buffer)",
     "binary.Write", "assign:err:=binary.Write(b,globalOrder,msgType)", "if:(err!=nil)",
     "return:nil,xerrors.Errorf(\"\",err)", "protobuf.Encode",
     "assign:buf,err=protobuf.Encode(msg)", "if:(err!=nil)", "if:(log.DebugVisible()>0)",
     "return:nil,xerrors.Errorf(\"\",err)", "b.Write", "assign:_,err=b.Write(buf)",
     "if:(err!=nil)", "return:nil,xerrors.Errorf(\"\",err)", "return:b.Bytes(),nil"] := rfl

theorem c03_shape_encoding_Unmarshal :
    Shapes.network_encoding_Unmarshal =
   ["bytes.NewBuffer", "assign:b:=bytes.NewBuffer(buf)", "binary.Read",
     "assign:err:=binary.Read(b,globalOrder,&tID)", "if:(err!=nil)",
     "return:ErrorType,nil,xerrors.Errorf(\"\",err)", "registry.get",
     "assign:typ,ok:=registry.get(tID)", "if:!ok",
     "return:ErrorType,nil,xerrors.Errorf(\"\",tID.String())", "assign:ptrVal:=reflect.New(typ)",
     "ptrVal.Interface", "assign:ptr:=ptrVal.Interface()", "DefaultConstructors",
     "assign:constructors:=DefaultConstructors(suite)", "b.Bytes",
     "protobuf.DecodeWithConstructors",
     "assign:err:=protobuf.DecodeWithConstructors(b.Bytes(),ptr,constructors)", "if:(err!=nil)",
     "return:ErrorType,nil,xerrors.Errorf(\"\",err)", "return:tID,ptrVal.Interface(),nil"] := rfl

theorem c03_shape_encoding_RegisterMessage :
    Shapes.network_encoding_RegisterMessage =
   ["computeMessageType", "assign:msgType:=computeMessageType(msg)",
     "assign:val:=reflect.ValueOf(msg)", "if:(val.Kind()==reflect.Ptr)", "val.Elem",
     "assign:val=val.Elem()", "val.Type", "assign:t:=val.Type()", "registry.put",
     "return:msgType"] := rfl

theorem c03_shape_encoding_computeMessageType :
    Shapes.network_encoding_computeMessageType =
   ["assign:val:=reflect.ValueOf(msg)", "if:(val.Kind()==reflect.Ptr)", "val.Elem",
     "assign:val=val.Elem()", "val.Type", "Type().String",
     "assign:url:=(NamespaceBodyType+val.Type().String())", "uuid.NewSHA1",
     "assign:u:=uuid.NewSHA1(uuid.NameSpaceURL,conv(url))", "return:MessageTypeID(u)"] := rfl

theorem c03_shape_encoding_MessageType :
    Shapes.network_encoding_MessageType =
   ["computeMessageType", "assign:msgType:=computeMessageType(msg)", "registry.get",
     "assign:_,ok:=registry.get(msgType)", "if:!ok", "return:ErrorType", "return:msgType"] := rfl

theorem c03_shape_encoding_typeRegistry_get :
    Shapes.network_encoding_typeRegistry_get =
   ["lock.Lock", "defer:lock.Unlock", "assign:t,ok:=tr.types[mid]", "return:t,ok"] := rfl

theorem c03_shape_encoding_typeRegistry_put :
    Shapes.network_encoding_typeRegistry_put =
   ["lock.Lock", "defer:lock.Unlock", "assign:tr.types[mid]=typ"] := rfl

theorem c03_shape_encoding_DefaultConstructors :
    Shapes.network_encoding_DefaultConstructors =
   ["assign:constructors:=make(protobuf.Constructors)", "if:(suite!=nil)",
     "return:suite.Point()", "assign:constructors[reflect.TypeOf().Elem()]=func",
     "return:suite.Scalar()", "assign:constructors[reflect.TypeOf().Elem()]=func",
     "return:constructors"] := rfl

theorem c03_shape_encoding_init :
    Shapes.network_encoding_init =
   ["bn256.NewSuiteG1", "NewSuiteG1().Point", "protobuf.RegisterInterface", "bn256.NewSuiteG1",
     "NewSuiteG1().Scalar", "protobuf.RegisterInterface", "bn256.NewSuiteG2",
     "NewSuiteG2().Point", "protobuf.RegisterInterface", "bn256.NewSuiteG2",
     "NewSuiteG2().Scalar", "protobuf.RegisterInterface", "bn256.NewSuiteGT",
     "NewSuiteGT().Point", "protobuf.RegisterInterface", "bn256.NewSuiteGT",
     "NewSuiteGT().Scalar", "protobuf.RegisterInterface", "suites.MustFind", "ed25519.Point",
     "protobuf.RegisterInterface", "ed25519.Scalar", "protobuf.RegisterInterface"] := rfl

theorem c03_shape_router_Router_handleConn_b3 :
    Shapes.network_router_Router_handleConn_b3 =
   ["defer{", "c.Close", "assign:err:=c.Close()", "if:(err!=nil)", "c.Rx", "c.Tx",
     "assign:rx,tx:=c.Rx(),c.Tx()", "traffic.updateRx", "traffic.updateTx", "wg.Done",
     "r.removeConnection", "verifC10Point", "}", "verifC10Point", "c.Remote",
     "assign:address:=c.Remote()", "for:{", "c.Receive", "assign:packet,err:=c.Receive()",
     "verifC10Point", "r.Lock", "assign:paused:=r.paused", "r.Unlock", "if:(paused!=nil)",
     "recv:paused", "return:", "if:r.Closed()",
     "return:", "if:(err!=nil)", "if:xerrors.Is(err,ErrTimeout)",
     "r.triggerConnectionErrorHandlers", "return:",
     "if:(xerrors.Is(err,ErrClosed)||xerrors.Is(err,ErrEOF))",
     "r.triggerConnectionErrorHandlers", "return:", "if:xerrors.Is(err,ErrUnknown)",
     "r.triggerConnectionErrorHandlers", "return:", "continue",
     "assign:packet.ServerIdentity=remote", "verifC10Point", "msgTraffic.updateRx", "r.Dispatch",
     "assign:err:=r.Dispatch(packet)", "if:(err!=nil)", "}"] := rfl

theorem c03_shape_local_LocalConn_Send :
    Shapes.network_local_LocalConn_Send =
   ["Marshal", "assign:buff,err:=Marshal(msg)", "if:(err!=nil)",
     "return:0,xerrors.Errorf(\"\",err)", "assign:sentLen:=uint64(len(buff))", "lc.updateTx",
     "manager.send", "assign:err=lc.manager.send(lc.remote,buff)", "if:(err!=nil)",
     "return:sentLen,xerrors.Errorf(\"\",err)", "return:sentLen,nil"] := rfl

theorem c03_shape_local_LocalConn_Receive :
    Shapes.network_local_LocalConn_Receive =
   ["recv:outgoingQueue", "assign:buff,opened:=<-lc.outgoingQueue", "if:!opened",
     "return:nil,xerrors.Errorf(\"\",ErrClosed)", "lc.updateRx", "Unmarshal",
     "assign:id,body,err:=Unmarshal(buff,lc.suite)", "if:(err!=nil)",
     "return:nil,xerrors.Errorf(\"\",err)",
     "return:&Envelope{MsgType:id,Msg:body,Size:Size(len(buff))},nil"] := rfl

theorem c03_shape_local_LocalManager_send :
    Shapes.network_local_LocalManager_send =
   ["lm.Lock", "defer:lm.Unlock", "send:incomingQueue"] := rfl


end C03

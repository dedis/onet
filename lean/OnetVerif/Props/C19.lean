import OnetVerif.Model.C19
import OnetVerif.Model.C19Proxy
import OnetVerif.Proofs.C19Field
import OnetVerif.Proofs.C19Stats
import OnetVerif.Proofs.C19Net
import OnetVerif.Proofs.C19Files
import Mathlib.Algebra.Order.Field.Rat
import Mathlib.Algebra.Order.BigOperators.Group.List
import OnetVerif.Shapes

set_option linter.unusedSectionVars false

/-! Property C19 — simulation statistics equal the statistics of the recorded measures.

`K` is an arbitrary linearly ordered field (ℚ, ℝ, …) with an arbitrary function `HasSqrt.sq` where
the Go code calls `math.Sqrt`; measure names `κ` are an arbitrary linear order (Go: strings under
`sort.Strings`).  Theorems that do not need exact arithmetic are stated for every number type
`α` with the operations of `Num` — the IEEE instance the driver runs included.  What the statements use beside the
model (`HasSqrt`, `SortedKeys`, `Stats.updates`, `Stats.feed`, `Interleave`, `specFrom`) is defined in `Proofs/C19*.lean`. -/
namespace C19

section exact
variable {K : Type} [Field K] [LinearOrder K] [IsStrictOrderedRing K] [HasSqrt K]

/-- After `Collect` of a measure that stores `xs` (n ≥ 1 values) the reported
count is n, the sum is Σxs, the mean is Σxs / n, the carried `newS` is Σ(x − mean)², the deviation
is `sqrt (newS / (n − 1))` (n ≥ 2; for n = 1 the Go code reports NaN), minimum and maximum are the
least and the greatest stored value; the store itself is untouched. -/
theorem c19_welford (t : Value K) (hne : t.store ≠ []) :
    t.collect.store = t.store ∧
    t.collect.n = t.store.length ∧
    t.collect.sum = t.store.sum ∧
    t.collect.newM = t.store.sum / (t.store.length : K) ∧
    t.collect.newS = (t.store.map fun x => (x - t.collect.newM) * (x - t.collect.newM)).sum ∧
    (2 ≤ t.store.length → t.collect.dev = HasSqrt.sq (t.collect.newS / ((t.store.length : K) - 1))) ∧
    t.collect.min ∈ t.store ∧ (∀ x ∈ t.store, t.collect.min ≤ x) ∧
    t.collect.max ∈ t.store ∧ (∀ x ∈ t.store, x ≤ t.collect.max) := by
  have h := inv_collect t
  refine ⟨collect_store t, h.n, h.sum, h.mean_eq hne, h.m2_eq, fun h2 => ?_, h.minMem hne, h.minLe,
    h.maxMem hne, h.maxGe⟩
  rw [h.dev hne, h.n, Nat.cast_pred (by omega)]

/-- with a function that really is a square root on the non-negative numbers (ℝ: `Real.sqrt`), the
square of the reported deviation is the sample variance Σ(x − mean)² / (n − 1) -/
theorem c19_welford_dev_sq (hsq : ∀ y : K, 0 ≤ y → HasSqrt.sq y * HasSqrt.sq y = y)
    (t : Value K) (h2 : 2 ≤ t.store.length) :
    t.collect.dev * t.collect.dev =
      (t.store.map fun x => (x - t.collect.newM) * (x - t.collect.newM)).sum / ((t.store.length : K) - 1) := by
  have hne : t.store ≠ [] := List.ne_nil_of_length_pos (by omega)
  have h := inv_collect t
  rw [h.dev hne, h.n, ← Nat.cast_pred (by omega), h.m2_eq]
  refine hsq _ (div_nonneg (List.sum_nonneg fun y hy => ?_) (Nat.cast_nonneg _))
  obtain ⟨x, _, rfl⟩ := List.mem_map.mp hy
  exact mul_self_nonneg _

/-- **arrival order does not matter for one measure**: two stores that are permutations of each
other are reported with the same count and the same five columns -/
theorem c19_perm_invariant_value (t u : Value K) (hp : t.store.Perm u.store) :
    t.collect.n = u.collect.n ∧ t.collect.values = u.collect.values := by
  by_cases hne : t.store = []
  · rw [collect_congr t u (hne.trans (hne ▸ hp).nil_eq)]
    exact ⟨rfl, rfl⟩
  · exact (inv_collect t).perm (inv_collect u) hp hne

variable {κ : Type} [LinearOrder κ]

/-- what a write-out reports for a result set: per measure, in key order, its name, count and
five columns (min, max, avg, sum, dev), computed by `Collect` -/
def Stats.report (s : Stats κ K) : List (κ × Nat × List K) :=
  s.collect.vals.map fun kv => (kv.1, kv.2.n, kv.2.values)

private theorem report_eq (s : Stats κ K) (h : SortedKeys s.vals) :
    s.report = s.keys.map fun k =>
      (k, ({ (Value.new : Value K) with store := s.storeAt k }).collect.n,
          ({ (Value.new : Value K) with store := s.storeAt k }).collect.values) := by
  unfold Stats.report Stats.collect Stats.keys keysOf
  rw [List.map_map, List.map_map]
  refine List.map_congr_left fun kv hkv => ?_
  have : kv.2.collect = ({ (Value.new : Value K) with store := s.storeAt kv.1 }).collect :=
    collect_congr _ _ (lookup_of_mem s.vals h kv hkv).symm
  show (kv.1, kv.2.collect.n, kv.2.collect.values) = _
  rw [this]
  rfl

theorem report_congr {s₁ s₂ : Stats κ K} (h1 : SortedKeys s₁.vals) (h2 : SortedKeys s₂.vals)
    (hk : ∀ k, k ∈ s₁.keys ↔ k ∈ s₂.keys) (hst : ∀ k, (s₁.storeAt k).Perm (s₂.storeAt k)) :
    s₁.report = s₂.report := by
  rw [report_eq _ h1, report_eq _ h2, show s₁.keys = s₂.keys from sorted_ext _ _ h1 h2 hk]
  refine List.map_congr_left fun k _ => ?_
  obtain ⟨e1, e2⟩ := c19_perm_invariant_value ({ (Value.new : Value K) with store := s₁.storeAt k })
    ({ (Value.new : Value K) with store := s₂.storeAt k }) (hst k)
  rw [e1, e2]

/-- The report of a result set does not depend on the order in which the
measures arrived: two arrival sequences that are permutations of each other (whatever names,
values and hosts they mix) give the same keys in the same order with the same statistics. -/
theorem c19_perm_invariant (s : Stats κ K) (h : SortedKeys s.vals) (ms₁ ms₂ : List (κ × K))
    (hp : ms₁.Perm ms₂) : (s.updates ms₁).report = (s.updates ms₂).report := by
  refine report_congr (sorted_updates s ms₁ h) (sorted_updates s ms₂ h) (fun k => ?_) fun k => ?_
  · rw [mem_keys_updates, mem_keys_updates, (hp.map _).mem_iff]
  · rw [storeAt_updates s ms₁ h, storeAt_updates s ms₂ h]
    exact List.Perm.append_left _ ((hp.filter _).map _)

/-- **the partition over reporting connections does not matter**: however the measures were
spread over connections and however the monitor interleaved them, the report is that of the
connections' measures taken one connection after the other -/
theorem c19_partition_invariant (s : Stats κ K) (h : SortedKeys s.vals) (parts : List (List (κ × K)))
    (out : List (κ × K)) (hi : Interleave parts out) :
    (s.updates out).report = (s.updates parts.flatten).report :=
  c19_perm_invariant s h out parts.flatten (interleave_perm parts out hi)

end exact

section anynumber
variable {α κ : Type} [Num α] [KeyOrd κ] [DecidableEq κ]

/-- For any number type, IEEE doubles included: after any sequence of
read-outs — print, collect, write header, write values, in any number and order — the final write
leaves the result set in exactly the state a single write would have left it in (so it writes the
same line and every accessor returns the same number); and once collected, further read-outs change
nothing at all. -/
theorem c19_readout_idempotent (s : Stats κ α) (rs : List Readout) :
    (s.readouts rs).readout .values = s.readout .values ∧
    (s.readout .values).readouts rs = s.readout .values := by
  constructor
  · show (s.readouts rs).collect = s.collect
    exact collect_readouts s rs
  · show s.collect.readouts rs = s.collect
    exact readouts_of_collected s rs

/-- reading a bucket (`BucketStats.Get`) is a `Collect` of that bucket and nothing else -/
theorem c19_bucket_get (bs : BucketStats κ α) (i : Int) :
    (bs.get i).1 = bs.map (fun b => if b.idx = i then { b with stats := b.stats.readout .collect } else b) := rfl

/-- After any arrival sequence every bucket has been updated with exactly
the measures whose host index is non-negative and lies in one of the bucket's ranges
(`low ≤ host < high`), in arrival order — nothing else, nothing twice; index, rules and the other
buckets are untouched. -/
theorem c19_buckets_exact (bs : BucketStats κ α) (ms : List (Measure κ α)) :
    bs.feed ms = bs.map (fun b =>
      { b with stats := b.stats.feed (ms.filter fun m => rulesMatch b.rules m.host) }) ∧
    ∀ (rr : List Rule) (h : Int),
      rulesMatch rr h = true ↔ 0 ≤ h ∧ ∃ r ∈ rr, r.low ≤ h ∧ h < r.high :=
  ⟨buckets_feed bs ms, rulesMatch_iff⟩

/-- the monitor hands every measure to the global result set and to the buckets -/
theorem c19_monitor_feed (m : Monitor κ α) (ms : List (Measure κ α)) :
    ms.foldl Monitor.update m = { global := m.global.feed ms, buckets := m.buckets.feed ms } := by
  induction ms generalizing m with
  | nil => rfl
  | cons x ms ih =>
    simp only [List.foldl_cons, ih, Monitor.update, Stats.feed, BucketStats.feed]

/-! ### The monitor's network side (`Model/C19Net.lean`): connections, handler routines, `Listen` -/

/-- For any number type, every schedule: whenever a run of the monitor —
accepts, client writes and hang-ups, decodes, hand-overs to the `Listen` loop, end-of-connection
reports, in any order the code allows — ends with nothing left to deliver, the monitor has been
updated with exactly the records the clients sent (end markers apart), each once, in an order that
keeps every connection's own order: an interleaving of the connections' sequences. -/
theorem c19_listen_interleave (isEnd : κ → Bool) (mon : Monitor κ α) (futures : List (List (Measure κ α)))
    (acts : List Act) (n' : Net κ α) (h : (Net.start mon futures).run isEnd acts = some n')
    (hdone : ∀ c ∈ n'.conns, c.remaining isEnd = []) :
    ∃ out, n'.mon = out.foldl Monitor.update mon ∧ Interleave (futures.map (noEnd isEnd)) out := by
  obtain ⟨out, h1, h2⟩ := run_interleave isEnd acts _ n' h hdone
  exact ⟨out, h1, start_remaining isEnd mon futures ▸ h2⟩

/-- Liveness at quiescence: when, after any schedule, no action is
enabled any more, every client has written everything and hung up, every connection that was accepted
has handed over all its records and has been taken off the list, and — if any was accepted — `Listen`
has returned.  Only a connection that was never accepted can be left with undelivered records, and only
because `Listen` had already returned (it returns as soon as every connection accepted so far has gone). -/
theorem c19_listen_nothing_stuck (isEnd : κ → Bool) (mon : Monitor κ α) (futures : List (List (Measure κ α)))
    (acts : List Act) (n' : Net κ α) (h : (Net.start mon futures).run isEnd acts = some n')
    (hq : n'.canMove isEnd = false) :
    (∀ c ∈ n'.conns, c.closed = true ∧ c.future = []) ∧
    (∀ c ∈ n'.conns, c.accepted = true → c.gone = true ∧ c.remaining isEnd = []) ∧
    (∀ c ∈ n'.conns, c.accepted = false → n'.finished = true) ∧
    ((∃ c ∈ n'.conns, c.accepted = true) → n'.finished = true) :=
  quiescent isEnd n' (run_inv Net.Inv.step acts _ n' (Net.Inv.init mon futures) h).wf hq

/-- Every action consumes weight, so no schedule is longer than the weight
of the first state (three per record, three per connection): quiescence is always reached. -/
theorem c19_listen_terminates (isEnd : κ → Bool) (mon : Monitor κ α) (futures : List (List (Measure κ α)))
    (acts : List Act) (n' : Net κ α) (h : (Net.start mon futures).run isEnd acts = some n') :
    acts.length ≤ (futures.map fun f => 3 * f.length + 3).sum := by
  have := run_length isEnd acts _ n' h
  rw [start_weight] at this
  omega

/-- the read-out of the simulation driver (`simul/build.go:146-175`: the global result set is logged,
then header — first configuration only — and values are written for every result set): the line
written for each result set is the line a single `WriteValues` would have written, and the result set
is left as that single write would have left it -/
theorem c19_build_readout (s : Stats κ α) (first : Bool) (j : Nat) :
    s.readouts (buildReadouts first j) = s.readout .values := by
  rw [buildReadouts, Stats.readouts, List.foldl_append]
  exact collect_readouts s _

end anynumber

section exact2
variable {K : Type} [Field K] [LinearOrder K] [IsStrictOrderedRing K] [HasSqrt K] {κ : Type} [LinearOrder κ]

/-- the same for a whole monitor: the global result set and every bucket report the same whatever
the arrival order of the measures -/
theorem c19_perm_invariant_monitor (m : Monitor κ K) (hg : SortedKeys m.global.vals)
    (hb : ∀ b ∈ m.buckets, SortedKeys b.stats.vals) (ms₁ ms₂ : List (Measure κ K)) (hp : ms₁.Perm ms₂) :
    (ms₁.foldl Monitor.update m).global.report = (ms₂.foldl Monitor.update m).global.report ∧
    (ms₁.foldl Monitor.update m).buckets.map (fun b => (b.idx, b.rules, b.stats.report)) =
      (ms₂.foldl Monitor.update m).buckets.map (fun b => (b.idx, b.rules, b.stats.report)) := by
  rw [c19_monitor_feed, c19_monitor_feed]
  constructor
  · simp only [feed_eq_updates]
    exact c19_perm_invariant _ hg _ _ (hp.map _)
  · simp only [buckets_feed, List.map_map]
    apply List.map_congr_left
    intro b hbm
    simp only [Function.comp, feed_eq_updates]
    rw [c19_perm_invariant _ (hb b hbm) _ _ ((hp.filter _).map _)]

/-- The monitor over the network reports the statistics of what the
clients recorded.  Start `Listen` with any clients and the records they are going to send; take any
schedule until nothing is enabled; if every connection was accepted (no client came after all the
others had left) then `Listen` has returned and the global result set and every bucket report exactly
what they would report had the records of connection 0, then those of connection 1, … been fed one
after the other — whatever the partition over connections and whatever the schedule. -/
theorem c19_listen_reports_all (isEnd : κ → Bool) (m : Monitor κ K) (hg : SortedKeys m.global.vals)
    (hb : ∀ b ∈ m.buckets, SortedKeys b.stats.vals) (futures : List (List (Measure κ K)))
    (acts : List Act) (n' : Net κ K) (h : (Net.start m futures).run isEnd acts = some n')
    (hq : n'.canMove isEnd = false) (hall : ∀ c ∈ n'.conns, c.accepted = true) :
    (futures ≠ [] → n'.finished = true) ∧
    n'.mon.global.report = (((futures.map (noEnd isEnd)).flatten).foldl Monitor.update m).global.report ∧
    n'.mon.buckets.map (fun b => (b.idx, b.rules, b.stats.report)) =
      (((futures.map (noEnd isEnd)).flatten).foldl Monitor.update m).buckets.map
        (fun b => (b.idx, b.rules, b.stats.report)) := by
  obtain ⟨_, q2, _, q4⟩ := c19_listen_nothing_stuck isEnd m futures acts n' h hq
  have hdone : ∀ c ∈ n'.conns, c.remaining isEnd = [] := fun c hc => (q2 c hc (hall c hc)).2
  obtain ⟨out, ho, hi⟩ := c19_listen_interleave isEnd m futures acts n' h hdone
  have hp := interleave_perm _ _ hi
  obtain ⟨p1, p2⟩ := c19_perm_invariant_monitor m hg hb out _ hp
  refine ⟨?_, by rw [ho]; exact p1, by rw [ho]; exact p2⟩
  intro hne
  have hlen : n'.conns.length = futures.length :=
    run_inv (P := fun n => n.conns.length = futures.length) (fun hn hs => (step_conns_length hs).trans hn) acts _ n'
      (List.length_map _) h
  obtain ⟨c, hc⟩ := List.exists_mem_of_length_pos (hlen ▸ List.length_pos_iff.mpr hne)
  exact q4 ⟨c, hc, hall c hc⟩

end exact2

section average
variable {α κ : Type} [Num α] [LinearOrder κ]

private theorem stores_flatten (ss : List (Stats κ α)) (k : κ) :
    (ss.filterMap (·.value k)).flatMap (·.store) = (ss.map (·.storeAt k)).flatten := by
  induction ss with
  | nil => rfl
  | cons s ss ih =>
    have hs : s.storeAt k = ((s.value k).map (·.store)).getD [] := by
      unfold Stats.storeAt lookupStore Stats.value
      cases s.vals.find? (·.1 = k) <;> rfl
    rw [List.filterMap_cons, List.map_cons, List.flatten_cons, hs]
    cases s.value k with
    | none => exact ih
    | some v => exact congrArg (v.store ++ ·) ih

/-- The average of result sets `s0 :: rest` has the static fields and the
measures of `s0`, and each measure stores the union (concatenation, in the order of the result
sets) of what the result sets stored for it — a result set that lacks the measure contributes
nothing.  Its read-out is therefore the statistics of the union (`c19_welford`). -/
theorem c19_average_union (s0 : Stats κ α) (rest : List (Stats κ α)) :
    (averageStats (s0 :: rest)).static = s0.static ∧
    (averageStats (s0 :: rest)).keys = s0.keys ∧
    ∀ k ∈ s0.keys, (averageStats (s0 :: rest)).storeAt k = ((s0 :: rest).map (·.storeAt k)).flatten := by
  refine ⟨rfl, ?_, ?_⟩
  · simp [averageStats, Stats.keys, keysOf, Function.comp]
  · intro k hk
    have := lookup_map s0.vals (fun k => averageValue ((s0 :: rest).filterMap (·.value k))) k
    simp only [Stats.storeAt, averageStats]
    rw [this, if_pos (show k ∈ keysOf s0.vals from hk)]
    simp only [averageValue]
    exact stores_flatten (s0 :: rest) k

end average

section unrepaired
/-! ### The code before the `fix:` commit (kept as the negation witnesses of the full statement)

That `Value.Collect` clears only `sum`: count, mean and M2 are carried over from the previous
read-out, and the maximum starts from 0. -/
variable {α : Type} [Num α]

/-- the loop body before the repair: `max` is only ever raised -/
def Value.stepLegacy (t : Value α) (x : α) : Value α :=
  { t.step x with max := if Num.lt t.max x then x else t.max }

/-- `Collect` before the repair: only `sum` is cleared -/
def Value.collectLegacy (t : Value α) : Value α :=
  t.store.foldl Value.stepLegacy { t with sum := zero }

private theorem legacy_fold (xs : List α) (t : Value α) :
    (xs.foldl Value.stepLegacy t).n = t.n + xs.length ∧ (xs.foldl Value.stepLegacy t).store = t.store := by
  induction xs generalizing t with
  | nil => exact ⟨rfl, rfl⟩
  | cons x xs ih =>
    rw [List.foldl_cons, List.length_cons, (ih _).1, (ih _).2]
    exact ⟨by rw [show (t.stepLegacy x).n = t.n + 1 from step_n t x]; omega, step_store t x⟩

/-- the full statement failed on the unrepaired code: a second read-out reported twice the number
of recorded values (and a third one three times, …) -/
theorem c19_legacy_second_readout_doubles (t : Value α) (h : t.n = 0) :
    t.collectLegacy.n = t.store.length ∧ t.collectLegacy.collectLegacy.n = 2 * t.store.length := by
  have key : ∀ u : Value α, u.collectLegacy.n = u.n + u.store.length ∧ u.collectLegacy.store = u.store :=
    fun u => legacy_fold u.store { u with sum := zero }
  have a := key t
  have b := key t.collectLegacy
  constructor
  · rw [a.1, h]; omega
  · rw [b.1, a.1, a.2, h]; omega

/-- … and an all-negative store was reported with maximum 0, which is none of the recorded values -/
theorem c19_legacy_max_not_recorded {K : Type} [Field K] [LinearOrder K] [IsStrictOrderedRing K] [HasSqrt K]
    (t : Value K) (h0 : 0 ≤ t.max) : 0 ≤ t.collectLegacy.max := by
  have : ∀ (xs : List K) (u : Value K), 0 ≤ u.max → 0 ≤ (xs.foldl Value.stepLegacy u).max := by
    intro xs
    induction xs with
    | nil => intro u h; exact h
    | cons x xs ih =>
      intro u h
      simp only [List.foldl_cons]
      apply ih
      simp only [Value.stepLegacy, num_lt, decide_eq_true_eq]
      split
      · next hlt => exact le_of_lt (lt_of_le_of_lt h hlt)
      · exact h
  exact this _ _ h0

end unrepaired

instance : HasSqrt ℚ := ⟨id⟩

example : ∃ t : Value ℚ, t.store ≠ [] ∧ 2 ≤ t.store.length :=
  ⟨{ (Value.new : Value ℚ) with store := [1, 2, 4] }, by simp, by simp⟩

example : ([(2, (1 : ℚ)), (1, 5), (2, 3)] : List (ℕ × ℚ)).Perm [(1, 5), (2, 3), (2, 1)] ∧
    SortedKeys (({} : Stats ℕ ℚ).vals) := by
  constructor
  · decide
  · simp [SortedKeys, keysOf]

example : Interleave [[(1 : ℕ), 2], [3]] [1, 3, 2] := by
  have h0 : Interleave [([] : List ℕ), []] [] := .done _ (by simp)
  have h1 : Interleave [[(2 : ℕ)], []] [2] := .step [] [[]] 2 [] [] h0
  have h2 : Interleave [[(2 : ℕ)], [3]] [3, 2] := .step [[2]] [] 3 [] [2] h1
  exact .step [] [[3]] 1 [2] [3, 2] h2

/-- a schedule of the monitor with two clients (name 0 is the end marker): everything is enabled in
turn, at the end nothing is enabled, every connection was accepted, `Listen` has returned — the
hypotheses of `c19_listen_nothing_stuck` / `c19_listen_reports_all` can be met -/
example : ∃ n', (Net.start ({ global := {} } : Monitor ℕ ℚ) [[⟨1, 5, 0⟩, ⟨0, 0, 0⟩], [⟨1, 7, 2⟩]]).run (· == 0)
      [.accept 0, .accept 1, .write 0, .write 1, .decode 1, .write 0, .hangup 0, .decode 0, .deliver 1,
       .deliver 0, .decode 0, .hangup 1, .eof 1, .eof 0] = some n' ∧
    n'.canMove (· == 0) = false ∧ (∀ c ∈ n'.conns, c.accepted = true) ∧ n'.finished = true := by
  refine ⟨_, rfl, ?_, ?_, ?_⟩ <;> decide

/-- why `c19_listen_reports_all` asks that every connection was accepted: `Listen` returns as soon as
all connections accepted *so far* have gone; a client that comes later is never served, its record
(here the value 7 of connection 1) is in no result set although nothing is enabled any more -/
theorem c19_listen_late_client_not_served :
    ∃ n', (Net.start ({ global := {} } : Monitor ℕ ℚ) [[⟨1, 5, 0⟩], [⟨1, 7, 2⟩]]).run (· == 0)
      [.accept 0, .write 0, .hangup 0, .decode 0, .deliver 0, .eof 0, .write 1, .hangup 1] = some n' ∧
    n'.canMove (· == 0) = false ∧ n'.finished = true ∧
    n'.conns.map (fun c => (c.remaining (· == 0)).length) = [0, 1] := by
  refine ⟨_, rfl, ?_, ?_, ?_⟩ <;> decide

example : rulesMatch [{ low := 2, high := 5 }] 4 = true ∧ rulesMatch [{ low := 2, high := 5 }] 5 = false ∧
    rulesMatch [{ low := -3, high := 5 }] (-1) = false := by decide


/-! ### clients that report through the proxy (`Model/C19Proxy.lean`) -/
section proxy
variable {K : Type} [Field K] [LinearOrder K] [IsStrictOrderedRing K] [HasSqrt K] {κ : Type} [LinearOrder κ]

/-- While the monitor accepts connections, `serve` as it is relays every client —
none is refused, the endpoint stays in the rotation — however the clients before it ended (orderly or by a reset):
a client's end is its own business -/
theorem c19_proxy_serves_every_client (cs : List (Proxy.Client κ K)) (s : Proxy.St κ K) (ha : s.active = true) :
    (Proxy.run .code s cs).active = true ∧ (Proxy.run .code s cs).refused = s.refused ∧
    (Proxy.run .code s cs).relayed = s.relayed ++ cs.map (·.sent) := by
  induction cs generalizing s with
  | nil => exact ⟨ha, rfl, (List.append_nil _).symm⟩
  | cons c rest ih =>
    have hs : Proxy.serve .code true s c = { s with relayed := s.relayed ++ [c.sent] } := by
      unfold Proxy.serve
      rw [ha]
      cases c.ending <;> rfl
    obtain ⟨h1, h2, h3⟩ := ih { s with relayed := s.relayed ++ [c.sent] } ha
    rw [Proxy.run, List.foldl_cons, hs]
    exact ⟨h1, h2, h3.trans (by rw [List.map_cons, List.append_assoc]; rfl)⟩

/-- The statistics of a run whose clients all report through the proxy.  One idle
connection straight to the monitor plus the relayed clients are the monitor's connections; take any schedule of the
monitor until nothing is enabled, every connection accepted: `Listen` has returned and the global result set and
every bucket report what they would report had the records of all clients been fed one after the other — whatever
way each client ended and however the records were spread over the clients -/
theorem c19_proxy_reports_all (isEnd : κ → Bool) (m : Monitor κ K) (hg : SortedKeys m.global.vals)
    (hb : ∀ b ∈ m.buckets, SortedKeys b.stats.vals) (cs : List (Proxy.Client κ K))
    (acts : List Act) (n' : Net κ K)
    (h : (Net.start m ([] :: (Proxy.run .code {} cs).relayed)).run isEnd acts = some n')
    (hq : n'.canMove isEnd = false) (hall : ∀ c ∈ n'.conns, c.accepted = true) :
    n'.finished = true ∧ (Proxy.run .code ({} : Proxy.St κ K) cs).refused = 0 ∧
    n'.mon.global.report =
      ((((cs.map (·.sent)).map (noEnd isEnd)).flatten).foldl Monitor.update m).global.report ∧
    n'.mon.buckets.map (fun b => (b.idx, b.rules, b.stats.report)) =
      ((((cs.map (·.sent)).map (noEnd isEnd)).flatten).foldl Monitor.update m).buckets.map
        (fun b => (b.idx, b.rules, b.stats.report)) := by
  obtain ⟨_, hr, hrel⟩ := c19_proxy_serves_every_client cs ({} : Proxy.St κ K) rfl
  rw [show (Proxy.run .code ({} : Proxy.St κ K) cs).relayed = cs.map (·.sent) from hrel] at h
  obtain ⟨hf, h1, h2⟩ := c19_listen_reports_all isEnd m hg hb _ acts n' h hq hall
  exact ⟨hf (List.cons_ne_nil _ _), hr, h1, h2⟩

/-- why the copy loop must not take the endpoint out of the rotation: in the variant that does so when
`io.Copy(out, in)` ends with an error, a client that is reset makes the proxy close the next client's connection
at once — what that client records reaches no result set (seeded change C19r6-B) -/
theorem c19_proxy_reset_blocks_next_client_variant :
    let cs : List (Proxy.Client ℕ ℚ) := [⟨[⟨1, 5, 0⟩], .reset⟩, ⟨[⟨2, 7, 1⟩], .orderly⟩]
    (Proxy.run .deactivateOnCopyError {} cs).refused = 1 ∧
    (Proxy.run .deactivateOnCopyError {} cs).relayed.length = 1 ∧
    (Proxy.run .code {} cs).refused = 0 ∧ (Proxy.run .code {} cs).relayed.length = 2 := by
  decide

end proxy

section writeout
variable {α κ : Type} [Num α] [LinearOrder κ]

private theorem zip_flatMap {X A B : Type} (f : X → List A) (g : X → List B) (h : ∀ x, (f x).length = (g x).length) :
    ∀ l : List X, (l.flatMap f).length = (l.flatMap g).length ∧
      (l.flatMap f).zip (l.flatMap g) = l.flatMap fun x => (f x).zip (g x)
  | [] => ⟨rfl, rfl⟩
  | x :: l => by
    obtain ⟨hl, hz⟩ := zip_flatMap f g h l
    simp only [List.flatMap_cons]
    rw [List.length_append, List.length_append, h x, hl, List.zip_append (h x), hz]
    exact ⟨rfl, rfl⟩

/-- `Stats.WriteHeader` / `Stats.WriteValues`, stats.go:74-113: for every result set —
any measures, any number of them — the header and a values line have the same number of columns, and column for
column the header names the measure and the statistic (`0 … 4` = `_min _max _avg _sum _dev`) whose value the
values line carries there: both walk `keys` in the same order.  Falsified by a `WriteValues` that walks the map
(`for _, v := range s.values`, as `String()` does), by a different order of the five fields in `HeaderFields` and
`Values`, or by a column left out on one side. -/
theorem c19_columns_aligned (s : Stats κ α) :
    s.headerCols.length = s.valueCols.length ∧
    s.headerCols.zip s.valueCols = s.vals.flatMap fun kv =>
      let v := kv.2.collect
      [((kv.1, 0), v.min), ((kv.1, 1), v.max), ((kv.1, 2), v.newM), ((kv.1, 3), v.sum), ((kv.1, 4), v.dev)] := by
  have hv : s.valueCols = s.vals.flatMap fun kv => kv.2.collect.values := by
    rw [Stats.valueCols, Stats.collect, List.flatMap_map]
  rw [hv, Stats.headerCols]
  exact zip_flatMap (fun kv : κ × Value α => (List.range 5).map fun i => (kv.1, i)) (fun kv => kv.2.collect.values)
    (fun _ => rfl) s.vals

/-- the static columns line up as well (the keys of `staticKeys` that have a value, in that order, on both lines) -/
theorem c19_static_columns_aligned (s : Stats κ α) :
    s.staticHeader.zip s.staticValues = s.static ∧ s.staticHeader.length = s.staticValues.length := by
  exact ⟨(List.zip_of_prod rfl rfl).symm, (List.length_map _).trans (List.length_map _).symm⟩

/-- `Stats.Update` (`append` + `sort.Strings`): after any sequence of measures the measure
columns appear in strictly ascending name order, one group per name that was recorded — whatever the arrival order.
Falsified by an `Update` that does not re-sort (`keys` in arrival order) or that appends a name twice. -/
theorem c19_column_order (ms : List (κ × α)) :
    (({} : Stats κ α).updates ms).keys.Pairwise (· < ·) ∧
    ∀ k, k ∈ (({} : Stats κ α).updates ms).keys ↔ k ∈ ms.map (·.1) := by
  refine ⟨sorted_updates _ ms List.Pairwise.nil, fun k => ?_⟩
  rw [mem_keys_updates]
  exact or_iff_right List.not_mem_nil

/-- Two result sets in which the same measure names were recorded (in whatever
order, however often, with whatever values) have the same header — so the header `RunTests` writes for run 0
labels the values line of a later run correctly whenever that run recorded the same measures. -/
theorem c19_header_fits_same_names (ms₁ ms₂ : List (κ × α)) (h : ∀ k, k ∈ ms₁.map (·.1) ↔ k ∈ ms₂.map (·.1)) :
    (({} : Stats κ α).updates ms₁).headerCols = (({} : Stats κ α).updates ms₂).headerCols := by
  have h1 := c19_column_order (α := α) ms₁
  have h2 := c19_column_order (α := α) ms₂
  have hk : (({} : Stats κ α).updates ms₁).keys = (({} : Stats κ α).updates ms₂).keys :=
    sorted_ext _ _ h1.1 h2.1 (fun k => by rw [h1.2, h2.2, h])
  have hc : ∀ s : Stats κ α, s.headerCols = s.keys.flatMap fun k => (List.range 5).map fun i => (k, i) := by
    intro s; simp [Stats.headerCols, Stats.keys, keysOf, List.flatMap_map]
  rw [hc, hc, hk]

example : (({} : Stats ℕ ℚ).updates [(2, 1), (1, 5), (2, 3)]).keys = [1, 2] := by decide

variable {S : Type}

/-- `simul.RunTests`, build.go:134-181: for every list of runs (each a list of result
sets, or an error), every `-range` and every file index `j`: file `j` receives, in run order, the lines of the
`j`-th result set of every run that is inside the range, did not fail and has a `j`-th result set — nothing else,
nothing twice — and exactly as many files are opened as the widest such run has result sets.  Falsified by
`files[j]` indexed by anything but the bucket index (e.g. a file list that is reset per run, or `append` without
the `j >= len(files)` test), by a range test that is off by one, by a failed run that is written. -/
theorem c19_runtests_files (simRange : List Nat) (runs : List (Option (List S))) (j : Nat) :
    (runTests simRange runs)[j]?.getD [] = specFrom (getStartStop simRange runs.length) j 0 runs ∧
    (runTests simRange runs).length = widthFrom (getStartStop simRange runs.length) 0 runs := by
  exact ⟨(runTestsFrom_get _ runs 0 [] j).trans (List.nil_append _), (runTestsFrom_length _ runs 0 []).trans (Nat.zero_max _)⟩

def Line.isHeader : Line S → Bool
  | .header _ => true
  | .values _ => false

private theorem specFrom_no_header (ss : Int × Int) (j : Nat) : ∀ (runs : List (Option (List S))) (i : Nat), 0 < i →
    ∀ l ∈ specFrom ss j i runs, l.isHeader = false
  | [], i, _, l, hl => nomatch hl
  | r :: rs, i, hi, l, hl => by
    unfold specFrom at hl
    rw [List.mem_append] at hl
    rcases hl with hl | hl
    · have hs : ∃ s, l ∈ runLines i s := by
        split at hl
        · cases r with
          | none => cases hl
          | some sets =>
            change l ∈ ((sets[j]?).map (runLines i)).getD [] at hl
            cases hs : sets[j]? with
            | none => rw [hs] at hl; cases hl
            | some s => rw [hs] at hl; exact ⟨s, hl⟩
        · cases hl
      obtain ⟨s, hs⟩ := hs
      rw [runLines, if_neg (Nat.ne_of_gt hi)] at hs
      cases List.mem_singleton.mp hs
      rfl
    · exact specFrom_no_header ss j rs (i + 1) (Nat.succ_pos i) l hl

/-- In every file a header line can only be the first line written, and it is written
exactly when run 0 is inside the range, did not fail and has that result set: every later line is a values line.
(With `-range 2:3` the files are opened in append mode and get no header: the lines go under the header an earlier
invocation wrote.)  Falsified by `if i == start`, by a header per run, by a header written after the values. -/
theorem c19_runtests_header_once (simRange : List Nat) (r0 : Option (List S)) (rest : List (Option (List S))) (j : Nat) :
    ∃ first, (runTests simRange (r0 :: rest))[j]?.getD [] = first ++ specFrom (getStartStop simRange (r0 :: rest).length) j 1 rest ∧
      (∀ l ∈ specFrom (getStartStop simRange (r0 :: rest).length) j 1 rest, l.isHeader = false) ∧
      first = (if inRange (getStartStop simRange (r0 :: rest).length) 0 then
                 match r0 with
                 | some sets => match sets[j]? with
                   | some s => [Line.header s, Line.values s]
                   | none => []
                 | none => []
               else []) := by
  refine ⟨_, ?_, specFrom_no_header _ j rest 1 (by omega), rfl⟩
  rw [(c19_runtests_files simRange (r0 :: rest) j).1]
  generalize getStartStop simRange (r0 :: rest).length = ss
  show (_ ++ specFrom ss j 1 rest) = _
  congr 1
  cases inRange ss 0 with
  | false => rfl
  | true =>
    cases r0 with
    | none => rfl
    | some sets =>
      simp only [if_true]
      cases hs : sets[j]? with
      | none => simp
      | some v => simp [runLines]

/-- without a range every run is executed; `a:b` executes exactly the runs a..b; `a` only run a; `a:` from a on;
a first field that is no number executes everything (`:4` too) -/
theorem c19_range_none_runs_all (n i : Nat) (h : i < n) : inRange (getStartStop [] n) i = true := by
  rw [show getStartStop [] (n : Int) = (0, (n : Int) - 1) from rfl]
  simp only [inRange, Bool.and_eq_true, decide_eq_true_eq]
  omega

example : getStartStop [51, 58, 52] 10 = (3, 4) ∧ getStartStop [51] 10 = (3, 3) ∧
    getStartStop [51, 58] 10 = (3, 10) ∧ getStartStop [58, 52] 10 = (0, 9) ∧ getStartStop [] 10 = (0, 9) := by
  decide

/-- a run with one result set after a run with three: the second and third file get the lines of the first run only -/
example : runTests [] [some ["a0", "a1", "a2"], none, some ["c0"]] =
    [[.header "a0", .values "a0", .values "c0"], [.header "a1", .values "a1"], [.header "a2", .values "a2"]] := by
  decide

/-- `-range 1:2`: no header anywhere, the file of a bucket that only run 2 has is opened then -/
example : runTests [49, 58, 50] [some ["a0"], some ["b0"], some ["c0", "c1"], some ["d0"]] =
    [[.values "b0", .values "c0"], [.values "c1"]] := by
  decide

/-- the open mode: a range appends to what an earlier invocation left, no range starts the file anew -/
theorem c19_open_mode {X : Type} (old new : List X) (r : List Nat) :
    fileAfter [] old new = new ∧ (r ≠ [] → fileAfter r old new = old ++ new) := by
  refine ⟨rfl, fun h => ?_⟩
  cases r with
  | nil => exact absurd rfl h
  | cons a l => rfl

end writeout

/-! ### the code regions the model stands for
Regenerated from /repo's source on every run (`harness/cmd/astfacts` → `OnetVerif/Shapes.lean`): the
calls that matter for synchronisation and data flow, the lock regions and (for decision logic) the
conditions, in source order.  A re-ordering, a dropped call or a changed condition breaks these
obligations even when no sampled input or schedule shows a difference; the check then searches for
a failing input. -/
theorem c19_shape_monitor_stats_Value_Store :
    Shapes.simul_monitor_stats_Value_Store =
   ["t.Lock", "defer:t.Unlock"] := rfl

theorem c19_shape_monitor_stats_Value_Collect :
    Shapes.simul_monitor_stats_Value_Collect =
   ["t.Lock", "defer:t.Unlock", "if:((t.min>newTime)||(t.n==0))",
     "if:((t.max<newTime)||(t.n==0))", "if:(t.n==1)", "else", "float64", "float64", "math.Sqrt"] := rfl

theorem c19_shape_monitor_stats_AverageValue :
    Shapes.simul_monitor_stats_AverageValue =
   ["if:(len(st)<1)", "return:new(Value)", "if:(s.name!=name)", "return:new(Value)", "s.Lock",
     "s.Unlock", "return:&t"] := rfl

theorem c19_shape_monitor_stats_AverageStats :
    Shapes.simul_monitor_stats_AverageStats =
   ["new().init", "stats[].Lock", "stats[].Unlock", "stat.Lock", "stat.Unlock", "stat.Unlock",
     "AverageValue"] := rfl

theorem c19_shape_monitor_stats_Stats_Update :
    Shapes.simul_monitor_stats_Stats_Update =
   ["s.Lock", "defer:s.Unlock", "NewValue", "sort.Strings", "value.Store"] := rfl

theorem c19_shape_monitor_stats_Stats_Collect :
    Shapes.simul_monitor_stats_Stats_Collect =
   ["s.Lock", "defer:s.Unlock", "v.Filter", "v.Collect"] := rfl

theorem c19_shape_monitor_stats_Stats_WriteValues :
    Shapes.simul_monitor_stats_Stats_WriteValues =
   ["s.Collect", "s.Lock", "defer:s.Unlock", "v.Values"] := rfl

theorem c19_shape_monitor_bucket_stats_BucketStats_Set :
    Shapes.simul_monitor_bucket_stats_BucketStats_Set =
   ["newBucketRule"] := rfl

theorem c19_shape_monitor_bucket_stats_BucketStats_Get :
    Shapes.simul_monitor_bucket_stats_BucketStats_Get =
   ["s.Collect"] := rfl

theorem c19_shape_monitor_bucket_stats_BucketStats_Update :
    Shapes.simul_monitor_bucket_stats_BucketStats_Update =
   ["rr.Match", "buckets[].Update"] := rfl

theorem c19_shape_monitor_bucket_stats_bucketRule_Match :
    Shapes.simul_monitor_bucket_stats_bucketRule_Match =
   ["return:((index>=r.low)&&(index<r.high))"] := rfl

theorem c19_shape_monitor_monitor_NewMonitor :
    Shapes.simul_monitor_monitor_NewMonitor =
   ["newBucketStats", "verifNewMonitor"] := rfl

theorem c19_shape_monitor_monitor_Monitor_Listen :
    Shapes.simul_monitor_monitor_Monitor_Listen =
   ["strconv.Itoa", "net.Listen", "ln.Addr", "Addr().String", "net.SplitHostPort",
     "send:sinkPortChan", "listenerLock.Lock", "listenerLock.Unlock", "go{", "ln.Accept",
     "mutexConn.Lock", "conn.RemoteAddr", "RemoteAddr().String", "go{", "m.handleConnection",
     "}", "mutexConn.Unlock", "}", "recv:measures", "m.update", "recv:done", "mutexConn.Lock",
     "listenerLock.Lock", "listener.Close", "listenerLock.Unlock", "mutexConn.Unlock",
     "mutexConn.Lock", "mutexConn.Unlock"] := rfl

theorem c19_shape_monitor_monitor_Monitor_handleConnection :
    Shapes.simul_monitor_monitor_Monitor_handleConnection =
   ["json.NewDecoder", "dec.Decode", "send:measures", "send:done", "conn.RemoteAddr",
     "RemoteAddr().String"] := rfl

theorem c19_shape_monitor_monitor_Monitor_update :
    Shapes.simul_monitor_monitor_Monitor_update =
   ["stats.Update", "buckets.Update"] := rfl

theorem c19_shape_monitor_measure_NewTimeMeasure :
    Shapes.simul_monitor_measure_NewTimeMeasure =
   ["NewTimeMeasureWithHost"] := rfl

theorem c19_shape_monitor_measure_NewTimeMeasureWithHost :
    Shapes.simul_monitor_measure_NewTimeMeasureWithHost =
   ["tm.reset"] := rfl

theorem c19_shape_monitor_measure_TimeMeasure_Record :
    Shapes.simul_monitor_measure_TimeMeasure_Record =
   ["time.Since", "float64", "newSingleMeasureWithHost", "getDiffRTime", "Wall.Record",
     "CPU.Record", "User.Record", "tm.reset"] := rfl

theorem c19_shape_monitor_measure_TimeMeasure_reset :
    Shapes.simul_monitor_measure_TimeMeasure_reset =
   ["getRTime", "newSingleMeasureWithHost", "newSingleMeasureWithHost", "time.Now"] := rfl

theorem c19_shape_monitor_measure_NewCounterIOMeasure :
    Shapes.simul_monitor_measure_NewCounterIOMeasure =
   ["NewCounterIOMeasureWithHost"] := rfl

theorem c19_shape_monitor_measure_NewCounterIOMeasureWithHost :
    Shapes.simul_monitor_measure_NewCounterIOMeasureWithHost =
   ["counter.Tx", "counter.Rx", "counter.MsgTx", "counter.MsgRx"] := rfl

theorem c19_shape_monitor_measure_CounterIOMeasure_Record :
    Shapes.simul_monitor_measure_CounterIOMeasure_Record =
   ["counter.Rx", "float64", "newSingleMeasureWithHost", "counter.Tx", "float64",
     "newSingleMeasureWithHost", "counter.MsgRx", "float64", "newSingleMeasureWithHost",
     "counter.MsgTx", "float64", "newSingleMeasureWithHost", "read.Record", "written.Record",
     "readMsg.Record", "writtenMsg.Record"] := rfl

theorem c19_shape_monitor_measure_RecordSingleMeasureWithHost :
    Shapes.simul_monitor_measure_RecordSingleMeasureWithHost =
   ["newSingleMeasureWithHost", "sm.Record"] := rfl

theorem c19_shape_monitor_measure_newSingleMeasureWithHost :
    Shapes.simul_monitor_measure_newSingleMeasureWithHost =
   [] := rfl

theorem c19_shape_monitor_measure_singleMeasure_Record :
    Shapes.simul_monitor_measure_singleMeasure_Record =
   ["send"] := rfl

theorem c19_shape_monitor_monitor_Monitor_InsertBucket :
    Shapes.simul_monitor_monitor_Monitor_InsertBucket =
   ["buckets.Set"] := rfl

theorem c19_shape_monitor_bucket_stats_bucketRules_Match :
    Shapes.simul_monitor_bucket_stats_bucketRules_Match =
   ["if:(host<0)", "return:false", "if:rule.Match(host)", "return:true", "return:false"] := rfl

theorem c19_shape_monitor_bucket_stats_newBucketRule :
    Shapes.simul_monitor_bucket_stats_newBucketRule =
   ["if:(len(parts)!=2)", "return:", "strconv.Atoi", "if:(err!=nil)", "return:", "strconv.Atoi",
     "if:(err!=nil)", "return:", "return:"] := rfl

theorem c19_shape_monitor_measure_ConnectSink :
    Shapes.simul_monitor_measure_ConnectSink =
   ["global.Lock", "defer:global.Unlock", "net.Dial", "json.NewEncoder"] := rfl

theorem c19_shape_monitor_measure_send :
    Shapes.simul_monitor_measure_send =
   ["global.Lock", "defer:global.Unlock", "if:(global.connection==nil)",
     "return:xerrors.New(\"\")", "encoder.Encode", "if:(err==nil)", "time.Duration",
     "time.Sleep", "if:!ok", "return:xerrors.New(\"\")", "return:nil"] := rfl

theorem c19_shape_monitor_measure_EndAndCleanup :
    Shapes.simul_monitor_measure_EndAndCleanup =
   ["newSingleMeasure", "send", "global.Lock", "defer:global.Unlock", "connection.Close"] := rfl

theorem c19_shape_monitor_measure_RecordSingleMeasure :
    Shapes.simul_monitor_measure_RecordSingleMeasure =
   ["RecordSingleMeasureWithHost"] := rfl

theorem c19_shape_monitor_measure_newSingleMeasure :
    Shapes.simul_monitor_measure_newSingleMeasure =
   ["newSingleMeasureWithHost"] := rfl

theorem c19_shape_build_RunTest :
    Shapes.simul_build_RunTest =
   ["CheckHosts", "rc.Delete", "rc.Map", "monitor.NewStats",
     "assign:stats:=conv{monitor.NewStats(rc.Map(),\"\",\"\")}", "deployP.Cleanup",
     "assign:err:=deployP.Cleanup()", "if:(err!=nil)", "return:nil,xerrors.Errorf(\"\",err)",
     "deployP.Deploy", "assign:err:=deployP.Deploy(rc)", "if:(err!=nil)",
     "return:nil,xerrors.Errorf(\"\",err)", "monitor.NewMonitor",
     "assign:m:=monitor.NewMonitor(stats[0])", "uint16", "assign:m.SinkPort=uint16(monitorPort)",
     "defer:m.Stop", "rc.GetBuckets", "assign:buckets,err:=rc.GetBuckets()", "if:(err!=nil)",
     "if:(err!=platform.ErrorFieldNotPresent)", "return:nil,xerrors.Errorf(\"\",err)", "else",
     "range:i,rules:=buckets{", "rc.Map", "monitor.NewStats",
     "assign:bs:=monitor.NewStats(rc.Map(),\"\",\"\")", "assign:stats=append(stats,bs)",
     "m.InsertBucket", "}", "assign:done:=make(conv)", "assign:monitorDone:=make(conv)", "go{",
     "m.Listen", "assign:err:=m.Listen()", "if:(err!=nil)", "close:monitorDone", "}", "go{",
     "deployP.Start", "assign:err:=deployP.Start()", "if:(err!=nil)", "send:done", "return:",
     "deployP.Wait", "assign:err=deployP.Wait()", "if:(err!=nil)", "deployP.Cleanup",
     "assign:err:=deployP.Cleanup()", "if:(err!=nil)", "send:done", "return:",
     "recv:monitorDone", "send:done", "}", "getRunWait", "assign:timeout,err:=getRunWait(rc)",
     "if:(err!=nil)", "recv:done", "assign:err:=<-done", "if:(err!=nil)",
     "return:nil,xerrors.Errorf(\"\",err)", "return:stats,nil", "recv:After()", "time.After",
     "return:nil,xerrors.New(\"\")"] := rfl

theorem c19_shape_monitor_tcpproxy_TCPProxy_serve :
    Shapes.simul_monitor_tcpproxy_TCPProxy_serve =
   ["for:{", "mu.Lock", "tp.pick", "assign:remote:=tp.pick()", "mu.Unlock", "if:(remote==nil)",
     "break", "net.Dial", "assign:out,err=net.Dial(\"\",remote.addr)", "if:(err==nil)", "break",
     "remote.inactivate", "}", "if:(out==nil)", "in.Close", "return:", "go{", "io.Copy",
     "in.Close", "out.Close", "}", "io.Copy", "out.Close", "in.Close"] := rfl

theorem c19_shape_monitor_tcpproxy_remote_inactivate :
    Shapes.simul_monitor_tcpproxy_remote_inactivate =
   ["mu.Lock", "defer:mu.Unlock", "assign:r.inactive=true"] := rfl

theorem c19_shape_monitor_tcpproxy_remote_tryReactivate :
    Shapes.simul_monitor_tcpproxy_remote_tryReactivate =
   ["net.Dial", "assign:conn,err:=net.Dial(\"\",r.addr)", "if:(err!=nil)",
     "return:xerrors.Errorf(\"\",err)", "conn.Close", "mu.Lock", "defer:mu.Unlock",
     "assign:r.inactive=false", "return:nil"] := rfl

theorem c19_shape_monitor_proxy_NewProxy :
    Shapes.simul_monitor_proxy_NewProxy =
   ["net.Listen", "assign:ln,err:=net.Listen(\"\",fmt.Sprintf(\"\",addr,listenPort))",
     "if:(err!=nil)", "return:nil,xerrors.Errorf(\"\",err)", "assign:e:=make(conv,1)",
     "assign:e[0]=new(net.SRV)", "assign:e[0].Target=\"\"", "assign:e[0].Port=toPort",
     "return:&TCPProxy{Listener:ln,Endpoints:e},nil"] := rfl


end C19

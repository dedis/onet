import OnetVerif.Proofs.C11Step
import OnetVerif.Proofs.C11Store
import OnetVerif.Shapes
/-! Property C11 — finished instances stay finished; trees outlive them as long as needed.
All statements hold for arbitrary schedules (`List Act`).  The one-tree model (`Model/C11.lean`) first; `namespace Store` is
about the tree store for all ids (`Model/C11Store.lean`). -/
namespace C11

def setTok (tok : Nat) (t : Th) : Bool := t.pc == .set && t.tok == tok

structure Inv (s : St) : Prop where
  sub : ∀ t ∈ s.settled, t ∈ s.live
  safe : s.settled ≠ [] → s.present = true ∧ s.armed = false
  once : ∀ tok, s.thr.countP (regTok tok) + s.constructed.count tok ≤ 1
  born : ∀ tok, 0 < s.thr.countP (regTok tok) + s.constructed.count tok → tok ∈ s.live ∨ tok ∈ s.doneToks
  regLive : ∀ tok, 0 < s.thr.countP (regTok tok) → tok ∈ s.live
  setNew : ∀ tok ∈ s.settled, s.thr.countP (setTok tok) = 0
  disj : ∀ tok ∈ s.doneToks, tok ∉ s.live
  /-- released when idle: what `cleanTreeStorage` on every path that ends a message or an instance is for -/
  rel : s.used = true → s.present = true → s.live = [] → s.thr.countP (at_ .flushed) = 0 →
        s.thr.countP (at_ .found) = 0 → s.thr.countP (at_ .set) = 0 → s.thr.countP (at_ .bind) = 0 →
        s.armed = true
  /-- a thread inside the protocol constructor: its instance's creation has completed -/
  ctor : ∀ tok, s.thr.countP (setTok tok) < s.thr.countP (regTok tok) → tok ∈ s.settled

theorem inv_init : Inv {} := by constructor <;> simp

section counts
variable {l : List Th} {i tok m : Nat}

theorem setTok_le_regTok (tok : Nat) (l : List Th) : l.countP (setTok tok) ≤ l.countP (regTok tok) := by
  apply List.countP_mono_left
  intro t _ h
  simp [setTok, regTok] at *
  exact ⟨.inl h.1, h.2⟩

theorem set_create (ht : l[i]? = some ⟨tok, m, .found⟩) (x : Nat) :
    (l.set i ⟨tok, m, .set⟩).countP (setTok x) = l.countP (setTok x) + (if tok = x then 1 else 0) := by
  simpa [setTok] using List.countP_set' (p := setTok x) (t' := ⟨tok, m, .set⟩) ht

theorem set_settle (ht : l[i]? = some ⟨tok, m, .set⟩) (x : Nat) :
    (l.set i ⟨tok, m, .bind⟩).countP (setTok x) + (if tok = x then 1 else 0) = l.countP (setTok x) := by
  simpa [setTok] using List.countP_set' (p := setTok x) (t' := ⟨tok, m, .bind⟩) ht

theorem set_lt_reg_of_bind (ht : l[i]? = some ⟨tok, m, .bind⟩) : l.countP (setTok tok) < l.countP (regTok tok) := by
  have h1 := reg_bound ht tok
  rw [if_pos rfl] at h1
  have h2 : (l.set i ⟨tok, m, .fin⟩).countP (setTok tok) = l.countP (setTok tok) := List.count_keep ht rfl
  have h3 := setTok_le_regTok tok (l.set i ⟨tok, m, .fin⟩)
  omega

end counts

theorem Inv.live_ne_nil {s : St} (hI : Inv s) (h : s.settled ≠ []) : s.live ≠ [] := by
  obtain ⟨x, hx⟩ := List.exists_mem_of_ne_nil _ h
  exact List.ne_nil_of_mem (hI.sub x hx)

/-- every listed instance has been built or is being built: its creation has completed, or a thread is inside it -/
def Listed (s : St) : Prop := ∀ tok ∈ s.live, tok ∈ s.settled ∨ 0 < s.thr.countP (regTok tok)

def Keeps (s s' : St) : Prop := Inv s' ∧ (Listed s → Listed s')

/-! Seven clauses of `Inv`, and `Listed`, speak of the instance bookkeeping, one token at a time: three counts and three
flags (`TokInv`, `TokListed`).  A step does one of five things to those of one token — nothing (`frame`), a creation begins
(`begin`), `Set` (`settle`), the constructor returns (`bound`), the instance is unlisted (`unlist`) — and `TokInv.begin` …
`TokInv.unlist` say why the clauses survive it.  `safe` and `rel` speak of the tree and go move by move. -/

/-- the seven clauses for one token: `S`, `R` count its threads before `Set` and inside the creation, `C` its constructor
calls; `L`, `T`, `D`: it is listed, settled, done -/
structure TokInv (S R C : Nat) (L T D : Prop) : Prop where
  sub : T → L
  once : R + C ≤ 1
  born : 0 < R + C → L ∨ D
  regLive : 0 < R → L
  setNew : T → S = 0
  disj : D → ¬L
  ctor : S < R → T

def TokListed (R : Nat) (L T : Prop) : Prop := L → T ∨ 0 < R

section token
variable {S R C : Nat} {L T D L' T' D' : Prop}

theorem TokInv.begin (g : TokInv S R C L T D) (hl : ¬L) (hd : ¬D) (l' : L') :
    TokInv (S + 1) (R + 1) C L' T D ∧ (TokListed R L T → TokListed (R + 1) L' T) :=
  have hz : R + C = 0 := Nat.eq_zero_of_not_pos fun hp => (g.born hp).elim hl hd
  ⟨{ sub := fun _ => l'
     once := by omega
     born := fun _ => .inl l'
     regLive := fun _ => l'
     setNew := fun t => absurd (g.sub t) hl
     disj := fun d => absurd d hd
     ctor := fun h => g.ctor (Nat.lt_of_succ_lt_succ h) },
   fun _ _ => .inr (Nat.succ_pos _)⟩

/-- `hle`: the thread that passes `Set` stood before it; by `once` it was the only one creating the token -/
theorem TokInv.settle (g : TokInv (S + 1) R C L T D) (hle : S + 1 ≤ R) (t' : T') :
    TokInv S R C L T' D ∧ (TokListed R L T → TokListed R L T') :=
  have := g.once
  ⟨{ g with
     sub := fun _ => g.regLive (Nat.lt_of_lt_of_le (Nat.succ_pos _) hle)
     setNew := fun _ => by omega
     ctor := fun _ => t' },
   fun _ _ => .inl t'⟩

/-- the thread leaves the count `R` as the call enters `C`; `hle`: it stood after `Set`, so the token is settled (`ctor`) -/
theorem TokInv.bound (g : TokInv S (R + 1) C L T D) (hle : S ≤ R) :
    TokInv S R (C + 1) L T D ∧ (TokListed (R + 1) L T → TokListed R L T) :=
  ⟨{ g with
     once := by have := g.once; omega
     born := fun _ => g.born (Nat.add_pos_left (Nat.succ_pos _) _)
     regLive := fun _ => g.regLive (Nat.succ_pos _)
     ctor := fun h => g.ctor (Nat.lt_succ_of_lt h) },
   fun _ _ => .inl (g.ctor (Nat.lt_succ_of_le hle))⟩

theorem TokInv.unlist (g : TokInv S R C L T D) (hr : R = 0) (nl : ¬L') (nt : ¬T') (d : D') :
    TokInv S R C L' T' D' ∧ (TokListed R L T → TokListed R L' T') :=
  ⟨{ g with
     sub := fun t => absurd t nt
     born := fun _ => .inr d
     regLive := fun h => absurd hr (Nat.ne_of_gt h)
     setNew := fun t => absurd t nt
     disj := fun _ => nl
     ctor := fun h => absurd hr (Nat.ne_of_gt (Nat.zero_lt_of_lt h)) },
   fun _ l => absurd l nl⟩

end token

theorem Inv.tok {s : St} (hI : Inv s) (x : Nat) :
    TokInv (s.thr.countP (setTok x)) (s.thr.countP (regTok x)) (s.constructed.count x)
      (x ∈ s.live) (x ∈ s.settled) (x ∈ s.doneToks) :=
  ⟨hI.sub x, hI.once x, hI.born x, hI.regLive x, hI.setNew x, hI.disj x, hI.ctor x⟩

theorem Keeps.of_tok {s s' : St} (safe : s'.settled ≠ [] → s'.present = true ∧ s'.armed = false)
    (rel : s'.used = true → s'.present = true → s'.live = [] → s'.thr.countP (at_ .flushed) = 0 →
      s'.thr.countP (at_ .found) = 0 → s'.thr.countP (at_ .set) = 0 → s'.thr.countP (at_ .bind) = 0 → s'.armed = true)
    (h : ∀ x, TokInv (s'.thr.countP (setTok x)) (s'.thr.countP (regTok x)) (s'.constructed.count x)
        (x ∈ s'.live) (x ∈ s'.settled) (x ∈ s'.doneToks) ∧
      (TokListed (s.thr.countP (regTok x)) (x ∈ s.live) (x ∈ s.settled) →
        TokListed (s'.thr.countP (regTok x)) (x ∈ s'.live) (x ∈ s'.settled))) : Keeps s s' :=
  ⟨⟨fun x => (h x).1.sub, safe, fun x => (h x).1.once, fun x => (h x).1.born, fun x => (h x).1.regLive,
    fun x => (h x).1.setNew, fun x => (h x).1.disj, rel, fun x => (h x).1.ctor⟩, fun hL x => (h x).2 (hL x)⟩

theorem Keeps.trans {s s1 s2 : St} (h1 : Keeps s s1) (h2 : Inv s1 → Keeps s1 s2) : Keeps s s2 :=
  ⟨(h2 h1.1).1, fun hL => (h2 h1.1).2 (h1.2 hL)⟩

theorem Inv.frame {s s' : St} (hI : Inv s) (hl : s'.live = s.live) (hs : s'.settled = s.settled)
    (hd : s'.doneToks = s.doneToks) (hc : s'.constructed = s.constructed)
    (hR : ∀ x, s'.thr.countP (regTok x) = s.thr.countP (regTok x))
    (hS : ∀ x, s'.thr.countP (setTok x) = s.thr.countP (setTok x))
    (safe : s.settled ≠ [] → s'.present = true ∧ s'.armed = false)
    (rel : s'.used = true → s'.present = true → s.live = [] → s'.thr.countP (at_ .flushed) = 0 →
      s'.thr.countP (at_ .found) = 0 → s'.thr.countP (at_ .set) = 0 → s'.thr.countP (at_ .bind) = 0 →
      s'.armed = true) : Keeps s s' :=
  .of_tok (by rw [hs]; exact safe) (by rw [hl]; exact rel) fun x => by
    rw [hl, hs, hd, hc, hR, hS]; exact ⟨hI.tok x, id⟩

theorem Inv.begin {s : St} (hI : Inv s) {tok : Nat} {thr' : List Th} (hl : tok ∉ s.live) (hd : tok ∉ s.doneToks)
    (hR : ∀ x, thr'.countP (regTok x) = s.thr.countP (regTok x) + (if tok = x then 1 else 0))
    (hS : ∀ x, thr'.countP (setTok x) = s.thr.countP (setTok x) + (if tok = x then 1 else 0)) :
    Keeps s { s with live := s.live ++ [tok], used := true, thr := thr' } := by
  refine .of_tok hI.safe (fun _ _ h => absurd h (by simp)) fun x => ?_
  dsimp only
  rw [hR, hS]
  by_cases e : tok = x
  · subst e; rw [if_pos rfl]; exact (hI.tok tok).begin hl hd List.mem_concat_self
  · simpa [e, Ne.symm e] using hI.tok x

theorem Inv.settle {s : St} (hI : Inv s) {tok : Nat} {thr' : List Th}
    (hR : ∀ x, thr'.countP (regTok x) = s.thr.countP (regTok x))
    (hS : ∀ x, thr'.countP (setTok x) + (if tok = x then 1 else 0) = s.thr.countP (setTok x)) :
    Keeps s { s with present := true, armed := false, requested := false,
                     settled := if tok ∈ s.live then s.settled ++ [tok] else s.settled, thr := thr' } := by
  have hle := setTok_le_regTok tok s.thr
  rw [← hS tok, if_pos rfl] at hle
  have hlive : tok ∈ s.live := hI.regLive tok (Nat.lt_of_lt_of_le (Nat.succ_pos _) hle)
  rw [if_pos hlive]
  refine .of_tok (fun _ => ⟨rfl, rfl⟩) (fun _ _ h => absurd h (List.ne_nil_of_mem hlive)) fun x => ?_
  have g := hI.tok x
  rw [← hS x] at g
  dsimp only
  rw [hR]
  by_cases e : tok = x
  · subst e; rw [if_pos rfl] at g; exact g.settle hle List.mem_concat_self
  · simpa [e, Ne.symm e] using g

theorem Inv.bound {s : St} (hI : Inv s) {tok : Nat} {thr' : List Th} (handed' : List (Nat × Nat))
    (hR : ∀ x, thr'.countP (regTok x) + (if tok = x then 1 else 0) = s.thr.countP (regTok x))
    (hS : ∀ x, thr'.countP (setTok x) = s.thr.countP (setTok x)) :
    Keeps s { s with constructed := s.constructed ++ [tok], handed := handed', thr := thr' } := by
  have hlive : tok ∈ s.live := hI.regLive tok (by rw [← hR tok, if_pos rfl]; exact Nat.succ_pos _)
  refine .of_tok hI.safe (fun _ _ h => absurd h (List.ne_nil_of_mem hlive)) fun x => ?_
  have g := hI.tok x
  rw [← hS x, ← hR x] at g
  dsimp only
  rw [← hR x, List.count_snoc]
  by_cases e : tok = x
  · subst e; rw [if_pos rfl] at g ⊢; exact g.bound (setTok_le_regTok tok thr')
  · simpa [e] using g

theorem Inv.unlist {s : St} (hI : Inv s) {tok : Nat} (hr : s.thr.countP (regTok tok) = 0) :
    Keeps s { s with live := s.live.filter (· != tok), settled := s.settled.filter (· != tok),
                     doneToks := s.doneToks ++ [tok],
                     armed := if s.live.filter (· != tok) = [] then true else s.armed } := by
  refine .of_tok (fun h => ?safe) (fun _ _ h _ _ _ _ => if_pos h) fun x => ?_
  case safe =>
    -- an instance that stays settled stays listed: the removal is not scheduled now either
    obtain ⟨x, hx⟩ := List.exists_mem_of_ne_nil _ h
    have hx := List.mem_filter_ne.1 hx
    have hsafe := hI.safe (List.ne_nil_of_mem hx.1)
    have : s.live.filter (· != tok) ≠ [] := List.ne_nil_of_mem (List.mem_filter_ne.2 ⟨hI.sub x hx.1, hx.2⟩)
    exact ⟨hsafe.1, by rw [if_neg this]; exact hsafe.2⟩
  dsimp only
  by_cases e : tok = x
  · subst e
    have out : ∀ l : List Nat, tok ∉ l.filter (· != tok) := fun _ h => (List.mem_filter_ne.1 h).2 rfl
    exact (hI.tok tok).unlist hr (out _) (out _) List.mem_concat_self
  · simpa [e, Ne.symm e, List.mem_filter_ne] using hI.tok x

/-- what is parked waits for a tree that is not there, and a registered slot has a message waiting for it -/
structure Inv2 (s : St) : Prop where
  pk : 0 < s.thr.countP (at_ .parked) → s.present = false
  rq : s.requested = true → 0 < s.thr.countP (at_ .parked)

theorem inv2_init : Inv2 {} := by constructor <;> simp

theorem Inv2.frame {s s' : St} (h2 : Inv2 s) (hP : s'.thr.countP (at_ .parked) = s.thr.countP (at_ .parked))
    (hp : s'.present = s.present) (hr : s'.requested = s.requested) : Inv2 s' :=
  ⟨by rw [hP, hp]; exact h2.pk, by rw [hP, hr]; exact h2.rq⟩

theorem Inv2.of_none_parked {s : St} (h : s.thr.countP (at_ .parked) = 0) (hr : s.requested = false) : Inv2 s :=
  ⟨fun h' => absurd h (Nat.ne_of_gt h'), fun h' => by rw [hr] at h'; cases h'⟩

theorem keeps_thread {s s' : St} {i : Nat} {t : Th} (hI : Inv s) (ht : s.thr[i]? = some t)
    (hs : stepTh s i t = some s') : Keeps s s' := by
  cases stepTh_move hs with
  | hit hpc hp =>
    exact hI.frame rfl rfl rfl rfl (fun _ => count_look ht hpc rfl rfl) (fun _ => count_look ht hpc rfl rfl)
      (fun h => ⟨(hI.safe h).1, rfl⟩) (fun _ _ _ _ hf => absurd hf (Nat.ne_of_gt (at_pos ht ⟨_, _, .found⟩)))
  | miss hpc hp =>
    exact hI.frame rfl rfl rfl rfl (fun _ => count_look ht hpc rfl rfl) (fun _ => count_look ht hpc rfl rfl)
      (fun h => ⟨(hI.safe h).1, rfl⟩) (fun _ hp' => by rw [hp] at hp'; cases hp')
  | drop hm hd =>
    -- the removal that the lookup cancelled is scheduled again
    exact hI.frame rfl rfl rfl rfl (fun _ => List.count_keep ht rfl) (fun _ => List.count_keep ht rfl)
      (fun h => ⟨(hI.safe h).1, by rw [if_neg (hI.live_ne_nil h)]; exact (hI.safe h).2⟩)
      (fun _ _ hl _ _ _ _ => if_pos hl)
  | hand hm hd hl =>
    exact hI.frame rfl rfl rfl rfl (fun _ => List.count_keep ht rfl) (fun _ => List.count_keep ht rfl) hI.safe
      (fun _ _ h => absurd h (List.ne_nil_of_mem hl))
  | create hm hd hl hb => exact hI.begin hl hd (reg_create ht) (set_create ht)
  | settle =>
    refine hI.settle (fun x => ?_) (fun x => ?_)
    · rw [count_flush (fun _ _ => rfl)]; exact List.count_keep ht rfl
    · rw [count_flush (fun _ _ => rfl)]; exact set_settle ht x
  | bound => exact hI.bound _ (reg_bound ht) (fun _ => List.count_keep ht rfl)

theorem inv_thread (s s' : St) (i : Nat) (t : Th) (hI : Inv s) (ht : s.thr[i]? = some t)
    (hs : stepTh s i t = some s') : Inv s' :=
  (keeps_thread hI ht hs).1

theorem keeps_step {s s' : St} {a : Act} (hI : Inv s) (h2 : Inv2 s) (hs : step s a = some s') : Keeps s s' := by
  cases step_move hs with
  | arrive tok m =>
    exact hI.frame rfl rfl rfl rfl (fun _ => List.count_push_keep rfl _) (fun _ => List.count_push_keep rfl _) hI.safe
      (fun hu hp hl h1 h2 h3 h4 => hI.rel hu hp hl ((List.count_push_keep rfl _).symm.trans h1)
        ((List.count_push_keep rfl _).symm.trans h2) ((List.count_push_keep rfl _).symm.trans h3)
        ((List.count_push_keep rfl _).symm.trans h4))
  | thread ht hs => exact keeps_thread hI ht hs
  | done hs hr => exact hI.unlist hr
  | again | refused => exact ⟨hI, id⟩
  | expire ha =>
    exact hI.frame rfl rfl rfl rfl (fun _ => rfl) (fun _ => rfl)
      (fun h => by rw [(hI.safe h).2] at ha; cases ha) (fun _ hp => by cases hp)
  | treeResp hr hp =>
    -- the slot was registered: a message was parked for it, and is flushed now
    exact hI.frame rfl rfl rfl rfl (fun _ => count_flush (fun _ _ => rfl) _)
      (fun _ => count_flush (fun _ _ => rfl) _) (fun _ => ⟨rfl, rfl⟩)
      (fun _ _ _ hfl => absurd hfl (Nat.ne_of_gt (flushAll_flushed (h2.rq hr))))
  | @ctorFail i tok m n ht =>
    refine (hI.bound (tok := tok) s.handed (reg_bound ht) (fun _ => List.count_keep ht rfl)).trans fun h1 =>
      h1.unlist (tok := tok) ?_
    -- at most one thread is inside the creation of `tok` (`once`), and it is the one that leaves
    have hleave := reg_bound ht tok
    rw [if_pos rfl] at hleave
    have hone := hI.once tok
    show (s.thr.set i ⟨tok, m, .fin⟩).countP (regTok tok) = 0
    omega
  | @localStart tok hb hl hd hc =>
    refine hI.begin hl hd (fun x => ?_) (fun x => ?_)
    · simp [regTok]
    · simp [setTok]
  | peerReq => exact hI.frame rfl rfl rfl rfl (fun _ => rfl) (fun _ => rfl) hI.safe hI.rel

theorem inv_step (s s' : St) (a : Act) (hI : Inv s) (h2 : Inv2 s) (hs : step s a = some s') : Inv s' :=
  (keeps_step hI h2 hs).1

theorem lookupStep_frame (s : St) (i : Nat) (t : Th) :
    (lookupStep s i t).doneToks = s.doneToks ∧ (lookupStep s i t).present = s.present ∧
    (lookupStep s i t).live = s.live ∧ (lookupStep s i t).constructed = s.constructed ∧
    (lookupStep s i t).handed = s.handed := by
  unfold lookupStep; split <;> simp

/-- a thread step never removes a done marker or the tree -/
theorem stepTh_frame (s s' : St) (i : Nat) (t : Th) (hs : stepTh s i t = some s') :
    s'.doneToks = s.doneToks ∧ (s.present = true → s'.present = true) := by
  cases stepTh_move hs with
  | settle => exact ⟨rfl, fun _ => rfl⟩
  | _ => exact ⟨rfl, id⟩

theorem inv2_thread {s s' : St} {i : Nat} {t : Th} (h2 : Inv2 s) (ht : s.thr[i]? = some t)
    (hs : stepTh s i t = some s') : Inv2 s' := by
  cases stepTh_move hs with
  | hit hpc hp => exact h2.frame (count_look ht hpc rfl rfl) rfl rfl
  | miss hpc hp => exact ⟨fun _ => hp, fun _ => at_pos ht ⟨_, _, .parked⟩⟩
  | settle => exact .of_none_parked (flushAll_no_parked _) rfl
  | _ => exact h2.frame (List.count_keep ht rfl) rfl rfl

theorem inv2_step (s s' : St) (a : Act) (h2 : Inv2 s) (hs : step s a = some s') : Inv2 s' := by
  cases step_move hs with
  | arrive | localStart => exact h2.frame (List.count_push_keep rfl _) rfl rfl
  | thread ht hs => exact inv2_thread h2 ht hs
  | expire ha => exact ⟨fun _ => rfl, fun h => by cases h⟩
  | treeResp hr hp => exact .of_none_parked (flushAll_no_parked _) rfl
  | ctorFail n ht => exact h2.frame (List.count_keep ht rfl) rfl rfl
  | _ => exact h2.frame rfl rfl rfl

theorem reach (as : List Act) : Inv (run {} as) ∧ Inv2 (run {} as) ∧ Listed (run {} as) :=
  run_skips.inv (P := fun s => Inv s ∧ Inv2 s ∧ Listed s)
    (fun s s' a h hs =>
      let k := keeps_step h.1 h.2.1 hs
      ⟨k.1, inv2_step s s' a h.2.1 hs, k.2 h.2.2⟩)
    as {} ⟨inv_init, inv2_init, fun _ h => nomatch h⟩

theorem inv_run (as : List Act) : Inv (run {} as) := (reach as).1

/-- **late messages are dropped without creating anything**: the `transmitMux` region for a
message whose token is done changes neither the listed instances, nor the constructor log, nor
what was handed over, nor the tree. -/
theorem c11_late_dropped (s s' : St) (i : Nat) (t : Th) (ht : s.thr[i]? = some t)
    (hpc : t.pc = .found) (hd : t.tok ∈ s.doneToks) (hs : step s (.thread i) = some s') :
    s'.live = s.live ∧ s'.constructed = s.constructed ∧ s'.handed = s.handed ∧
    s'.doneToks = s.doneToks ∧ s'.present = s.present := by
  obtain ⟨tok, m, pc⟩ := t
  cases (hpc : pc = .found)
  cases thread_move ht hs with
  | hit hpc' | miss hpc' => exact hpc'.elim nofun nofun
  | drop => exact ⟨rfl, rfl, rfl, rfl, rfl⟩
  | hand _ hnd | create _ hnd => exact absurd hd hnd

/-- **no resurrection**: under every schedule the protocol constructor runs at most once per
token — in particular never again after the instance finished. -/
theorem c11_constructed_once (as : List Act) (tok : Nat) : (run {} as).constructed.count tok ≤ 1 := by
  have := (inv_run as).once tok; omega

/-- **the tree stays while it is used**: in every reachable state, if some instance whose
creation has completed is still listed, the tree is in the storage (so the instance's `Tree()`
works and a peer's request is answered) and no removal is scheduled. -/
theorem c11_tree_while_used (as : List Act) (h : (run {} as).settled ≠ []) :
    (run {} as).present = true ∧ (run {} as).armed = false :=
  (inv_run as).safe h

/-- **the tree stays while a constructor runs**: in every reachable state, while some thread is
inside the protocol constructor of instance `tok` (listed, `Set` done, not yet bound), that instance
is listed, the tree is in the storage and no removal is scheduled — whatever other instances of the
tree finish meanwhile. -/
theorem c11_tree_while_constructing (as : List Act) (t : Th) (ht : t ∈ (run {} as).thr)
    (hpc : t.pc = .bind) :
    t.tok ∈ (run {} as).live ∧ (run {} as).present = true ∧ (run {} as).armed = false := by
  have hI := inv_run as
  generalize run {} as = s at *
  obtain ⟨i, hi⟩ := List.mem_iff_getElem?.1 ht
  obtain ⟨tok, m, pc⟩ := t
  cases (hpc : pc = .bind)
  have hs : tok ∈ s.settled := hI.ctor tok (set_lt_reg_of_bind hi)
  exact ⟨hI.sub _ hs, hI.safe (List.ne_nil_of_mem hs)⟩

/-- **grace**: only the timer removes the tree — every other step keeps a present tree. -/
theorem c11_grace (s s' : St) (a : Act) (hs : step s a = some s') (hp : s.present = true)
    (ha : ∀ (e : a = .expire), False) : s'.present = true := by
  cases step_move hs with
  | thread ht hs => exact (stepTh_frame s s' _ _ hs).2 hp
  | expire => exact (ha rfl).elim
  | treeResp => rfl
  | _ => exact hp

/-- **released afterwards**: once no instance is listed any more and no arrival is inside the
`transmitMux` region, a tree that was used by an instance is scheduled for removal; the timer
then removes it. -/
theorem c11_released (as : List Act)
    (hu : (run {} as).used = true) (hp : (run {} as).present = true) (hl : (run {} as).live = [])
    (hq : ∀ t ∈ (run {} as).thr, t.pc = .lookup ∨ t.pc = .fin) :
    (run {} as).armed = true ∧
    ∃ s', step (run {} as) .expire = some s' ∧ s'.present = false := by
  have hI := inv_run as
  generalize run {} as = s at *
  have h0 : ∀ p, p ≠ .lookup → p ≠ .fin → s.thr.countP (at_ p) = 0 := by
    intro p h1 h2
    rw [List.countP_eq_zero]
    intro t ht e
    have e : t.pc = p := beq_iff_eq.1 e
    rcases hq t ht with h | h
    · exact h1 (e.symm.trans h)
    · exact h2 (e.symm.trans h)
  have ha := hI.rel hu hp hl (h0 _ nofun nofun) (h0 _ nofun nofun) (h0 _ nofun nofun) (h0 _ nofun nofun)
  exact ⟨ha, _, if_pos ha, rfl⟩

/-- **a peer's tree request changes nothing**: it is answered exactly when the tree is stored, and it
touches neither the tree, nor a scheduled removal (it does not prolong the grace period — and it does not
cancel the removal, which would keep the tree for ever), nor any instance. -/
theorem c11_peer_request_reads_only (s s' : St) (h : step s .peerReq = some s') :
    s'.present = s.present ∧ s'.armed = s.armed ∧ s'.live = s.live ∧ s'.settled = s.settled ∧
    s'.doneToks = s.doneToks ∧ s'.constructed = s.constructed ∧ s'.handed = s.handed ∧ s'.thr = s.thr ∧
    s'.peerAnswered = s.peerAnswered + (if s.present then 1 else 0) := by
  cases step_move h with
  | peerReq =>
    refine ⟨rfl, rfl, rfl, rfl, rfl, rfl, rfl, rfl, ?_⟩
    dsimp only
    split <;> rfl

/-- **peers asking for the tree are served while it is used**: in every reachable state in which an
instance (whose creation has completed) is listed, a peer's request for the tree is answered. -/
theorem c11_peers_served_while_used (as : List Act) (h : (run {} as).settled ≠ []) :
    ∃ s', step (run {} as) .peerReq = some s' ∧ s'.peerAnswered = (run {} as).peerAnswered + 1 :=
  ⟨_, rfl, if_pos (c11_tree_while_used as h).1⟩

/-- **… and for the whole grace period after the last one finished**: from any state in which the tree is
stored, whatever happens next — instances finishing, late messages, new runs, other peers' requests —
as long as the removal timer has not fired, a peer's request for the tree is answered. -/
theorem c11_peers_served_during_grace (as : List Act) (s : St) (hp : s.present = true)
    (hne : ∀ a ∈ as, a ≠ .expire) :
    ∃ s', step (run s as) .peerReq = some s' ∧ s'.peerAnswered = (run s as).peerAnswered + 1 :=
  ⟨_, rfl, if_pos (run_skips.inv_on (P := fun s => s.present = true) (fun s s' a ha hp hs => c11_grace s s' a hs hp ha)
    as hne s hp)⟩

/-- **other instances are unaffected** when an instance declares itself done: every other token is listed
(and settled) exactly as before, nothing is handed over or constructed, no thread moves, the tree stays
stored, and only this token is added to the done markers. -/
theorem c11_done_others_unaffected (s s' : St) (tok : Nat) (h : step s (.done tok) = some s') :
    (∀ t, t ≠ tok → ((t ∈ s'.live ↔ t ∈ s.live) ∧ (t ∈ s'.settled ↔ t ∈ s.settled) ∧
        (t ∈ s'.doneToks ↔ t ∈ s.doneToks))) ∧
    s'.handed = s.handed ∧ s'.constructed = s.constructed ∧ s'.thr = s.thr ∧ s'.present = s.present := by
  cases step_move h with
  | done => exact ⟨fun t ht => by simp [ht], rfl, rfl, rfl, rfl⟩
  | again => exact ⟨fun _ _ => ⟨.rfl, .rfl, .rfl⟩, rfl, rfl, rfl, rfl⟩

/-- … and they go on being served: in every reachable state, a message for a listed instance (creation
completed) that arrives while no other arrival is inside the `transmitMux` region is handed to that very
instance — whichever other instances have finished before. -/
theorem c11_live_instance_served (as : List Act) (t m : Nat) (ht : t ∈ (run {} as).settled)
    (hm : (run {} as).thr.countP holdsMux = 0) :
    let s := run {} as
    let n := s.thr.length
    (run s [.arrive t m, .thread n, .thread n]).handed = s.handed ++ [(t, m)] ∧
    (run s [.arrive t m, .thread n, .thread n]).live = s.live ∧
    (run s [.arrive t m, .thread n, .thread n]).constructed = s.constructed := by
  have hI := inv_run as
  simp only
  generalize run {} as = s at *
  have hlive : t ∈ s.live := hI.sub t ht
  have hnd : t ∉ s.doneToks := fun hd => hI.disj t hd hlive
  have hp : s.present = true := (hI.safe (List.ne_nil_of_mem ht)).1
  -- the three steps evaluated: thread `n` arrives, its lookup finds the tree (`hp`), and at `.found` nobody holds
  -- `transmitMux` (`hm`; the new thread neither: `List.countP_append`), the token is not done and is listed
  simp [run, step, stepTh, lookupStep, hp, hm, holdsMux, hnd, hlive, List.countP_append]

/-- `Done()` refused by the instance's `OnDoneCallback`, and `Done()` called once more on a finished
instance (in any reachable state), change nothing at all -/
theorem c11_refused_or_repeated_done_is_noop (as : List Act) (tok : Nat) :
    (∀ s', step (run {} as) (.doneRefused tok) = some s' → s' = run {} as) ∧
    (tok ∈ (run {} as).doneToks → step (run {} as) (.done tok) = some (run {} as)) := by
  have hI := inv_run as
  generalize run {} as = s at *
  constructor
  · intro s' h
    cases step_move h with
    | refused => rfl
  · intro hd
    have hns : tok ∉ s.settled := fun hs => hI.disj tok hd (hI.sub tok hs)
    simp [step, hns, hd]

/-- non-vacuity: two runs share the tree, one finishes, the other is still served and a peer still gets
the tree; a refused `Done()` and a repeated one change nothing; after the last one finished the peer is
served during the grace period and no longer after it -/
example :
    let as : List Act := [.localStart 1, .thread 0, .thread 0, .localStart 2, .thread 1, .thread 1, .doneRefused 1, .done 1,
      .done 1, .peerReq, .arrive 2 7, .thread 2, .thread 2, .done 2, .peerReq, .expire, .peerReq]
    (run {} as).doneToks = [1, 2] ∧ (run {} as).handed = [(2, 7)] ∧ (run {} as).peerAsked = 3 ∧
    (run {} as).peerAnswered = 2 ∧ (run {} as).present = false ∧
    (run {} (as.take 7)).live = [1, 2] := by decide


/-- **nothing stays parked while the tree is stored**: in every reachable state a message waiting in the
pending list waits for a tree that is not there — whenever the tree is stored (by a peer's answer, a
local start, or the creation of an instance for an arrival that had looked the tree up before it was
released) everything parked for it is given to `TransmitMsg` again. -/
theorem c11_parked_not_stuck (as : List Act) (t : Th) (ht : t ∈ (run {} as).thr) (hp : t.pc = .parked) :
    (run {} as).present = false :=
  (reach as).2.1.pk (List.countP_pos_iff.2 ⟨t, ht, beq_iff_eq.2 hp⟩)

/-- **the peer's answer is accepted and releases what waits**: in every reachable state in which the tree
is requested, the tree response is accepted, stores the tree, and no message stays parked. -/
theorem c11_response_releases_parked (as : List Act) (hr : (run {} as).requested = true) :
    ∃ s', step (run {} as) .treeResp = some s' ∧ s'.present = true ∧ ∀ t ∈ s'.thr, t.pc ≠ .parked := by
  have h2 := (reach as).2.1
  generalize run {} as = s at *
  have hp : s.present = false := h2.pk (h2.rq hr)
  refine ⟨_, if_pos ⟨hr, hp⟩, rfl, fun t ht => ?_⟩
  obtain ⟨u, _, rfl⟩ := List.mem_map.1 ht
  exact flushT_pc u

/-- **the creation path as it was before /repo fafcac0 leaves a message parked for ever**: arrival A looks
the tree up and waits; the last instance finishes, the grace period passes; message B misses the tree (parked,
tree requested); A goes on and stores the tree without a flush: B is parked although the tree is stored, and
the peer's answer is refused (the slot is not requested any more).  The code as it is flushes B. -/
theorem c11_old_creation_leaves_message_parked :
    let sch : List Act := [.localStart 1, .thread 0, .thread 0, .arrive 2 5, .thread 1, .done 1, .expire,
      .arrive 3 6, .thread 2, .thread 1, .thread 1]
    (runOld {} sch).present = true ∧ (runOld {} sch).thr[2]? = some ⟨3, 6, .parked⟩ ∧
    step (runOld {} sch) .treeResp = none ∧
    (run {} sch).present = true ∧ (run {} sch).thr[2]? = some ⟨3, 6, .flushed⟩ := by decide

/-- non-vacuity: a message misses the released tree, is parked, the peer's answer arrives, the message creates
its instance -/
example :
    let sch : List Act := [.localStart 1, .thread 0, .thread 0, .done 1, .expire, .arrive 2 5, .thread 1,
      .treeResp, .thread 1, .thread 1, .thread 1, .thread 1]
    (run {} (sch.take 7)).requested = true ∧ (run {} (sch.take 7)).thr[1]? = some ⟨2, 5, .parked⟩ ∧
    (run {} sch).live = [2] ∧ (run {} sch).handed = [(2, 5)] ∧ (run {} sch).constructed = [1, 2] := by decide


/-- a run: message creates instance 1, a second run 2 shares the tree, 1 finishes (tree stays: 2
uses it), a late message for 1 is dropped, 2 finishes (removal armed), timer fires (released) -/
private def demo : List Act :=
  [.localStart 9, .thread 0, .thread 0, .arrive 1 11, .thread 1, .thread 1, .thread 1, .thread 1,
   .arrive 2 12, .thread 2, .thread 2, .thread 2, .thread 2, .done 9, .done 1,
   .arrive 1 13, .thread 3, .thread 3, .done 2, .expire]
example : (run {} demo).doneToks = [9, 1, 2] ∧ (run {} demo).constructed = [9, 1, 2] ∧
    (run {} demo).handed = [(1, 11), (2, 12)] ∧ (run {} demo).present = false ∧
    (run {} (demo.take 19)).present = true ∧ (run {} (demo.take 19)).armed = true := by decide

/-- a constructor of run 2 is running while run 1 finishes: the tree stays, no removal is scheduled -/
private def demo2 : List Act :=
  [.localStart 1, .thread 0, .thread 0, .arrive 2 5, .thread 1, .thread 1, .thread 1, .done 1]
example : (run {} demo2).thr[1]? = some ⟨2, 5, .bind⟩ ∧ (run {} demo2).doneToks = [1] ∧
    (run {} demo2).live = [2] ∧ (run {} demo2).present = true ∧ (run {} demo2).armed = false ∧
    step (run {} demo2) (.done 2) = none := by decide

/-! Two ways a tree would never be released, both reproduced on the real code
(`notes/probes/onet_c11_tree_pinned_probe_test.go.txt`) and repaired in /repo; the model follows the repaired code.
A message whose token carries the tree's id and an unknown node id cancels the scheduled removal (its lookup): the
error path of `transmitMux` schedules it again when no instance is listed, which is what `rel` (the invariant behind
`c11_released`) needs of that step.  A constructor that fails in `CreateProtocol` unlists its node: with a node listed
for ever `live` would never be empty and `c11_released` would say nothing; `c11_listed_built_or_building` excludes
that. -/

/-- **a message for a node that is not in the tree is refused without a trace**: the `transmitMux` region
for such a token changes neither the listed instances, nor the done marks, nor the constructor log, nor what
was handed over, nor the tree — and when no instance is listed, the removal its lookup cancelled is
scheduled again. -/
theorem c11_bad_token_refused (s s' : St) (i : Nat) (t : Th) (ht : s.thr[i]? = some t)
    (hpc : t.pc = .found) (hb : badTok t.tok = true) (hnd : t.tok ∉ s.doneToks) (hnl : t.tok ∉ s.live)
    (hs : step s (.thread i) = some s') :
    s'.live = s.live ∧ s'.constructed = s.constructed ∧ s'.handed = s.handed ∧
    s'.doneToks = s.doneToks ∧ s'.present = s.present ∧ (s.live = [] → s'.armed = true) := by
  obtain ⟨tok, m, pc⟩ := t
  cases (hpc : pc = .found)
  cases thread_move ht hs with
  | hit hpc' | miss hpc' => exact hpc'.elim nofun nofun
  | drop => exact ⟨rfl, rfl, rfl, rfl, rfl, fun h => if_pos h⟩
  | hand _ _ hl => exact absurd hl hnl
  | create _ _ _ hb' => rw [hb] at hb'; cases hb'

/-- **the code before the repair never releases the tree**: instance 1 runs and finishes (removal scheduled), a
message for a node that is not in the tree arrives during the grace period: its lookup cancels the removal and
nothing schedules it again — no instance, no thread, no removal: the timer never fires.  The code as it is
schedules the removal again and the timer releases the tree. -/
theorem c11_old_bad_token_pins_tree :
    let sch : List Act := [.localStart 1, .thread 0, .thread 0, .done 1, .arrive 1000 5, .thread 1, .thread 1]
    ((runOld5 {} sch).used = true ∧ (runOld5 {} sch).present = true ∧ (runOld5 {} sch).live = [] ∧
      (runOld5 {} sch).armed = false ∧ (runOld5 {} sch).thr.all (fun t => t.pc == .fin) = true ∧
      step (runOld5 {} sch) .expire = none) ∧
    ((run {} sch).armed = true ∧ (run {} (sch ++ [.expire])).present = false) := by decide

/-- **nobody is listed without being built**: in every reachable state a listed instance either has completed its
creation (it can be used, and can declare itself done) or a thread is inside its creation right now — so once no
thread is inside a creation, every listed instance is a complete one: a constructor that failed (for an arrival as
for a local start) leaves nothing listed behind that would keep the tree for ever. -/
theorem c11_listed_built_or_building (as : List Act) (tok : Nat) (h : tok ∈ (run {} as).live) :
    tok ∈ (run {} as).settled ∨ ∃ t ∈ (run {} as).thr, (t.pc = .set ∨ t.pc = .bind) ∧ t.tok = tok := by
  rcases (reach as).2.2 tok h with h | h
  · exact .inl h
  · right
    obtain ⟨t, ht, hp⟩ := List.countP_pos_iff.1 h
    exact ⟨t, ht, by simpa [regTok] using hp⟩

/-- **a failed constructor leaves a finished token behind**: the node is unlisted and marked done, nothing is handed
over, the tree stays for now (the grace period runs if no other instance uses it); later messages for the token
are dropped (`c11_late_dropped`) and the constructor is never called for it again (`c11_constructed_once`). -/
theorem c11_failed_constructor_cleans_up (s s' : St) (i : Nat) (t : Th) (ht : s.thr[i]? = some t) (hpc : t.pc = .bind)
    (n : Bool) (hs : step s (.ctorFail i n) = some s') :
    t.tok ∉ s'.live ∧ t.tok ∈ s'.doneToks ∧ s'.handed = s.handed ∧ s'.present = s.present ∧
    (∀ x, x ≠ t.tok → (x ∈ s'.live ↔ x ∈ s.live)) ∧ (s'.live = [] → s'.armed = true) := by
  cases step_move hs with
  | ctorFail _ ht' =>
    cases ht.symm.trans ht'
    exact ⟨fun h => (List.mem_filter_ne.1 h).2 rfl, List.mem_concat_self, rfl, rfl,
      fun x hx => List.mem_filter_ne.trans (and_iff_left hx), fun h => if_pos h⟩

/-- **`CreateProtocol` as it was left the node listed for ever**: the constructor of a local start fails; the node stays
listed although every thread has ended and nobody holds the instance (the caller got the error): no removal is
scheduled, the tree is never released.  The code as it is unlists it and the tree goes after the grace period. -/
theorem c11_old_failed_local_start_stays_listed :
    let sch : List Act := [.localStart 1, .thread 0, .ctorFail 0 false]
    ((runOld5 {} sch).live = [1] ∧ (runOld5 {} sch).thr.all (fun t => t.pc == .fin) = true ∧
      (runOld5 {} sch).armed = false ∧ step (runOld5 {} sch) .expire = none) ∧
    ((run {} sch).live = [] ∧ (run {} sch).doneToks = [1] ∧ (run {} sch).armed = true ∧
      (run {} (sch ++ [.expire])).present = false) := by decide

/-- the three ways a constructor produces no instance for an arrival: it returns an error; it panics (a service's
`NewProtocol`: `serviceManager.newProtocol` recovers the panic into an error); it returns `(nil, nil)` -/
inductive NoInstance where | error | panic | nilNil deriving DecidableEq, Repr

def noInstanceAct (i : Nat) : NoInstance → Act
  | .error => .ctorFail i false
  | .panic => .ctorFail i false
  | .nilNil => .ctorFail i true

/-- **whatever way the constructor fails, nothing stays behind**: for each of the three outcomes `TransmitMsg` ends in
`nodeDelete` — the node is unlisted, the token marked finished (later messages are dropped, the constructor never runs
for it again), nothing is handed over, the other instances are untouched, and the removal of the tree is scheduled
when nothing else is listed. -/
theorem c11_every_constructor_failure_cleans_up (s s' : St) (i : Nat) (t : Th) (ht : s.thr[i]? = some t)
    (hpc : t.pc = .bind) (o : NoInstance) (hs : step s (noInstanceAct i o) = some s') :
    t.tok ∉ s'.live ∧ t.tok ∈ s'.doneToks ∧ s'.handed = s.handed ∧ s'.present = s.present ∧
    (∀ x, x ≠ t.tok → (x ∈ s'.live ↔ x ∈ s.live)) ∧ (s'.live = [] → s'.armed = true) := by
  cases o <;> exact c11_failed_constructor_cleans_up s s' i t ht hpc _ hs

/-- **`TransmitMsg` as it was returned without a trace when the constructor gave neither an instance nor an error**: the
node stays listed although every thread has ended and no instance exists (nobody can declare it done), no done mark,
no removal scheduled: the tree is never released (and on the real code every later message for the token runs the
constructor again).  The code as it is unlists it, marks it and the tree goes after the grace period. -/
theorem c11_old_nil_instance_stays_listed :
    let sch : List Act := [.arrive 240 5, .thread 0, .treeResp, .thread 0, .thread 0, .thread 0, .ctorFail 0 true]
    ((runOld5 {} sch).live = [240] ∧ (runOld5 {} sch).doneToks = [] ∧ (runOld5 {} sch).thr.all (fun t => t.pc == .fin) = true ∧
      (runOld5 {} sch).armed = false ∧ step (runOld5 {} sch) .expire = none) ∧
    ((run {} sch).live = [] ∧ (run {} sch).doneToks = [240] ∧ (run {} sch).handed = [] ∧ (run {} sch).armed = true ∧
      (run {} (sch ++ [.expire])).present = false) := by decide

/-- non-vacuity: the constructor of an arrival fails while another instance is listed (tree stays, not armed); a late
message for the failed token is dropped; a bad-token message while an instance is listed does not arm the removal -/
example :
    let sch : List Act := [.localStart 1, .thread 0, .thread 0, .arrive 2 5, .thread 1, .thread 1, .thread 1, .ctorFail 1 false,
      .arrive 2 6, .thread 2, .thread 2, .arrive 1000 7, .thread 3, .thread 3]
    (run {} sch).live = [1] ∧ (run {} sch).doneToks = [2] ∧ (run {} sch).constructed = [1, 2] ∧ (run {} sch).handed = [] ∧
    (run {} sch).armed = false ∧ (run {} sch).present = true := by decide

/-! ### the life of a token refines `unborn → creating → running → finished`

`phase s tok`: 3 = marked finished (`instancesInfo`), 2 = listed and its creation completed (`Set` done), 1 = listed, the
creation still under way (between the listing and `Set`), 0 = the server knows nothing of it.  Every step of the model —
any thread, any `Done`, expiry, local start, failing constructor, peer traffic — moves every token's phase forward or not
at all: nothing is ever listed again once finished, nothing falls back to "unknown" (which would let the next message
create it again), a completed creation is not undone.  Holds from EVERY state, not only the reachable ones. -/

def phase (s : St) (tok : Nat) : Nat :=
  if tok ∈ s.doneToks then 3 else if tok ∈ s.settled then 2 else if tok ∈ s.live then 1 else 0


theorem phase_of_done {s : St} {tok : Nat} (h : tok ∈ s.doneToks) : phase s tok = 3 := if_pos h

theorem phase_lt_of_not_done {s : St} {tok : Nat} (h : tok ∉ s.doneToks) : phase s tok < 3 := by
  unfold phase
  rw [if_neg h]
  split
  · decide
  · split <;> decide

theorem phase_done {s : St} {tok : Nat} : 3 ≤ phase s tok ↔ tok ∈ s.doneToks :=
  ⟨fun h => Classical.byContradiction fun hd => Nat.lt_irrefl _ (Nat.lt_of_lt_of_le (phase_lt_of_not_done hd) h),
   fun h => Nat.le_of_eq (phase_of_done h).symm⟩

theorem phase_settled {s : St} {tok : Nat} (h : phase s tok = 2) : tok ∈ s.settled := by
  unfold phase at h
  split at h
  · cases h
  · split at h
    · assumption
    · split at h <;> cases h

theorem phase_mono_of (s s' : St) (tok : Nat) (h1 : ∀ x ∈ s.doneToks, x ∈ s'.doneToks)
    (h2 : ∀ x ∈ s.settled, x ∈ s'.settled ∨ x ∈ s'.doneToks) (h3 : ∀ x ∈ s.live, x ∈ s'.live ∨ x ∈ s'.doneToks) :
    phase s tok ≤ phase s' tok := by
  by_cases hd' : tok ∈ s'.doneToks
  · rw [phase_of_done hd']
    by_cases hd : tok ∈ s.doneToks
    · exact Nat.le_of_eq (phase_of_done hd)
    · exact Nat.le_of_lt (phase_lt_of_not_done hd)
  · have hd : tok ∉ s.doneToks := fun h => hd' (h1 tok h)
    unfold phase
    rw [if_neg hd, if_neg hd']
    by_cases hs : tok ∈ s.settled
    · rw [if_pos hs, if_pos ((h2 tok hs).resolve_right hd')]; exact Nat.le_refl 2
    · rw [if_neg hs]
      by_cases hl : tok ∈ s.live
      · rw [if_pos hl, if_pos ((h3 tok hl).resolve_right hd')]; split <;> decide
      · rw [if_neg hl]; exact Nat.zero_le _

theorem phase_thread {s s' : St} {i : Nat} {t : Th} (hs : stepTh s i t = some s') (tok : Nat) :
    phase s tok ≤ phase s' tok := by
  cases stepTh_move hs with
  | create =>
    exact phase_mono_of _ _ tok (fun _ h => h) (fun _ h => .inl h) (fun _ h => .inl (List.mem_append_left _ h))
  | settle =>
    refine phase_mono_of _ _ tok (fun _ h => h) (fun _ h => .inl ?_) (fun _ h => .inl h)
    dsimp only
    split
    · exact List.mem_append_left _ h
    · exact h
  | _ => exact Nat.le_refl _

/-- **one step never moves a token backwards** -/
theorem c11_phase_step (s s' : St) (a : Act) (hs : step s a = some s') (tok : Nat) : phase s tok ≤ phase s' tok := by
  cases step_move hs with
  | thread ht hs => exact phase_thread hs tok
  | done | ctorFail =>
    exact phase_mono_of _ _ tok (fun _ h => List.mem_append_left _ h) (fun _ h => List.mem_filter_ne_or_concat _ h)
      (fun _ h => List.mem_filter_ne_or_concat _ h)
  | localStart =>
    exact phase_mono_of _ _ tok (fun _ h => h) (fun _ h => .inl h) (fun _ h => .inl (List.mem_append_left _ h))
  | _ => exact Nat.le_refl _

/-- **refinement of the token life cycle over runs**: from any state, along any schedule, the phase of every token only
grows — a finished token stays finished (`phase = 3` is final), a listed one is never forgotten -/
theorem c11_lifecycle_refines (as : List Act) (s : St) (tok : Nat) : phase s tok ≤ phase (run s as) tok :=
  run_skips.inv (P := fun s' => phase s tok ≤ phase s' tok)
    (fun s1 s2 a h hs => Nat.le_trans h (c11_phase_step s1 s2 a hs tok)) as s (Nat.le_refl _)

/-- in reachable states the phases are what they are called: a finished token is not listed, a token whose creation
has completed is listed -/
theorem c11_phases_exclusive (as : List Act) (tok : Nat) :
    (phase (run {} as) tok = 3 → tok ∉ (run {} as).live) ∧ (phase (run {} as) tok = 2 → tok ∈ (run {} as).live) :=
  ⟨fun h => (inv_run as).disj tok (phase_done.1 (Nat.le_of_eq h.symm)), fun h => (inv_run as).sub tok (phase_settled h)⟩

/-- the variant a developer may want ("the done markers pile up: drop them together with the released tree", seeded change
C11r3-A): expiry forgets the marks — a finished token falls back to `unborn`, and the next late message creates it again -/
def stepForget (s : St) : Act → Option St
  | .expire => if s.armed then some { s with present := false, armed := false, requested := false, doneToks := [] } else none
  | a => step s a

/-- negation witness: with `stepForget` the phase of token 1 goes 3 → 0 -/
theorem c11_forgetting_marks_breaks_lifecycle :
    ∃ s s', stepForget s .expire = some s' ∧ phase s 1 = 3 ∧ phase s' 1 = 0 := by
  refine ⟨{ present := true, armed := true, used := true, doneToks := [1], constructed := [1] }, _, rfl, by decide, by decide⟩

/-- non-vacuity: token 1 passes through all four phases; token 2's constructor fails: 0 → 1 → 2 → 3 without ever running -/
example : phase (run {} [.localStart 1]) 1 = 1 ∧ phase (run {} [.localStart 1, .thread 0]) 1 = 2 ∧
    phase (run {} [.localStart 1, .thread 0, .thread 0, .done 1]) 1 = 3 ∧
    phase (run {} [.localStart 1, .thread 0, .thread 0, .arrive 2 5, .thread 1, .thread 1, .thread 1, .ctorFail 1 false]) 2 = 3 := by decide


/-- **finished stays finished, and is no longer listed**: a done marker is never removed, and a
token that is marked done is never among the listed instances again. -/
theorem c11_done_monotone (s s' : St) (a : Act) (tok : Nat) (hs : step s a = some s')
    (hd : tok ∈ s.doneToks) : tok ∈ s'.doneToks :=
  phase_done.1 (Nat.le_trans (phase_done.2 hd) (c11_phase_step s s' a hs tok))

theorem c11_done_not_listed (as : List Act) (tok : Nat) (hd : tok ∈ (run {} as).doneToks) :
    tok ∉ (run {} as).live :=
  (inv_run as).disj tok hd

/-- **the set of finished tokens only grows** — along any schedule, from any state, whatever else starts and finishes
meanwhile and however many: a done mark is never dropped (neither with the released tree — seeded C11r3-A —, nor because
many other instances finished since — seeded C11r7-B bounded the list at 1024) -/
theorem c11_done_for_ever (as : List Act) (s : St) (tok : Nat) (hd : tok ∈ s.doneToks) : tok ∈ (run s as).doneToks :=
  phase_done.1 (Nat.le_trans (phase_done.2 hd) (c11_lifecycle_refines as s tok))

/-- and so a late message is dropped after any amount of other activity: the `transmitMux` region of a message whose
token finished at some point in the past finds the mark -/
theorem c11_late_dropped_after_anything (as : List Act) (s : St) (tok : Nat) (hd : tok ∈ s.doneToks) (i : Nat) (t : Th)
    (ht : (run s as).thr[i]? = some t) (hpc : t.pc = .found) (htok : t.tok = tok) (s' : St)
    (hs : step (run s as) (.thread i) = some s') :
    s'.live = (run s as).live ∧ s'.constructed = (run s as).constructed ∧ s'.handed = (run s as).handed :=
  let h := c11_late_dropped (run s as) s' i t ht hpc (by rw [htok]; exact c11_done_for_ever as s tok hd) hs
  ⟨h.1, h.2.1, h.2.2.1⟩



/-! ## the tree store on its own, for all tree ids at once (`Model/C11Store.lean`) -/
namespace Store
open C11.Store

/-- **tree ids do not interfere**: under every sequence of store operations, on any ids and in any
order, what the store holds for one id is what a store holding only that id would hold after that
id's own operations (and the `Close`s) — the single-tree view that the C11 model takes is exact. -/
theorem independent (s : St) (ops : List Op) (id : Nat) :
    (run s ops).at_ id = run1 (s.at_ id) (ops.filterMap (restrict id)) := by
  induction ops generalizing s with
  | nil => rfl
  | cons o os ih =>
    simp only [run, List.filterMap_cons]
    rw [ih, at_step]
    cases h : restrict id o <;> simp [run1]

/-- operations that neither schedule a removal nor store a tree -/
def quiet : Op1 → Bool
  | .remove => false
  | .set _ => false
  | _ => true

/-- **a cancelled removal deletes nothing**: once `Set` has stored a tree (cancelling whatever removal
was scheduled), no sequence of timer firings, removal routines getting the lock — including routines
of removals scheduled BEFORE the `Set`, whose timers had already fired —, refreshes, registrations or a
`Close` takes the tree away; only a removal scheduled afterwards can. -/
theorem fresh_tree_survives (s : St1) (c : Nat) (ops : List Op1) (h : ∀ o ∈ ops, quiet o = true) :
    (run1 (step1 s (.set c)) ops).slot = .present c ∧ (run1 (step1 s (.set c)) ops).armed = none :=
  run1_inv (P := fun t => t.slot = .present c ∧ t.armed = none) (Q := fun o => quiet o = true)
    (fun t o ho ht =>
      ⟨step1_present ht.1 o (fun c' e => by rw [e] at ho; cases ho) (fun g _ hc => by rw [ht.2] at hc; cases hc.2),
       step1_unarmed ht.2 o (fun e => by rw [e] at ho; cases ho)⟩)
    ops _ h ⟨rfl, rfl⟩

/-- the same for the whole store: other ids may do anything meanwhile -/
theorem fresh_tree_survives_store (s : St) (id c : Nat) (ops : List Op)
    (h : ∀ o ∈ ops, ∀ o1, restrict id o = some o1 → quiet o1 = true) :
    ((run (step s (.on id (.set c))) ops).at_ id).slot = .present c := by
  rw [independent, at_step]
  have : restrict id (.on id (.set c)) = some (.set c) := by simp [restrict]
  rw [this]
  refine (fresh_tree_survives (s.at_ id) c _ ?_).1
  intro o1 ho1
  rw [List.mem_filterMap] at ho1
  obtain ⟨o, ho, hr⟩ := ho1
  exact h o ho o1 hr

/-- a removal routine that finds its removal cancelled (or replaced by a later one) changes nothing
but its own bookkeeping -/
theorem cancelled_removal_deletes_nothing (s : St1) (g : Nat) (h : s.armed ≠ some g) :
    (step1 s (.reap g)).slot = s.slot ∧ (step1 s (.reap g)).armed = s.armed := by
  rw [step1_eq]
  exact ⟨if_neg fun hc => h hc.2, if_neg fun hc => h hc.2⟩

/-- **released afterwards**: a scheduled removal that is not cancelled removes the tree once its timer
has fired and its routine got the lock -/
theorem removal_completes (s : St1) (g : Nat) (h : s.armed = some g) (hf : g ∉ s.firing) :
    (step1 (step1 s .timer) (.reap g)).slot = .absent ∧ (step1 (step1 s .timer) (.reap g)).armed = none := by
  simp [step1, h, hf]

/-- after `Close` nothing is scheduled any more, and nothing can be -/
theorem closed_store_schedules_nothing (s : St1) (ops : List Op1) (h : ∀ o ∈ ops, ∀ c, o ≠ .set c) :
    (run1 (step1 s .close) ops).closed = true ∧
    ((run1 (step1 s .close) ops).slot = .absent → s.slot = .absent ∨ s.slot = .requested) := by
  have hP := run1_inv (P := fun t => t.closed = true ∧ t.armed = none ∧ ∀ c, s.slot = .present c → t.slot = .present c)
    (Q := fun o => ∀ c, o ≠ .set c)
    (fun t o ho ht => ⟨step1_stays_closed ht.1 o, step1_unarmed ht.2.1 o (fun _ => ht.1),
      fun c hc => step1_present (ht.2.2 c hc) o ho (fun g _ hr => by rw [ht.2.1] at hr; cases hr.2)⟩)
    ops (step1 s .close) h ⟨rfl, rfl, fun _ hc => hc⟩
  refine ⟨hP.1, fun ha => ?_⟩
  cases hs : s.slot with
  | absent => exact .inl rfl
  | requested => exact .inr rfl
  | present c => rw [hP.2.2 c hs] at ha; cases ha

/-- the store as the one-tree model of C11 sees it: is the tree there, is a removal scheduled -/
structure View where
  present : Bool
  armed : Bool
  deriving DecidableEq, Repr

inductive VOp where
  | skip | refresh | set | remove | expire
  deriving DecidableEq, Repr

def vstep (v : View) : VOp → View
  | .skip => v
  | .refresh => { v with armed := false }
  | .set => { present := true, armed := false }
  | .remove => { v with armed := true }
  | .expire => if v.armed then { present := false, armed := false } else v

def view (s : St1) : View :=
  { present := match s.slot with | .present _ => true | _ => false, armed := s.armed.isSome }

/-- what a store operation is in the view, given the state it is applied to -/
def vop (s : St1) : Op1 → VOp
  | .register => .skip
  | .unregister => .skip
  | .refresh => .refresh
  | .set _ => .set
  | .remove => if s.closed then .skip else .remove
  | .timer => .skip
  | .reap g => if g ∈ s.firing ∧ s.armed = some g then .expire else .skip
  | .close => .refresh

/-- **the two-step expiry refines the one-step expiry**: every operation of the real store — including
the timer firing and the routine getting the lock later, possibly after the removal was cancelled or
scheduled again — acts on the one-tree view as one of: nothing, refresh, set, remove, expire; and
`expire` only ever happens to a removal that is still the scheduled one. -/
theorem refines_view (s : St1) (o : Op1) : view (step1 s o) = vstep (view s) (vop s o) := by
  unfold view
  rw [step1_eq]
  cases o with
  | register | unregister => cases s.slot <;> rfl
  | remove => dsimp only [vop]; cases s.closed <;> rfl
  | reap g =>
    dsimp only [vop]
    by_cases hc : g ∈ s.firing ∧ s.armed = some g
    · -- the routine of the scheduled removal: `expire` on a view that is armed
      simp only [if_pos hc]
      show _ = if s.armed.isSome = true then _ else _
      rw [hc.2]; rfl
    · simp only [if_neg hc]; rfl
  | _ => rfl


/-- the store operations each step of the one-tree model performs -/
def treeOps (s : C11.St) : C11.Act → List VOp
  | .arrive _ _ => []
  | .thread i => match s.thr[i]? with
      | some t => match t.pc with
          | .lookup => [.refresh]                       -- `getAndRefresh`
          | .flushed => [.refresh]
          -- late message, or a token that names no node of the tree: `cleanTreeStorage`
          | .found => if (t.tok ∈ s.doneToks ∨ badTok t.tok = true) ∧ s.live = [] then [.remove] else []
          | .set => [.set]                              -- `treeStorage.Set`
          | _ => []
      | none => []
  | .done tok =>
      -- `cleanTreeStorage`; a second `Done()` of a finished instance returns before it
      if tok ∈ s.settled ∧ s.thr.countP (regTok tok) = 0 then
        (if s.live.filter (· != tok) = [] then [.remove] else [])
      else []
  | .expire => [.expire]
  | .localStart _ => []
  | .peerReq => []                                       -- `treeStorage.Get`: no refresh
  | .doneRefused _ => []
  | .treeResp => [.set]                                  -- `RegisterTree`
  | .ctorFail i _ => match s.thr[i]? with                  -- `nodeDelete`: `cleanTreeStorage`
      | some t => if t.pc = .bind ∧ s.live.filter (· != t.tok) = [] then [.remove] else []
      | none => []

def cview (s : C11.St) : View := { present := s.present, armed := s.armed }

theorem foldl_clean (v : View) (c : Prop) [Decidable c] :
    (if c then [VOp.remove] else []).foldl vstep v = { v with armed := if c then true else v.armed } := by
  split <;> rfl

/-- **the one-tree model uses the store only through its operations**: on the tree's slot every step
of `Model/C11.lean` is exactly the listed store operations in the one-tree view — so, with
`refines_view` and `independent`, what is proved about that model's tree holds for the real store's
slot of that tree id, whatever happens to other trees and however late removal routines run. -/
theorem c11_model_uses_store_ops (s s' : C11.St) (a : C11.Act) (h : C11.step s a = some s') :
    cview s' = (treeOps s a).foldl vstep (cview s) := by
  cases step_move h with
  | thread ht hs =>
    simp only [treeOps, ht]
    cases stepTh_move hs with
    | hit hpc | miss hpc => rcases hpc with rfl | rfl <;> rfl
    | @drop tok m hm hd =>
      have : tok ∈ s.doneToks ∨ badTok tok = true := hd.imp_right And.right
      simp only [this, true_and]
      exact (foldl_clean (cview s) _).symm
    | hand hm hd hl => rw [if_neg fun h => List.ne_nil_of_mem hl h.2]; rfl
    | create hm hd hl hb => rw [if_neg fun h => h.1.elim hd (by rw [hb]; exact Bool.noConfusion)]; rfl
    | settle | bound => rfl
  | done hs hr => simp only [treeOps, if_pos (And.intro hs hr)]; exact (foldl_clean (cview s) _).symm
  | again hn hd => simp only [treeOps, if_neg hn]; rfl
  | expire ha => exact (if_pos ha).symm
  | ctorFail n ht => simp only [treeOps, ht, true_and]; exact (foldl_clean (cview s) _).symm
  | _ => rfl

/-- **the routine as it was before repair 2e39a89 deletes a tree that was just stored**: a removal is
scheduled, its timer fires while `Set` holds the lock, `Set` cancels the removal and stores the tree,
then the routine gets the lock and deletes without looking. -/
theorem old_routine_deletes_fresh_tree :
    (run1Old {} [.set 1, .remove, .timer, .set 2, .reap 0]).slot = .absent ∧
    (run1 {} [.set 1, .remove, .timer, .set 2, .reap 0]).slot = .present 2 := by decide

/-- worse: it also forgets a removal scheduled meanwhile, so the tree then stays for ever -/
theorem old_routine_forgets_new_removal :
    (run1Old {} [.set 1, .remove, .timer, .set 2, .remove, .reap 0]).armed = none ∧
    (run1 {} [.set 1, .remove, .timer, .set 2, .remove, .reap 0]).armed = some 1 := by decide

/-- generations are handed out once: whatever has fired and whatever is scheduled is older than the next one -/
structure Fresh (s : St1) : Prop where
  fir : ∀ g ∈ s.firing, g < s.gen
  arm : ∀ a, s.armed = some a → a < s.gen

theorem fresh_init : Fresh {} := ⟨by simp, by simp⟩

theorem fresh_step (s : St1) (o : Op1) (h : Fresh s) : Fresh (step1 s o) := by
  have hle := step1_gen_le s o
  refine ⟨fun g hg => ?_, fun a ha => ?_⟩
  · rcases step1_firing hg with hg | hg
    · exact Nat.lt_of_lt_of_le (h.fir g hg) hle
    · exact Nat.lt_of_lt_of_le (h.arm g hg.2) hle
  · rcases step1_armed_some ha with ha | ha
    · exact Nat.lt_of_lt_of_le (h.arm a ha) hle
    · rw [ha.1, ha.2]; exact Nat.lt_succ_self _

/-- a removal scheduled anew gets a generation that no routine has (`Fresh`); only the timer breaks this -/
theorem not_firing_step {t : St1} (h2 : ∀ g ∈ t.firing, t.armed ≠ some g) (h3 : Fresh t) (o : Op1) (ho : o ≠ .timer) :
    ∀ g ∈ (step1 t o).firing, (step1 t o).armed ≠ some g := by
  intro g hg ha
  have hg : g ∈ t.firing := (step1_firing hg).resolve_right fun h => ho h.1
  rcases step1_armed_some ha with ha | ha
  · exact h2 g hg ha
  · exact Nat.lt_irrefl _ (by have := h3.fir g hg; rwa [ha.1] at this)

/-- **a stale routine never completes a removal that is not its own**: in every reachable state of the
store, when a removal is newly scheduled (whatever was scheduled before has been cancelled), then
— as long as the timer of THIS removal has not fired — no removal routine that gets the lock (all the
stale ones of earlier, cancelled removals whose timers had fired), no refresh, registration or `Close`
releases the tree: it stays for the grace period of the latest removal. -/
theorem rearmed_removal_waits_for_own_timer (pre ops : List Op1) (c : Nat)
    (hs : (run1 {} pre).slot = .present c) (hn : (run1 {} pre).armed = none)
    (hc : (run1 {} pre).closed = false)
    (hq : ∀ o ∈ ops, o ≠ .timer ∧ (∀ c', o ≠ .set c')) :
    (run1 (step1 (run1 {} pre) .remove) ops).slot = .present c := by
  have hF : Fresh (run1 {} pre) :=
    run1_inv (Q := fun _ => True) (fun t o _ ht => fresh_step t o ht) pre {} (fun _ _ => trivial) fresh_init
  generalize run1 {} pre = s at *
  refine (run1_inv (P := fun t => t.slot = .present c ∧ (∀ g ∈ t.firing, t.armed ≠ some g) ∧ Fresh t)
    (Q := fun o => o ≠ .timer ∧ ∀ c', o ≠ .set c')
    (fun t o ho ht => ⟨step1_present ht.1 o ho.2 (fun g _ hr => ht.2.1 g hr.1 hr.2),
      not_firing_step ht.2.1 ht.2.2 o ho.1, fresh_step t o ht.2.2⟩)
    ops _ hq ⟨step1_present hs .remove nofun nofun, ?_, fresh_step s .remove hF⟩).1
  exact not_firing_step (fun g _ e => by rw [hn] at e; cases e) hF .remove nofun

/-- a removal completes only through the routine whose own timer fired while it was the scheduled one -/
theorem removal_only_by_own_routine (s : St1) (g c : Nat) (hp : s.slot = .present c)
    (hd : (step1 s (.reap g)).slot ≠ .present c) : s.armed = some g ∧ g ∈ s.firing :=
  Classical.byContradiction fun hn =>
    hd (step1_present hp (.reap g) nofun fun g' e hc => by cases e; exact hn ⟨hc.2, hc.1⟩)

/-- **the variant that only asks whether some removal is registered releases the tree early**
(seeded change C11r4-B): removal 0 is scheduled, its timer fires, it is cancelled (`getAndRefresh`) and
removal 1 scheduled while routine 0 waits for the lock; routine 0 then deletes the tree although the
timer of removal 1 has not fired.  The code as it is keeps the tree and removal 1. -/
theorem planned_variant_releases_early :
    (run1Planned {} [.set 1, .remove, .timer, .refresh, .remove, .reap 0]).slot = .absent ∧
    (run1 {} [.set 1, .remove, .timer, .refresh, .remove, .reap 0]).slot = .present 1 ∧
    (run1 {} [.set 1, .remove, .timer, .refresh, .remove, .reap 0]).armed = some 1 ∧
    (run1 {} [.set 1, .remove, .timer, .refresh, .remove, .reap 0]).firing = [] := by decide

example : (run1 {} [.set 1, .remove, .timer, .refresh]).slot = .present 1 ∧
    (run1 {} [.set 1, .remove, .timer, .refresh]).armed = none ∧
    (run1 {} [.set 1, .remove, .timer, .refresh]).firing = [0] := by decide


/-- non-vacuity of `independent`/`fresh_tree_survives_store`: three ids interleaved -/
example : ((run {} [.on 0 (.set 1), .on 1 (.set 1), .on 0 .remove, .on 2 .register, .on 0 .timer,
      .on 1 .remove, .on 0 (.set 2), .on 0 (.reap 0), .on 1 .timer, .on 1 (.reap 0), .close]).at_ 0).slot = .present 2 ∧
    ((run {} [.on 0 (.set 1), .on 1 (.set 1), .on 0 .remove, .on 2 .register, .on 0 .timer,
      .on 1 .remove, .on 0 (.set 2), .on 0 (.reap 0), .on 1 .timer, .on 1 (.reap 0), .close]).at_ 1).slot = .absent ∧
    ((run {} [.on 0 (.set 1), .on 1 (.set 1), .on 0 .remove, .on 2 .register, .on 0 .timer,
      .on 1 .remove, .on 0 (.set 2), .on 0 (.reap 0), .on 1 .timer, .on 1 (.reap 0), .close]).at_ 2).slot = .requested := by
  decide


/-- the abstract store: what every tree id maps to, the set of ids whose removal is pending, the closing flag -/
structure Abs where
  trees : Nat → Slot
  pending : Nat → Bool
  closed : Bool

/-- the operations of the abstract store; `expire id` is the only one that takes a tree away -/
inductive AOp where
  | skip
  | register (id : Nat) | unregister (id : Nat)
  | refresh (id : Nat)
  | set (id c : Nat)
  | remove (id : Nat)
  | expire (id : Nat)
  | close
  deriving DecidableEq, Repr

def updF {α : Type} (f : Nat → α) (i : Nat) (x : α) : Nat → α := fun j => if j = i then x else f j

def astep (a : Abs) : AOp → Abs
  | .skip => a
  | .register id => { a with trees := updF a.trees id (match a.trees id with | .absent => .requested | x => x) }
  | .unregister id => { a with trees := updF a.trees id (match a.trees id with | .requested => .absent | x => x) }
  | .refresh id => { a with pending := updF a.pending id false }
  | .set id c => { a with trees := updF a.trees id (.present c), pending := updF a.pending id false }
  | .remove id => if a.closed then a else { a with pending := updF a.pending id true }
  | .expire id =>
      if a.pending id then { a with trees := updF a.trees id .absent, pending := updF a.pending id false } else a
  | .close => { a with pending := fun _ => false, closed := true }

def arun (a : Abs) : List AOp → Abs
  | [] => a
  | o :: os => arun (astep a o) os

/-- what the abstract store sees of the concrete one: the generation numbers, the routines waiting for the lock
and the per-id copies of the closing flag are gone -/
def abs (s : St) : Abs :=
  { trees := fun i => (s.at_ i).slot, pending := fun i => (s.at_ i).armed.isSome, closed := s.closed }

/-- the closing flag is one flag (the model keeps a copy per id so that `step1` can read it) -/
def Coherent (s : St) : Prop := ∀ i, (s.at_ i).closed = s.closed

theorem coherent_init : Coherent {} := fun _ => rfl

theorem coherent_step (s : St) (o : Op) (h : Coherent s) : Coherent (step s o) := by
  intro i
  cases o with
  | close => simp [step, step1]
  | on j o' =>
    have e : (step s (.on j o')).closed = s.closed := by cases o' <;> rfl
    rw [e, at_step, restrict]
    by_cases hc : j = i ∧ o' ≠ .close
    · rw [if_pos hc]
      show (step1 (s.at_ i) o').closed = s.closed
      rw [step1_eq]
      cases o' with
      | close => exact absurd rfl hc.2
      | _ => exact h i
    · rw [if_neg hc]; exact h i

/-- the abstract operation a concrete one amounts to, given the state it is applied to: the timer firing and a
routine that finds its removal cancelled or replaced are invisible; a routine completes the removal exactly
when its timer fired and its generation is still the scheduled one -/
def aop (s : St) : Op → AOp
  | .close => .close
  | .on id o => match o with
    | .register => .register id
    | .unregister => .unregister id
    | .refresh => .refresh id
    | .set c => .set id c
    | .remove => .remove id
    | .timer => .skip
    | .reap g => if g ∈ (s.at_ id).firing ∧ (s.at_ id).armed = some g then .expire id else .skip
    | .close => .skip

theorem updF_self {α : Type} (f : Nat → α) (i : Nat) : updF f i (f i) = f := by
  funext j
  unfold updF
  split
  · rw [‹j = i›]
  · rfl

theorem abs_on (s : St) (id : Nat) (o : Op1) (h : o ≠ .close) :
    abs (step s (.on id o)) =
      { trees := updF (abs s).trees id (step1 (s.at_ id) o).slot,
        pending := updF (abs s).pending id (step1 (s.at_ id) o).armed.isSome, closed := (abs s).closed } := by
  rw [step_on s id h]
  unfold abs upd updF
  congr 1 <;> (funext j; dsimp only; split <;> rfl)

theorem abs_at_self (s : St) (id : Nat) :
    (⟨updF (abs s).trees id (s.at_ id).slot, updF (abs s).pending id (s.at_ id).armed.isSome, (abs s).closed⟩ : Abs)
      = abs s := by
  rw [show (s.at_ id).slot = (abs s).trees id from rfl, show (s.at_ id).armed.isSome = (abs s).pending id from rfl,
    updF_self, updF_self]

/-- **the tree store is a map plus a set of pending removals**: every operation of the store model — on any id,
including the two halves of an expiry and routines of removals that were cancelled or scheduled again
meanwhile — is exactly one operation of the abstract store. -/
theorem refines_map_and_pending (s : St) (o : Op) (h : Coherent s) :
    abs (step s o) = astep (abs s) (aop s o) := by
  cases o with
  | close => rfl
  | on id o' =>
    cases o' with
    | close => rfl
    | set c => exact abs_on s id (.set c) nofun
    | refresh =>
      rw [abs_on s id .refresh nofun]
      show _ = Abs.mk (abs s).trees _ _
      congr 1
      exact updF_self (abs s).trees id
    | register | unregister =>
      rw [abs_on s id _ (by nofun)]
      simp only [step1_eq]
      show _ = Abs.mk _ (abs s).pending _
      congr 1
      exact updF_self (abs s).pending id
    | timer =>
      rw [abs_on s id .timer nofun]
      simp only [step1_eq]
      exact abs_at_self s id
    | remove =>
      rw [abs_on s id .remove nofun]
      simp only [step1_eq, h id]
      show _ = if s.closed = true then abs s else _
      split
      · exact abs_at_self s id
      · show _ = Abs.mk (abs s).trees _ _
        congr 1
        exact updF_self (abs s).trees id
    | reap g =>
      rw [abs_on s id (.reap g) nofun]
      simp only [step1_eq]
      show _ = astep (abs s) (if g ∈ (s.at_ id).firing ∧ (s.at_ id).armed = some g then .expire id else .skip)
      split
      · -- the routine of the scheduled removal: `expire id`, and the removal is pending
        rename_i hc
        have hp : (abs s).pending id = true := by
          show (s.at_ id).armed.isSome = true
          rw [hc.2]; rfl
        show _ = if (abs s).pending id = true then _ else _
        rw [if_pos hp]
        rfl
      · exact abs_at_self s id

/-- the abstract trace of a concrete run -/
def atrace (s : St) : List Op → List AOp
  | [] => []
  | o :: os => aop s o :: atrace (step s o) os

/-- **refinement over runs**: from the empty store (or any coherent one), every run of the store model is the
run of the abstract store over its trace -/
theorem run_refines (s : St) (ops : List Op) (h : Coherent s) :
    abs (run s ops) = arun (abs s) (atrace s ops) ∧ Coherent (run s ops) := by
  induction ops generalizing s with
  | nil => exact ⟨rfl, h⟩
  | cons o os ih =>
    simp only [run, atrace, arun]
    rw [← refines_map_and_pending s o h]
    exact ih _ (coherent_step s o h)

theorem updF_keep {α : Type} {f : Nat → α} {j id : Nat} {v x : α} (h : f id = x) (hv : id = j → v = x) :
    updF f j v id = x := by
  unfold updF
  split
  · exact hv ‹_›
  · exact h

/-- in the abstract store a tree goes away only by the expiry of a removal that is pending — never by a
registration, a withdrawal, a refresh, a `Set` of another id, a removal being scheduled, or `Close` -/
theorem abs_tree_leaves_only_by_expire (a : Abs) (o : AOp) (id c : Nat)
    (h : a.trees id = .present c) (h' : (astep a o).trees id ≠ .present c) :
    (o = .expire id ∧ a.pending id = true) ∨ (∃ c', c' ≠ c ∧ o = .set id c') := by
  cases o with
  | skip | close | refresh j => exact absurd h h'
  | remove j =>
    simp only [astep] at h'
    split at h' <;> exact absurd h h'
  | register j | unregister j => exact absurd (updF_keep h fun e => by rw [← e, h]) h'
  | set j c' =>
    by_cases e : id = j ∧ c' ≠ c
    · cases e.1; exact .inr ⟨c', e.2, rfl⟩
    · exact absurd (updF_keep h fun ej => by rw [Classical.not_not.1 fun ec => e ⟨ej, ec⟩]) h'
  | expire j =>
    simp only [astep] at h'
    split at h'
    · by_cases e : id = j
      · cases e; exact .inl ⟨rfl, ‹_›⟩
      · exact absurd (updF_keep h fun ej => absurd ej e) h'
    · exact absurd h h'

/-- **liveness at quiescence**: when no removal is pending, no timer firing and no removal routine — however
stale — changes the abstract store: the trees that are stored stay stored until the overlay schedules a
removal. -/
theorem quiescent_store_is_stable (s : St) (id g : Nat) (hq : (s.at_ id).armed = none) :
    aop s (.on id .timer) = .skip ∧ aop s (.on id (.reap g)) = .skip := by
  simp [aop, hq]

/-- and the other direction: a pending removal whose timer fired is completed by its own routine, as the
abstract `expire` -/
theorem pending_removal_expires (s : St) (id g : Nat) (ha : (s.at_ id).armed = some g) (hf : g ∉ (s.at_ id).firing) :
    aop (step s (.on id .timer)) (.on id (.reap g)) = .expire id := by
  have : (step s (.on id .timer)).at_ id = step1 (s.at_ id) .timer := by simp [step, upd]
  simp [aop, this, step1, ha, hf]

/-- non-vacuity: set, remove, timer, a refresh and a new removal inside the fired window, the stale routine, then
the new removal's own expiry — the abstract trace is `set, remove, skip, refresh, remove, skip, skip, expire` -/
example : atrace {} [.on 2 (.set 7), .on 2 .remove, .on 2 .timer, .on 2 .refresh, .on 2 .remove, .on 2 (.reap 0),
      .on 2 .timer, .on 2 (.reap 1)]
    = [.set 2 7, .remove 2, .skip, .refresh 2, .remove 2, .skip, .skip, .expire 2] := by decide

/-- the same read on the store model itself: the tree stored under an id is replaced or removed only by a `Set` of
that id or by the removal routine of that id whose generation is the scheduled one and whose timer has fired -/
theorem store_tree_leaves_only_by_expire (s : St) (o : Op) (h : Coherent s) (id c : Nat)
    (hp : (s.at_ id).slot = .present c) (hn : ((step s o).at_ id).slot ≠ .present c) :
    (aop s o = .expire id ∧ (s.at_ id).armed.isSome = true) ∨ (∃ c', c' ≠ c ∧ aop s o = .set id c') := by
  have r := refines_map_and_pending s o h
  exact abs_tree_leaves_only_by_expire (abs s) (aop s o) id c hp (by rw [← r]; exact hn)

/-- **the roster of a stored tree is handed out** (`GetRoster`, what `handleRequestRoster` answers a peer of the
deprecated exchange with): whatever else the store holds or has released -/
theorem roster_of_stored_tree_found (ids : List Nat) (ro : Nat → Nat) (s : St) (j c : Nat) (hj : j ∈ ids)
    (hs : (s.at_ j).slot = .present c) : getRosterIn ids ro s (ro j) = true := by
  unfold getRosterIn
  exact List.any_eq_true.mpr ⟨j, hj, by simp [get, hs]⟩

/-- **the release of one tree does not take a sibling's roster away**: tree `j` is stored; after any operations on
OTHER ids — removals scheduled, timers fired, routines completed, so that trees over the same roster are released —
`GetRoster` still finds the roster of `j` (seeded change C11r7-A kept an index of rosters and dropped the entry with the
first tree that went) -/
theorem sibling_release_keeps_roster (ids : List Nat) (ro : Nat → Nat) (s : St) (j c : Nat) (hj : j ∈ ids)
    (hs : (s.at_ j).slot = .present c) (ops : List Op) (hops : ∀ o ∈ ops, ∃ i o1, o = .on i o1 ∧ i ≠ j) :
    getRosterIn ids ro (run s ops) (ro j) = true := by
  apply roster_of_stored_tree_found ids ro _ j c hj
  rw [independent]
  have : ops.filterMap (restrict j) = [] := by
    apply List.filterMap_eq_nil_iff.mpr
    intro o ho
    obtain ⟨i, o1, rfl, hne⟩ := hops o ho
    simp [restrict, hne]
  rw [this]; exact hs

/-- non-vacuity: trees 0 and 1 over roster 0; tree 0 is removed and released; the roster is still found through tree 1 -/
example : getRosterIn (List.range 6) (· / 3)
    (run {} [.on 0 (.set 1), .on 1 (.set 1), .on 0 .remove, .on 0 .timer, .on 0 (.reap 0)]) 0 = true ∧
    ((run {} [.on 0 (.set 1), .on 1 (.set 1), .on 0 .remove, .on 0 .timer, .on 0 (.reap 0)]).at_ 0).slot = .absent := by decide

/-- `GetRoster` on the abstract store: a roster is found iff some stored tree carries it -/
def absGetRoster (ids : List Nat) (ro : Nat → Nat) (a : Abs) (r : Nat) : Bool :=
  ids.any fun k => (match a.trees k with | .present _ => true | _ => false) && ro k == r

/-- **`GetRoster` is part of the refinement**: the store model's answer is the abstract store's — it depends on the
map alone (not on pending removals, generations, routines waiting for the lock, the closing flag) -/
theorem getRoster_refines (ids : List Nat) (ro : Nat → Nat) (s : St) (r : Nat) :
    getRosterIn ids ro s r = absGetRoster ids ro (abs s) r := by
  unfold getRosterIn absGetRoster
  congr 1
  funext k
  simp only [abs, get]
  cases (s.at_ k).slot <;> rfl

/-- so on the abstract store: `GetRoster ro = true` iff some id of the range holds a tree over `ro` -/
theorem absGetRoster_iff (ids : List Nat) (ro : Nat → Nat) (a : Abs) (r : Nat) :
    absGetRoster ids ro a r = true ↔ ∃ k ∈ ids, (∃ c, a.trees k = .present c) ∧ ro k = r := by
  unfold absGetRoster
  rw [List.any_eq_true]
  constructor
  · rintro ⟨k, hk, h⟩
    refine ⟨k, hk, ?_⟩
    cases ht : a.trees k <;> simp [ht] at h ⊢
    exact h
  · rintro ⟨k, hk, ⟨c, hc⟩, hr⟩
    exact ⟨k, hk, by simp [hc, hr]⟩

/-- **a tree that is present is never replaced by a peer's tree** — `setIfMissing` leaves the whole per-id state alone
(tree, scheduled removal, routines) and says so; this is the step both peer paths store with, so two answers handled at
the same time cannot replace each other's tree (before /repo 6a4418f the test and the `Set` were two steps: probe
`notes/probes/onet_c06_sendtree_race_probe_test.go.txt`, 2843 replacements in 3000 rounds) -/
theorem setIfMissing_never_replaces (s : St1) (c0 c : Nat) (b : Bool) (h : s.slot = .present c0) :
    setIfMissing1 s c b = (s, false) := by
  simp [setIfMissing1, h]

/-- it is `Set` or nothing, and the flag says which; with `onlyRequested` it stores only into a requested slot -/
theorem setIfMissing_is_set_or_nothing (s : St1) (c : Nat) (b : Bool) :
    (setIfMissing1 s c b = (s, false) ∧ (s.slot = .absent → b = true) ∧ s.slot ≠ .requested) ∨
    (setIfMissing1 s c b = (step1 s (.set c), true) ∧ (b = true → s.slot = .requested) ∧ ∀ c0, s.slot ≠ .present c0) := by
  unfold setIfMissing1
  cases hs : s.slot with
  | present c0 => left; simp
  | requested => right; simp
  | absent =>
    cases b with
    | true => left; simp
    | false => right; simp

/-- two answers one after the other, in either order: the second changes nothing (what the race needed two steps for) -/
theorem second_answer_changes_nothing (s : St1) (c c' : Nat) (b b' : Bool) (h : (setIfMissing1 s c b).2 = true) :
    setIfMissing1 (setIfMissing1 s c b).1 c' b' = ((setIfMissing1 s c b).1, false) := by
  rcases setIfMissing_is_set_or_nothing s c b with ⟨e, _, _⟩ | ⟨e, _, _⟩
  · rw [e] at h; simp at h
  · rw [e]; exact setIfMissing_never_replaces _ c c' b' (by simp [step1])

end Store

/-! ### the code regions the model stands for
Regenerated from /repo's source on every run (`harness/cmd/astfacts` → `OnetVerif/Shapes.lean`): the
calls that matter for synchronisation and data flow, the lock regions and (for decision logic) the
conditions, in source order.  A re-ordering, a dropped call or a changed condition breaks these
obligations even when no sampled input or schedule shows a difference; the check then searches for
a failing input. -/
theorem c11_shape_Overlay_nodeDone :
    Shapes.overlay_Overlay_nodeDone =
   ["instancesLock.Lock", "o.nodeDelete", "instancesLock.Unlock"] := rfl

theorem c11_shape_Overlay_nodeDelete :
    Shapes.overlay_Overlay_nodeDelete =
   ["token.ID", "tni.closeDispatch", "o.cleanTreeStorage"] := rfl

theorem c11_shape_Overlay_cleanTreeStorage :
    Shapes.overlay_Overlay_cleanTreeStorage =
   ["if:inst.token.TreeID.Equal(token.TreeID)", "if:notUsed", "treeStorage.Remove"] := rfl

theorem c11_shape_Overlay_newTreeNodeInstanceFromToken :
    Shapes.overlay_Overlay_newTreeNodeInstanceFromToken =
   ["newTreeNodeInstance", "instancesLock.Lock", "defer:instancesLock.Unlock", "if:o.closed",
     "tni.closeDispatch", "return:tni", "tok.ID", "return:tni"] := rfl

theorem c11_shape_Overlay_NewTreeNodeInstanceFromService :
    Shapes.overlay_Overlay_NewTreeNodeInstanceFromService =
   ["uuid.NewRandom", "uuid.Must", "RoundID", "o.newTreeNodeInstanceFromToken", "o.RegisterTree"] := rfl

theorem c11_shape_Overlay_Close :
    Shapes.overlay_Overlay_Close =
   ["instancesLock.Lock", "defer:instancesLock.Unlock", "tni.Token", "o.nodeDelete",
     "treeStorage.Close"] := rfl

theorem c11_shape_treeStorage_Register :
    Shapes.treestorage_treeStorage_Register =
   ["ts.Lock", "if:!ok", "ts.Unlock"] := rfl

theorem c11_shape_treeStorage_Unregister :
    Shapes.treestorage_treeStorage_Unregister =
   ["ts.Lock", "defer:ts.Unlock", "if:(tree==nil)"] := rfl

theorem c11_shape_treeStorage_getAndRefresh :
    Shapes.treestorage_treeStorage_getAndRefresh =
   ["ts.Lock", "defer:ts.Unlock", "ts.cancelDeletion"] := rfl

theorem c11_shape_treeStorage_Set :
    Shapes.treestorage_treeStorage_Set =
   ["ts.Lock", "defer:ts.Unlock", "ts.cancelDeletion"] := rfl

theorem c11_shape_treeStorage_Remove :
    Shapes.treestorage_treeStorage_Remove =
   ["ts.Lock", "defer:ts.Unlock", "if:ts.closed", "return:", "if:ok", "return:", "wg.Add", "go{",
     "defer:wg.Done", "time.NewTimer", "recv:C", "verifPoint:ts.fired", "ts.Lock",
     "if:(ts.cancellations[]==c)", "ts.Unlock", "recv:c", "timer.Stop", "return:", "}"] := rfl

theorem c11_shape_treeStorage_cancelDeletion :
    Shapes.treestorage_treeStorage_cancelDeletion =
   ["close:c"] := rfl

theorem c11_shape_treeStorage_Close :
    Shapes.treestorage_treeStorage_Close =
   ["ts.Lock", "close:c", "ts.Unlock", "wg.Wait"] := rfl

theorem c11_shape_Overlay_CreateProtocol_c11 :
    Shapes.overlay_Overlay_CreateProtocol_c11 =
   ["protoIO.getByName", "assign:io:=o.protoIO.getByName(name)", "ProtocolNameToID",
     "o.NewTreeNodeInstanceFromService",
     "assign:tni:=o.NewTreeNodeInstanceFromService(t,t.Root,ProtocolNameToID(name),sid,io)",
     "server.protocolInstantiate",
     "assign:pi,err:=o.server.protocolInstantiate(tni.token.ProtoID,tni)", "if:(err!=nil)",
     "instancesLock.Lock", "o.nodeDelete", "instancesLock.Unlock",
     "return:nil,xerrors.Errorf(\"\",err)", "o.RegisterProtocolInstance",
     "assign:err=o.RegisterProtocolInstance(pi)", "if:(err!=nil)",
     "return:nil,xerrors.Errorf(\"\",err)", "go{", "defer{", "assign:r:=recover()",
     "if:(r!=nil)", "}", "pi.Dispatch", "assign:err:=pi.Dispatch()", "if:(err!=nil)", "}",
     "return:pi,err"] := rfl

theorem c11_shape_Overlay_nodeDelete_c11 :
    Shapes.overlay_Overlay_nodeDelete_c11 =
   ["token.ID", "assign:tok:=token.ID()", "assign:tni,ok:=o.instances[tok]", "if:!ok", "return:",
     "tni.closeDispatch", "assign:err:=tni.closeDispatch()", "if:(err!=nil)",
     "o.cleanTreeStorage", "assign:o.instancesInfo[tok]=true"] := rfl

theorem c11_shape_Overlay_cleanTreeStorage_c11 :
    Shapes.overlay_Overlay_cleanTreeStorage_c11 =
   ["assign:notUsed:=true", "range:_,inst:=o.instances{",
     "if:inst.token.TreeID.Equal(token.TreeID)", "assign:notUsed=false", "}", "if:notUsed",
     "treeStorage.Remove"] := rfl

theorem c11_shape_Overlay_nodeDone_c11 :
    Shapes.overlay_Overlay_nodeDone_c11 =
   ["instancesLock.Lock", "o.nodeDelete", "instancesLock.Unlock"] := rfl


end C11

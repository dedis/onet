import OnetVerif.Model.C06
import OnetVerif.Gen.C06
import OnetVerif.Proofs.C06Lists
import OnetVerif.Proofs.GenRt
/-! Property C06 — the definitions regenerated from the Go source (`Gen/C06.lean`, written by `harness/cmd/go2lean`
on every check run from `treestorage.go` and `tree.go`) equal the hand-written model of the tree store (`Model/C06.lean`,
`Ovl.store` with `lookup` / `insert` / `erase`).  `Gen.C06.treeStorage` keeps the field `trees` of the Go struct
(a Go map: `Gen.Rt.Map`, `none` = the nil map; a value `none` = the nil tree pointer of a requested slot);
`storeOf` reads it as the model's association list.  Two association lists are compared as maps: by what
`lookup` finds for every key.  From `tree.go`: `Roster.Search` and `Roster.searchByKey` as translated are the
model's `search` (`rosterOf` reads the model's roster as the Go one), the "not in the roster" test of
`MakeTreeFromList` fires exactly when `search` finds nothing, and `Roster.Get` never panics.  Nothing imports this
file. -/
namespace C06

/-- the translated store read as the model's -/
def storeOf (ts : Gen.C06.treeStorage) : List (Nat × Option Tree) := ts.trees.getD []

/-- the model's overlay state with that store -/
def ovlOf (ts : Gen.C06.treeStorage) : Ovl := { store := storeOf ts }

theorem find_eq_lookup {α} (m : Gen.Rt.Map Nat α) (id : Nat) :
    Gen.Rt.Map.find m id = lookup (m.getD []) id := by
  unfold Gen.Rt.Map.find
  induction m.getD [] with
  | nil => rfl
  | cons p rest ih =>
    obtain ⟨k, v⟩ := p
    simp only [List.lookup, lookup]
    by_cases h : k = id
    · subst h; simp
    · have : (id == k) = false := by simp; exact fun e => h e.symm
      simp [this, h, ih]

theorem find_trees_eq_lookup (ts : Gen.C06.treeStorage) (id : Nat) :
    Gen.Rt.Map.find ts.trees id = lookup (storeOf ts) id := find_eq_lookup _ _

/-- **`treeStorage.IsRegistered` as translated is the model's `isRegistered`**: the id has a slot -/
theorem c06_gen_IsRegistered_eq (ts : Gen.C06.treeStorage) (id : Nat) :
    Gen.C06.treeStorage_IsRegistered ts id = (ovlOf ts).isRegistered id := by
  simp [Gen.C06.treeStorage_IsRegistered, Ovl.isRegistered, ovlOf, find_trees_eq_lookup]

/-- **`treeStorage.IsRequested` as translated is the model's `isRequested`**: the id has a slot and the slot holds
the nil tree -/
theorem c06_gen_IsRequested_eq (ts : Gen.C06.treeStorage) (id : Nat) :
    Gen.C06.treeStorage_IsRequested ts id = (ovlOf ts).isRequested id := by
  simp only [Gen.C06.treeStorage_IsRequested, Ovl.isRequested, ovlOf, find_trees_eq_lookup]
  cases h : lookup (storeOf ts) id with
  | none => rfl
  | some v => cases v <;> rfl

/-- **`treeStorage.Get` as translated is the model's `get`**: the tree, nil for an absent or a requested slot -/
theorem c06_gen_Get_eq (ts : Gen.C06.treeStorage) (id : Nat) :
    Gen.C06.treeStorage_Get ts id = (ovlOf ts).get id := by
  simp only [Gen.C06.treeStorage_Get, Gen.Rt.Map.get, Ovl.get, ovlOf, find_trees_eq_lookup]
  cases h : lookup (storeOf ts) id with
  | none => rfl
  | some v => cases v <;> rfl

/-- **`treeStorage.Register` as translated is the model's local step `request`** (on a store that was made by
`newTreeStorage`, i.e. whose map is not nil — writing to the nil map is the panic outcome `none`): it does not
panic, and afterwards every id finds what it finds in the model's store — a slot holding the nil tree is made
unless the id has a slot already -/
theorem c06_gen_Register_eq (ts : Gen.C06.treeStorage) (id : Nat) (hm : ts.trees.isSome) :
    ∃ ts', Gen.C06.treeStorage_Register ts id = some ts' ∧
      ∀ j, lookup (storeOf ts') j = lookup (localStep (ovlOf ts) (.request id)).store j := by
  simp only [Gen.C06.treeStorage_Register, localStep, ovlOf, find_trees_eq_lookup]
  rcases Option.eq_none_or_eq_some (lookup (storeOf ts) id) with h | ⟨v, h⟩
  · simp only [h, Option.isSome_none, Bool.not_false, if_true, Gen.Rt.Map.insert?_eq _ hm, Bool.false_eq_true, if_false]
    refine ⟨_, rfl, fun j => ?_⟩
    rw [lookup_insert]
    rfl
  · simp only [h, Option.isSome_some, Bool.not_true, Bool.false_eq_true, if_false, if_true]
    exact ⟨_, rfl, fun j => rfl⟩

/-- **`treeStorage.Unregister` as translated is the model's local step `unrequest`**: the slot is removed when it
holds the nil tree (removing an absent slot changes nothing), a slot that holds a tree is kept -/
theorem c06_gen_Unregister_eq (ts : Gen.C06.treeStorage) (id : Nat) :
    ∀ j, lookup (storeOf (Gen.C06.treeStorage_Unregister ts id)) j =
      lookup (localStep (ovlOf ts) (.unrequest id)).store j := by
  intro j
  rw [← find_trees_eq_lookup]
  simp only [Gen.C06.treeStorage_Unregister, Gen.Rt.Map.get, localStep, Ovl.isRequested, ovlOf, find_trees_eq_lookup ts id]
  rcases Option.eq_none_or_eq_some (lookup (storeOf ts) id) with h | ⟨v, h⟩
  · -- no slot: Go reads the nil tree from the absent key and deletes the key, the model (`isRequested` is false)
    -- does nothing — erasing an absent id changes no lookup
    have e1 : ((none : Option (Option Tree)) == some none) = false := rfl
    simp only [h, Option.getD_none, Option.isNone_none, if_true, e1, Bool.false_eq_true, if_false,
      Gen.Rt.Map.find_erase, find_trees_eq_lookup]
    split
    · next e => rw [e, h]
    · rfl
  · cases v with
    | none =>
      -- a slot holding the nil tree: both erase it
      have e1 : ((some (none : Option Tree)) == some none) = true := rfl
      simp only [h, Option.getD_some, Option.isNone_none, if_true, e1, Gen.Rt.Map.find_erase, lookup_erase,
        find_trees_eq_lookup, eq_comm]
    | some t =>
      -- a slot holding a tree: both leave the store as it is
      have e1 : ((some (some t)) == some (none : Option Tree)) = false := by simp
      simp only [h, e1, Option.getD_some, Option.isNone_some, Bool.false_eq_true, if_false, find_trees_eq_lookup]

/-- a roster of the model as the translated `Roster` sees it: no entry is the nil pointer, every entry carries
its `ID` field -/
def rosterOf (l : List Server) : Gen.C06.Roster := { List := l.map fun s => some { ID := s.sid } }

/-- what `Roster.Search` returns for the model's answer: position and entry, or `-1, nil` -/
def searchResult : Option (Nat × Server) → Int × Option Gen.C06.ServerIdentity
  | some (i, s) => (Int.ofNat i, some { ID := s.sid })
  | none => (-1, none)

private theorem find?_zipIdx_eq_search (l : List Server) (sid off : Nat) :
    ((l.zipIdx off).find? fun t => t.1.sid == sid) = (search l sid).map fun t => (t.2, t.1 + off) := by
  induction l generalizing off with
  | nil => rfl
  | cons s rest ih =>
    rw [search, List.zipIdx_cons, List.find?_cons]
    by_cases h : s.sid = sid
    · rw [if_pos h, beq_iff_eq.mpr h]
      exact congrArg (fun n => some (s, n)) (Nat.zero_add off).symm
    · rw [if_neg h, beq_false_of_ne h, ih (off + 1), Option.map_map]
      exact congrArg (Option.map · _) (funext fun t => congrArg (t.2, ·) (show t.1 + (off + 1) = t.1 + 1 + off by omega))

/-- the loop of `Roster.Search` and of `Roster.searchByKey` (the same text), from position 0 -/
private theorem search_enum (l : List Server) (sid : Nat) :
    (match Gen.Rt.rangeReturn (Gen.Rt.enumFrom 0 (l.map fun s => some ({ ID := s.sid } : Gen.C06.ServerIdentity)))
        (fun p => match p.2 with
          | none => some none
          | some e => if (e.ID == sid) then some (some (p.1, p.2)) else none) with
      | some r => r
      | none => some ((-1 : Int), none)) = some (searchResult (search l sid)) := by
  rw [Gen.Rt.rangeReturn, Gen.Rt.findSome?_enumFrom (fun s : Server => ({ ID := s.sid } : Gen.C06.ServerIdentity))
    (·.sid == sid) (fun i e => some (i, some e)) _ (fun _ _ => rfl), find?_zipIdx_eq_search]
  cases search l sid <;> rfl

/-- **`Roster.Search` as translated is the model's `search`** on a roster without nil entries: it does not panic
and returns the position and the entry of the first server whose `ID` field is the id, `-1, nil` when there is
none (a nil entry before the hit is the panic outcome: the loop reads `e.ID`) -/
theorem c06_gen_Roster_Search_eq (l : List Server) (sid : Nat) :
    Gen.C06.Roster_Search (rosterOf l) sid = some (searchResult (search l sid)) := by
  unfold Gen.C06.Roster_Search Gen.Rt.enum rosterOf
  exact search_enum l sid

/-- **`Roster.searchByKey` as translated is the model's `search`** on a roster without nil entries (`searchByKey` is
the look-up by `GetID()` that `MakeTreeFromList` uses; the reduced `ServerIdentity.ID` stands for the identifier derived
from the key): it does not panic and returns the position and the entry of the first server whose `ID` field is the id, `-1, nil` when there is
none (a nil entry before the hit is the panic outcome: the loop reads `e.ID`) -/
theorem c06_gen_Roster_searchByKey_eq (l : List Server) (sid : Nat) :
    Gen.C06.Roster_searchByKey (rosterOf l) sid = some (searchResult (search l sid)) := by
  unfold Gen.C06.Roster_searchByKey Gen.Rt.enum rosterOf
  exact search_enum l sid

/-- **the "server not in the roster" test of `MakeTreeFromList` as the code has it** (`idx < 0` on the first result of
`ro.searchByKey`): it fires exactly when the model's `search` finds nothing — the model's `Err.unknownServer` branch of
`makeForest` is taken on the same inputs as the code's `didn't find node in roster` return.  (A changed sentinel of
`Roster.Search`, or a test `idx <= 0` that would refuse the roster's first server, breaks this.) -/
theorem c06_gen_MakeTreeFromList_notFound_iff (l : List Server) (sid : Nat) :
    (Gen.C06.Roster_searchByKey (rosterOf l) sid).map (fun r => Gen.C06.MakeTreeFromList_notFound r.1) =
      some (search l sid).isNone := by
  rw [c06_gen_Roster_searchByKey_eq]
  cases search l sid with
  | none => simp [searchResult, Gen.C06.MakeTreeFromList_notFound]
  | some p =>
    obtain ⟨i, e⟩ := p
    simp only [searchResult, Gen.C06.MakeTreeFromList_notFound, Option.map_some, Option.isNone_some]
    -- a position found is not negative
    exact congrArg some (decide_eq_false (Int.not_lt.mpr (Int.natCast_nonneg i)))

/-- **`Roster.Get` as translated** (the code of /repo db213ab; under the guard `idx > len(ro.List)` of the commit
before it `Get(len(ro.List))` is an index panic although the function promises nil on an index error — probe
`notes/probes/onet_roster_get_at_len_probe_test.go.txt`): it never panics; `nil` for an index outside the list, the
entry for an index inside -/
theorem c06_gen_Roster_Get_spec (ro : Gen.C06.Roster) (idx : Int) :
    Gen.C06.Roster_Get ro idx =
      some (if idx < 0 ∨ (ro.List.length : Int) ≤ idx then none else (ro.List[idx.toNat]?).getD none) := by
  unfold Gen.C06.Roster_Get Gen.Rt.idx Gen.Rt.len
  by_cases h1 : idx < 0
  · simp [h1]
  · by_cases h2 : (ro.List.length : Int) ≤ idx
    · simp [h1, h2]
    · have h3 : ¬ (idx ≥ Int.ofNat ro.List.length) := by simpa using h2
      simp only [h1, h3, decide_false, Bool.or_self, Bool.false_eq_true, if_false, h2, or_self]
      have hlt : idx.toNat < ro.List.length := by omega
      simp [List.getElem?_eq_getElem hlt]

/-- `Get(len(ro.List))` is nil, not an index panic -/
theorem c06_gen_Roster_Get_at_len : Gen.C06.Roster_Get { List := [some { ID := 7 }] } 1 = some none := by
  rw [c06_gen_Roster_Get_spec]; simp
end C06

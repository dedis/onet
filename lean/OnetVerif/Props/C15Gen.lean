import OnetVerif.Proofs.C15Step
import OnetVerif.Gen.C15
/-! Property C15 — the decisions regenerated from the Go source (`Gen/C15.lean`, written by `harness/cmd/go2lean` on every
check run from `processor.go` and `websocket.go`).  `ProcessClientStreamRequest` and `wsHandler.ServeHTTP` are goroutines,
channels, locks and reflection and cannot be translated as functions; their **decisions** are lifted out as predicates over
the variables they read (`"extract"` in `meta/go2lean.json`): when `outChan` is closed (`forwarders == 0 && !outClosed`, in
`endStream` and in a forwarder's deferred function), whether a request is refused (`refused := outClosed || noChan`), whether
it counts as a forwarder (`!refused && !known`), whether it gets none (`refused || known`), whether its stopper waits for
`stopAll` (`!refused`), the adapter's draining (`ended`), the end of a forwarder (`!ok`), the normal close (`!ok` on
`outChan`).  The theorems say that the transition system of `Model/C15.lean` — the code as it is, `Variant.fixed` — takes
exactly these decisions.  Nothing imports this file. -/
namespace C15

/-- the conditions as read from the source -/
theorem c15_gen_conditions (f : Int) (oc nc r k e ok s : Bool) :
    Gen.C15.endStream_closesOut f oc = (f == 0 && !oc) ∧
    Gen.C15.forwarderExit_closesOut f oc = (f == 0 && !oc) ∧
    Gen.C15.adapter_refused oc nc = (oc || nc) ∧
    Gen.C15.adapter_countsForwarder r k = (!r && !k) ∧
    Gen.C15.adapter_noForwarder r k = (r || k) ∧
    Gen.C15.stopper_waitsForStopAll r = !r ∧
    Gen.C15.adapter_drains e = e ∧
    Gen.C15.adapter_nilChannelEnds nc = nc ∧
    Gen.C15.forwarder_channelClosed ok = !ok ∧
    Gen.C15.serve_streamOver ok = !ok ∧
    Gen.C15.serve_plainRequest s = !s := ⟨rfl, rfl, rfl, rfl, rfl, rfl, rfl, rfl, rfl, rfl, rfl⟩

/-- the source's test `forwarders == 0 && !outClosed` on an `int` and the model's `outClosed || fcount == 0` -/
theorem closes_test {oc : Bool} {i : Int} {n : Nat} (h : i = 0 ↔ n = 0) : (oc || (i == 0 && !oc)) = (oc || n == 0) := by
  cases oc
  · show (i == 0 && true) = (n == 0)
    rw [Bool.and_true, Bool.eq_iff_iff, beq_iff_eq, beq_iff_eq]; exact h
  · rfl

/-- **the end of a forwarder** (`fwdExit`, the deferred function, processor.go:597-606): `forwarders--`, and `outChan` is
closed exactly when the translated test on the new count says so -/
theorem c15_gen_forwarder_exit (s : St) (h : 1 ≤ s.fcount) :
    (fwdExit .fixed s).fcount = s.fcount - 1 ∧
    (fwdExit .fixed s).outClosed =
      (s.outClosed || Gen.C15.forwarderExit_closesOut ((s.fcount : Int) - 1) s.outClosed) := by
  -- a forwarder is counted (`h`), so the decrement on `Nat` is the source's on `int`
  have hz : (s.fcount : Int) - 1 = 0 ↔ s.fcount - 1 = 0 := by omega
  exact ⟨rfl, (closes_test hz).symm⟩

/-- **a message that does not decode / a failing handler** (`adapterFail`: `ended = true; endStream()`,
processor.go:484-494, 512-531): the adapter drains from now on, every service is told to stop, and `outChan` is closed
exactly when the translated test of `endStream` says so -/
theorem c15_gen_end_stream (s : St) :
    (adapterFail .fixed s).ended = true ∧ (adapterFail .fixed s).stopAll = true ∧
    (adapterFail .fixed s).outClosed = (s.outClosed || Gen.C15.endStream_closesOut (s.fcount : Int) s.outClosed) := by
  exact ⟨rfl, rfl, (closes_test (by omega)).symm⟩

/-- **a request whose handler hands back a channel** (`newStream`, processor.go:533-584): the stream it adds is refused
exactly when the translated `refused := outClosed || noChan` (with a real channel) says so, it is counted as a forwarder
exactly when the translated `!refused && !known` says so (a new channel: not known), and it has no forwarder exactly
when the translated `refused || known` does -/
theorem c15_gen_new_stream (s : St) (t : Stream) (ht : t.refused = false) (hf : t.fwd = .recv) :
    let refused := Gen.C15.adapter_refused s.outClosed false
    (newStream .fixed s t).streams = s.streams ++
      [if Gen.C15.adapter_noForwarder refused false then { t with refused := true, fwd := .done } else t] ∧
    (newStream .fixed s t).fcount = (if Gen.C15.adapter_countsForwarder refused false then s.fcount + 1 else s.fcount) ∧
    (∀ st ∈ (newStream .fixed s t).streams, st ∉ s.streams →
      st.refused = refused ∧ (st.fwd = .done ↔ Gen.C15.adapter_noForwarder refused false = true)) := by
  rw [newStream_fixed]
  have new : ∀ {st x : Stream}, st ∈ s.streams ++ [x] → st ∉ s.streams → st = x := fun hst hn =>
    (List.mem_append.mp hst).elim (absurd · hn) List.mem_singleton.mp
  cases s.outClosed with
  | false =>
    refine ⟨rfl, rfl, fun st hst hn => ?_⟩
    cases new hst hn
    exact ⟨ht, fun h => (by cases hf.symm.trans h), nofun⟩
  | true =>
    refine ⟨rfl, rfl, fun st hst hn => ?_⟩
    cases new hst hn
    exact ⟨rfl, fun _ => rfl, fun _ => rfl⟩

/-- **a request whose handler hands back a nil channel** (`nilOut`, processor.go:547-556): it ends the stream like a
failing handler (the translated `if noChan`), is refused by the translated `refused := outClosed || noChan` whatever
`outClosed` is, and gets no forwarder; **a channel handed back a second time** (`known`): no second forwarder -/
theorem c15_gen_nil_channel_and_known (s : St) (oc r : Bool) :
    Gen.C15.adapter_nilChannelEnds true = true ∧
    Gen.C15.adapter_refused oc true = true ∧
    Gen.C15.adapter_noForwarder (Gen.C15.adapter_refused oc true) false = true ∧
    Gen.C15.adapter_countsForwarder (Gen.C15.adapter_refused oc true) false = false ∧
    (nilOut .fixed s).ended = true ∧ (nilOut .fixed s).fcount = s.fcount ∧
    (∃ st, (nilOut .fixed s).streams = s.streams ++ [st] ∧ st.refused = true ∧ st.fwd = .done ∧ st.noOut = true) ∧
    Gen.C15.adapter_noForwarder r true = true ∧ Gen.C15.adapter_countsForwarder r true = false := by
  refine ⟨rfl, by cases oc <;> rfl, by cases oc <;> rfl, by cases oc <;> rfl, rfl, rfl, ⟨_, rfl, rfl, rfl, rfl⟩,
    by cases r <;> rfl, by cases r <;> rfl⟩

/-- **who waits for `stopAll`**: the stopper of a request does its work (`Act.stop k`) when `stopAll` is closed or — the
translated `if !refused { <-stopAll }` — at once when the request was refused -/
theorem c15_gen_stopper (caps : Caps) (s : St) (k : Nat) (st : Stream) (hk : s.streams[k]? = some st)
    (hp : s.panic = none) (hs : st.stopClosed = false) :
    (step .fixed caps s (.stop k)).isSome = (s.stopAll || !Gen.C15.stopper_waitsForStopAll st.refused) := by
  rw [step_stop, if_neg (isSome_panic hp), hk]
  show (if ((s.stopAll || st.refused) && !st.stopClosed) = true then some _ else none).isSome = (s.stopAll || !!st.refused)
  rw [hs]
  cases s.stopAll <;> cases st.refused <;> rfl

end C15

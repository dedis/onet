import OnetVerif.Model.C11Store
import OnetVerif.Gen.C11
import OnetVerif.Gen.C11S
import OnetVerif.Proofs.GenRt
/-! Property C11 — the functions of `treestorage.go` regenerated from the Go source by `harness/cmd/go2lean` on every
check run, tied to the model of the store (`Model/C11Store.lean`): each is the model's `step1` on its own id and leaves
every other id alone.  A tree pointer is read as an option of the tree's copy number.  Nothing imports this file. -/
namespace C11.Store

/-- the slot of a tree id in the translated store -/
def slotOf (ts : Gen.C11.treeStorage) (id : Nat) : Slot :=
  match Gen.Rt.Map.find ts.trees id with
  | none => .absent
  | some none => .requested
  | some (some c) => .present c

private theorem find_cases {ν : Type} (m : Gen.Rt.Map Nat (Option ν)) (id : Nat) :
    Gen.Rt.Map.find m id = none ∨ Gen.Rt.Map.find m id = some none ∨ ∃ t, Gen.Rt.Map.find m id = some (some t) := by
  rcases Option.eq_none_or_eq_some (Gen.Rt.Map.find m id) with h | ⟨v, h⟩
  · exact .inl h
  · cases v with
    | none => exact .inr (.inl h)
    | some t => exact .inr (.inr ⟨t, h⟩)

/-- **`IsRegistered` as translated: the slot is not absent** -/
theorem c11_gen_IsRegistered_eq (ts : Gen.C11.treeStorage) (id : Nat) :
    Gen.C11.treeStorage_IsRegistered ts id = (slotOf ts id != .absent) := by
  unfold Gen.C11.treeStorage_IsRegistered slotOf
  rcases find_cases ts.trees id with h | h | ⟨t, h⟩ <;> simp [h]

/-- **`IsRequested` as translated: the slot is `requested`** (key present, nil tree) -/
theorem c11_gen_IsRequested_eq (ts : Gen.C11.treeStorage) (id : Nat) :
    Gen.C11.treeStorage_IsRequested ts id = (slotOf ts id == .requested) := by
  unfold Gen.C11.treeStorage_IsRequested slotOf
  rcases find_cases ts.trees id with h | h | ⟨t, h⟩ <;> simp [h]

/-- **`Get` as translated: the tree of a present slot, nil otherwise** -/
theorem c11_gen_Get_eq (ts : Gen.C11.treeStorage) (id : Nat) :
    Gen.C11.treeStorage_Get ts id = (match slotOf ts id with | .present c => some c | _ => none) := by
  unfold Gen.C11.treeStorage_Get Gen.Rt.Map.get slotOf
  rcases find_cases ts.trees id with h | h | ⟨t, h⟩ <;> simp [h]

/-- **`Register` as translated is the model's `register` step on the slot of its id** (on a store made by
`newTreeStorage`: the map is not nil, so the write cannot panic) and changes no other id's slot -/
theorem c11_gen_Register_eq (ts : Gen.C11.treeStorage) (id : Nat) (hm : ts.trees.isSome) :
    ∃ ts', Gen.C11.treeStorage_Register ts id = some ts' ∧
      slotOf ts' id = (step1 { slot := slotOf ts id } .register).slot ∧ ∀ j, j ≠ id → slotOf ts' j = slotOf ts j := by
  unfold Gen.C11.treeStorage_Register
  rcases Option.eq_none_or_eq_some (Gen.Rt.Map.find ts.trees id) with h | ⟨v, h⟩
  · simp only [h, Option.isSome_none, Bool.not_false, if_true, Gen.Rt.Map.insert?_eq _ hm]
    refine ⟨_, rfl, ?_, fun j hj => ?_⟩
    · simp [slotOf, Gen.Rt.Map.find_put, h, step1]
    · simp [slotOf, Gen.Rt.Map.find_put, hj]
  · simp only [h, Option.isSome_some, Bool.not_true, Bool.false_eq_true, if_false]
    refine ⟨_, rfl, ?_, fun j _ => rfl⟩
    cases v <;> simp [slotOf, h, step1]

/-- **`Unregister` as translated is the model's `unregister` step on the slot of its id** (a requested slot becomes
absent, a present tree is kept) and changes no other id's slot -/
theorem c11_gen_Unregister_eq (ts : Gen.C11.treeStorage) (id : Nat) :
    slotOf (Gen.C11.treeStorage_Unregister ts id) id = (step1 { slot := slotOf ts id } .unregister).slot ∧
      ∀ j, j ≠ id → slotOf (Gen.C11.treeStorage_Unregister ts id) j = slotOf ts j := by
  unfold Gen.C11.treeStorage_Unregister Gen.Rt.Map.get
  rcases find_cases ts.trees id with h | h | ⟨c, h⟩
  · simp only [h, Option.getD_none, Option.isNone_none, if_true]
    refine ⟨?_, fun j hj => ?_⟩
    · simp [slotOf, Gen.Rt.Map.find_erase, h, step1]
    · simp [slotOf, Gen.Rt.Map.find_erase, hj]
  · simp only [h, Option.getD_some, Option.isNone_none, if_true]
    refine ⟨?_, fun j hj => ?_⟩
    · simp [slotOf, Gen.Rt.Map.find_erase, h, step1]
    · simp [slotOf, Gen.Rt.Map.find_erase, hj]
  · simp only [h, Option.getD_some, Option.isNone_some, Bool.false_eq_true, if_false]
    simp [slotOf, h, step1]

/-! `Gen/C11S.lean`.  The store as translated has three fields: `trees` (tree pointer ↦ option of a `Tree` reduced to its `ID`),
`cancellations` (the channel of a scheduled removal ↦ its identity, an `Option Nat`: the generation number of the model,
`none` = nil channel) and `closed`.  `viewS ts id g f` reads the model's per-id state `St1` off it (the generation
counter `g` and the routines waiting for the lock `f` are not fields of the Go struct: they stand for the channel
allocator and the goroutines). -/

def slotS (ts : Gen.C11S.treeStorage) (id : Nat) : Slot :=
  match Gen.Rt.Map.find ts.trees id with
  | none => .absent
  | some none => .requested
  | some (some t) => .present t.ID

def armedS (ts : Gen.C11S.treeStorage) (id : Nat) : Option Nat := Gen.Rt.Map.get ts.cancellations id none

def viewS (ts : Gen.C11S.treeStorage) (id g : Nat) (f : List Nat) : St1 :=
  { slot := slotS ts id, armed := armedS ts id, gen := g, firing := f, closed := ts.closed }

theorem cancelDeletion_trees (ts : Gen.C11S.treeStorage) (id : Nat) :
    (Gen.C11S.treeStorage_cancelDeletion ts id).trees = ts.trees := by
  unfold Gen.C11S.treeStorage_cancelDeletion
  cases Gen.Rt.Map.get ts.cancellations id none <;> rfl

/-- `cancelDeletion` as translated: the removal of its id is no longer scheduled, whatever it was; nothing else changes -/
theorem c11_gen_cancelDeletion_eq (ts : Gen.C11S.treeStorage) (id g : Nat) (f : List Nat) :
    viewS (Gen.C11S.treeStorage_cancelDeletion ts id) id g f = step1 (viewS ts id g f) .refresh ∧
    ∀ j, j ≠ id → viewS (Gen.C11S.treeStorage_cancelDeletion ts id) j g f = viewS ts j g f := by
  unfold Gen.C11S.treeStorage_cancelDeletion
  cases hc : Gen.Rt.Map.get ts.cancellations id none with
  | none =>
    refine ⟨?_, fun j _ => ?_⟩
    · simp [viewS, step1, armedS, slotS, hc]
    · simp
  | some c =>
    refine ⟨?_, fun j hj => ?_⟩
    · simp [viewS, step1, armedS, slotS, Gen.Rt.Map.get, Gen.Rt.Map.find_erase]
    · simp [viewS, armedS, slotS, Gen.Rt.Map.get, Gen.Rt.Map.find_erase, hj]

/-- **`getAndRefresh` as translated returns the tree of a present slot** (the cancellation it performs first is
`c11_gen_cancelDeletion_eq`; the function's result does not carry the updated store) -/
theorem c11_gen_getAndRefresh_eq (ts : Gen.C11S.treeStorage) (id : Nat) :
    (Gen.C11S.treeStorage_getAndRefresh ts id).map (·.ID) = (match slotS ts id with | .present c => some c | _ => none) := by
  unfold Gen.C11S.treeStorage_getAndRefresh
  simp only [cancelDeletion_trees, Gen.Rt.Map.get, slotS]
  rcases find_cases ts.trees id with h | h | ⟨t, h⟩ <;> simp [h]

theorem viewS_put (ts : Gen.C11S.treeStorage) (k : Nat) (t : Gen.C11S.Tree) (j g : Nat) (f : List Nat) :
    viewS { ts with trees := Gen.Rt.Map.put ts.trees k (some t) } j g f =
      if j = k then { viewS ts j g f with slot := .present t.ID } else viewS ts j g f := by
  simp only [viewS, slotS, Gen.Rt.Map.find_put]
  by_cases h : j = k
  · rw [if_pos h, if_pos h]; rfl
  · rw [if_neg h, if_neg h]; rfl

/-- **`Set` as translated is the model's `set` step** on the view of the tree's id (on a store made by
`newTreeStorage`: the map is not nil), and changes no other id's view; a nil tree is the panic outcome -/
theorem c11_gen_Set_eq (ts : Gen.C11S.treeStorage) (k g : Nat) (f : List Nat) (hm : ts.trees.isSome) :
    ∃ ts', Gen.C11S.treeStorage_Set ts (some { ID := k }) = some ts' ∧
      viewS ts' k g f = step1 (viewS ts k g f) (.set k) ∧ ∀ j, j ≠ k → viewS ts' j g f = viewS ts j g f := by
  obtain ⟨h1, h2⟩ := c11_gen_cancelDeletion_eq ts k g f
  unfold Gen.C11S.treeStorage_Set
  simp only [Gen.Rt.Map.insert?_eq _ (cancelDeletion_trees ts k ▸ hm)]
  -- the write on top of `cancelDeletion`: `set` is `refresh`, then the slot
  refine ⟨_, rfl, ?_, fun j hj => ?_⟩
  · rw [viewS_put, if_pos rfl, h1]; rfl
  · rw [viewS_put, if_neg hj, h2 j hj]

theorem c11_gen_Set_nil_panics (ts : Gen.C11S.treeStorage) : Gen.C11S.treeStorage_Set ts none = none := rfl

/-- **`Close` as translated is the model's `close` step on every id's view**: the flag is set, no removal stays
scheduled, no tree is touched -/
theorem c11_gen_Close_eq (ts : Gen.C11S.treeStorage) (j g : Nat) (f : List Nat) :
    viewS (Gen.C11S.treeStorage_Close ts) j g f = step1 (viewS ts j g f) .close := by
  unfold Gen.C11S.treeStorage_Close
  cases hc : ts.cancellations <;>
    simp [viewS, step1, armedS, slotS, Gen.Rt.Map.get, Gen.Rt.Map.find, Gen.Rt.Map.clear, hc]

/-- **the two decisions of `Remove`**: its first test is the model's `closed` test; the re-check of the removal routine
under the lock (`ts.cancellations[id] == c`, /repo 2e39a89) is the model's `armed = some g` — the routine of generation
`g` deletes exactly when its own removal is still the scheduled one -/
theorem c11_gen_Remove_decisions (ts : Gen.C11S.treeStorage) (id g g' : Nat) (f : List Nat) :
    Gen.C11S.Remove_closed ts = (viewS ts id g f).closed ∧
    (Gen.C11S.Remove_reap_deletes ts id (some g') = true ↔ (viewS ts id g f).armed = some g') := by
  refine ⟨by simp [Gen.C11S.Remove_closed, viewS], ?_⟩
  simp [Gen.C11S.Remove_reap_deletes, viewS, armedS]

/-- so the model's `reap` is the routine as translated: given that the timer of generation `g'` has fired, the step
deletes the tree and the registration iff the translated re-check says so -/
theorem c11_gen_reap_uses_translated_recheck (ts : Gen.C11S.treeStorage) (id g g' : Nat) (f : List Nat) (hf : g' ∈ f) :
    step1 (viewS ts id g f) (.reap g') =
      (if Gen.C11S.Remove_reap_deletes ts id (some g') then
        { viewS ts id g f with firing := f.filter (· != g'), slot := .absent, armed := none }
       else { viewS ts id g f with firing := f.filter (· != g') }) := by
  have h := (c11_gen_Remove_decisions ts id g g' f).2
  by_cases hd : Gen.C11S.Remove_reap_deletes ts id (some g') = true
  · have ha := h.mp hd
    simp only [hd, if_true]
    simp only [viewS] at ha ⊢
    simp [step1, hf, ha]
  · have ha : ¬ (viewS ts id g f).armed = some g' := fun e => hd (h.mpr e)
    simp only [hd]
    simp only [viewS] at ha ⊢
    simp [step1, hf, ha]

/-- `setIfMissing` as translated: the test, then exactly the body of `Set` -/
private theorem gen_setIfMissing_unfold (ts : Gen.C11S.treeStorage) (k : Nat) (b : Bool) :
    Gen.C11S.treeStorage_setIfMissing ts (some { ID := k }) b =
      (if (!((Gen.Rt.Map.find ts.trees k).getD none).isNone) || (b && !(Gen.Rt.Map.find ts.trees k).isSome)
       then some (false, ts)
       else (Gen.C11S.treeStorage_Set ts (some { ID := k })).map fun x => (true, x)) := by
  unfold Gen.C11S.treeStorage_setIfMissing Gen.C11S.treeStorage_Set
  -- the `match`es on the tree that is given (`some _`) and the `let`s reduce; the test is left
  dsimp only
  split
  · rfl
  · cases (Gen.Rt.Map.insert? (Gen.C11S.treeStorage_cancelDeletion ts k).trees k (some { ID := k })) <;> rfl

/-- **`setIfMissing` as translated is the model's `setIfMissing1`** on the view of the tree's id (non-nil map): the same
flag, the same state of that id, every other id untouched — test and write are one function under one lock, which is
what makes a handler one step -/
theorem c11_gen_setIfMissing_eq (ts : Gen.C11S.treeStorage) (k g : Nat) (f : List Nat) (b : Bool) (hm : ts.trees.isSome) :
    ∃ r, Gen.C11S.treeStorage_setIfMissing ts (some { ID := k }) b = some r ∧
      r.1 = (setIfMissing1 (viewS ts k g f) k b).2 ∧ viewS r.2 k g f = (setIfMissing1 (viewS ts k g f) k b).1 ∧
      ∀ j, j ≠ k → viewS r.2 j g f = viewS ts j g f := by
  rw [gen_setIfMissing_unfold]
  obtain ⟨ts', hset, hv, ho⟩ := c11_gen_Set_eq ts k g f hm
  rcases find_cases ts.trees k with h | h | ⟨t, h⟩
  · have hs : (viewS ts k g f).slot = .absent := by simp [viewS, slotS, h]
    cases b with
    | true =>
      refine ⟨(false, ts), by simp [h], ?_, ?_, fun _ _ => rfl⟩ <;> simp [setIfMissing1, hs]
    | false =>
      refine ⟨(true, ts'), by simp [h, hset], ?_, ?_, ho⟩
      · simp [setIfMissing1, hs]
      · simp only [setIfMissing1, hs]; exact hv
  · have hs : (viewS ts k g f).slot = .requested := by simp [viewS, slotS, h]
    refine ⟨(true, ts'), by simp [h, hset], ?_, ?_, ho⟩
    · simp [setIfMissing1, hs]
    · simp only [setIfMissing1, hs]; exact hv
  · have hs : (viewS ts k g f).slot = .present t.ID := by simp [viewS, slotS, h]
    refine ⟨(false, ts), by simp [h], ?_, ?_, fun _ _ => rfl⟩ <;> simp [setIfMissing1, hs]
end C11.Store

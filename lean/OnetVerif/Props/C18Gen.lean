import OnetVerif.Model.C18
import OnetVerif.Gen.C18
import OnetVerif.Proofs.GenRt
/-! Property C18 — the four per-service-key accessors of `network/struct.go` as regenerated from the Go source
(`Gen/C18.lean`, written by `harness/cmd/go2lean` on every check run) equal the hand-written model
(`ServerId.servicePublic` … in `Model/C18.lean`), so `c18_accessor_entry`, `c18_accessor_absent`,
`c18_accessor_order_independent` and `c18_service_keys_from_file` are statements about the loops of the code itself.
A `kyber.Point` / `kyber.Scalar` is `Option Bytes` in the translation (`nil` = `none`); identities made by the readers
carry a public key and, in every service entry, both keys (`Gen.C18.WF`). -/
namespace C18

/-- the translated identity read as the model's -/
def SvcId.ofGen (s : Gen.C18.ServiceIdentity) : SvcId :=
  { name := s.Name, suite := [], pub := s.Public.getD [], priv := s.«private».getD [] }

def ServerId.ofGen (si : Gen.C18.ServerIdentity) : ServerId :=
  { pub := si.Public.getD [], ptype := 0, services := si.ServiceIdentities.map SvcId.ofGen, address := [],
    description := [], url := [], priv := si.«private» }

/-- what the readers produce: the server's public key and both keys of every entry are there -/
def Gen.C18.WF (si : Gen.C18.ServerIdentity) : Prop :=
  si.Public.isSome ∧ ∀ s ∈ si.ServiceIdentities, s.Public.isSome ∧ s.«private».isSome

theorem find?_ofGen (name : Str) (l : List Gen.C18.ServiceIdentity) :
    (l.map SvcId.ofGen).find? (fun s => s.name == name) = (l.find? fun s => s.Name == name).map SvcId.ofGen :=
  List.find?_map ..

private theorem pub_lookup (name : Str) (d : Option Bytes) (b : Bytes) (hd : d = some b) :
    ∀ (l : List Gen.C18.ServiceIdentity), (∀ s ∈ l, s.Public.isSome ∧ s.«private».isSome) →
    (l.findSome? (fun srvid => if (srvid.Name == name) then some srvid.Public else none)).getD d =
    some ((((l.map SvcId.ofGen).find? (fun s => s.name == name)).map (·.pub)).getD b) := fun l hs => by
  rw [show l.findSome? _ = _ from Gen.Rt.rangeReturn_first _ _ l, find?_ofGen]
  cases hf : l.find? (fun s => s.Name == name) with
  | none => exact hd
  | some s =>
    obtain ⟨pa, hpa⟩ := Option.isSome_iff_exists.mp (hs s (List.mem_of_find?_eq_some hf)).1
    simp only [Option.map_some, Option.getD_some, SvcId.ofGen, hpa]

private theorem priv_lookup (name : Str) (d : Option Bytes) :
    ∀ (l : List Gen.C18.ServiceIdentity), (∀ s ∈ l, s.Public.isSome ∧ s.«private».isSome) →
    (l.findSome? (fun srvid => if (srvid.Name == name) then some srvid.«private» else none)).getD d =
    (((l.map SvcId.ofGen).find? (fun s => s.name == name)).map (fun s => some s.priv)).getD d := fun l hs => by
  rw [show l.findSome? _ = _ from Gen.Rt.rangeReturn_first _ _ l, find?_ofGen]
  cases hf : l.find? (fun s => s.Name == name) with
  | none => rfl
  | some s =>
    obtain ⟨pa, hpa⟩ := Option.isSome_iff_exists.mp (hs s (List.mem_of_find?_eq_some hf)).2
    simp only [Option.map_some, Option.getD_some, SvcId.ofGen, hpa]

private theorem has_lookup (name : Str) (q : Gen.C18.ServiceIdentity → Bool) :
    ∀ (l : List Gen.C18.ServiceIdentity), (∀ s ∈ l, q s = true) →
    (l.findSome? (fun srvid => if ((srvid.Name == name) && q srvid) then some true else none)).getD false =
    (l.map SvcId.ofGen).any (fun s => s.name == name) := fun l hs => by
  rw [show l.findSome? _ = _ from Gen.Rt.rangeReturn_first _ _ l, List.any_map]
  cases hf : l.find? (fun s => s.Name == name && q s) with
  | none =>
    refine (List.any_eq_false.mpr fun s h hn => List.find?_eq_none.mp hf s h ?_).symm
    rw [hs s h, Bool.and_true]
    exact hn
  | some s =>
    have := List.find?_some hf
    exact (List.any_eq_true.mpr ⟨s, List.mem_of_find?_eq_some hf, (Bool.and_eq_true_iff.mp this).1⟩).symm
/-- **`ServicePublic` as translated** is the model's look-up: the first entry with exactly that name, else the
server's own key -/
theorem c18_gen_ServicePublic_eq (si : Gen.C18.ServerIdentity) (hw : Gen.C18.WF si) (name : Str) :
    Gen.C18.ServicePublic si name = some ((ServerId.ofGen si).servicePublic name) := by
  obtain ⟨hp, hs⟩ := hw
  obtain ⟨b, hb⟩ := Option.isSome_iff_exists.mp hp
  have L := pub_lookup name si.Public b hb si.ServiceIdentities hs
  unfold Gen.C18.ServicePublic Gen.Rt.rangeReturn ServerId.servicePublic
  simp only [ServerId.ofGen, hb] at L ⊢
  generalize List.findSome? _ si.ServiceIdentities = o at L ⊢
  generalize List.find? _ (List.map SvcId.ofGen si.ServiceIdentities) = o2 at L ⊢
  -- each side is a `match` on its look-up, `L` the same equation written with `getD`: whatever the two look-ups
  -- found, the goal computes to `L`
  cases o <;> cases o2 <;> exact L

/-- **`ServicePrivate` as translated**: the entry's private key, else the server's own (possibly nil) -/
theorem c18_gen_ServicePrivate_eq (si : Gen.C18.ServerIdentity) (hw : Gen.C18.WF si) (name : Str) :
    Gen.C18.ServicePrivate si name = (ServerId.ofGen si).servicePrivate name := by
  have L := priv_lookup name si.«private» si.ServiceIdentities hw.2
  unfold Gen.C18.ServicePrivate Gen.Rt.rangeReturn ServerId.servicePrivate
  simp only [ServerId.ofGen] at L ⊢
  generalize List.findSome? _ si.ServiceIdentities = o at L ⊢
  generalize List.find? _ (List.map SvcId.ofGen si.ServiceIdentities) = o2 at L ⊢
  cases o <;> cases o2 <;> exact L

/-- **`HasServicePublic` / `HasServiceKeyPair` as translated**: on identities whose entries carry their keys both
are "an entry of exactly that name exists" -/
theorem c18_gen_HasService_eq (si : Gen.C18.ServerIdentity) (hw : Gen.C18.WF si) (name : Str) :
    Gen.C18.HasServicePublic si name = (ServerId.ofGen si).hasServicePublic name ∧
    Gen.C18.HasServiceKeyPair si name = (ServerId.ofGen si).hasServiceKeyPair name := by
  constructor
  · have := has_lookup name (fun s => !s.Public.isNone) si.ServiceIdentities
      (fun s h => by rw [Option.not_isNone]; exact (hw.2 s h).1)
    unfold Gen.C18.HasServicePublic Gen.Rt.rangeReturn ServerId.hasServicePublic
    simp only [ServerId.ofGen] at this ⊢
    rw [← this]
    generalize List.findSome? _ si.ServiceIdentities = o
    cases o <;> rfl
  · have := has_lookup name (fun s => !s.Public.isNone && !s.«private».isNone) si.ServiceIdentities
      (fun s h => by rw [Option.not_isNone, Option.not_isNone, (hw.2 s h).1, (hw.2 s h).2]; rfl)
    unfold Gen.C18.HasServiceKeyPair Gen.Rt.rangeReturn ServerId.hasServiceKeyPair
    simp only [ServerId.ofGen, Bool.and_assoc] at this ⊢
    rw [← this]
    generalize List.findSome? _ si.ServiceIdentities = o
    cases o <;> rfl

end C18

import OnetVerif.Proofs.C15Step
import OnetVerif.Shapes
/-! Property C15 — streams deliver everything in order and end cleanly whoever leaves first.
Property theorems about the code as it is, witnesses against the code before the repairs, non-vacuity examples.  The
invariants are proved by cases on the moves of `Proofs/C15Step.lean`. -/
namespace C15

/-- the forwarder of a channel is still running -/
def live (st : Stream) : Bool := st.fwd != .done

/-- invariant behind "no send on, no close of a closed channel" -/
structure Inv (s : St) : Prop where
  nopanic : s.panic = none
  noextra : ∀ st ∈ s.streams, st.extra = []
  count : s.fcount = s.streams.countP live
  closedZero : s.outClosed = true → s.fcount = 0
  rdone : s.inClosed = true ↔ s.rpc = .done

theorem inv_init (m : CMsg) : Inv (init m) := by
  constructor <;> simp [init]

/-- replacing the forwarder state of channel `k` -/
theorem inv_setFwd {s : St} (hI : Inv s) {k : Nat} {st : Stream} (hk : s.streams[k]? = some st)
    (st' : Stream) (hx : st'.extra = []) :
    (∀ u ∈ s.streams.set k st', u.extra = []) ∧
    (s.streams.set k st').countP live + (if live st then 1 else 0) = s.fcount + (if live st' then 1 else 0) := by
  refine ⟨List.forall_mem_set hI.noextra hx, ?_⟩
  rw [hI.count]; exact List.countP_set' hk

section
variable {caps : Caps} {s s' : St} {a : Act} {k f : Nat} {st st' : Stream}

theorem Inv.fwd0 (hI : Inv s) (hk : s.streams[k]? = some st) {pc : FPc} (hf : getFwd st f = some pc) :
    f = 0 ∧ st.fwd = pc :=
  getFwd_zero st (hI.noextra st (List.mem_of_getElem? hk)) f pc hf

theorem Inv.inOpen (hI : Inv s) {m : CMsg} (hr : s.rpc = .hold m) : s.inClosed = false := by
  cases hc : s.inClosed with
  | false => rfl
  | true => have := hI.rdone.mp hc; rw [hr] at this; cases this

theorem Inv.outOpen (hI : Inv s) (hk : s.streams[k]? = some st) (hl : live st = true) : s.outClosed = false := by
  cases hc : s.outClosed with
  | false => rfl
  | true =>
    have hz := hI.count
    rw [hI.closedZero hc] at hz
    exact absurd hl (List.countP_eq_zero.mp hz.symm st (List.mem_of_getElem? hk))

theorem all_done_of_closed (hI : Inv s) (hc : s.outClosed = true) : ∀ st ∈ s.streams, st.fwd = .done := by
  intro st hst
  obtain ⟨k, hk⟩ := List.getElem?_of_mem hst
  cases hl : live st with
  | true => cases (hI.outOpen hk hl).symm.trans hc
  | false => simpa [live] using hl

theorem Inv.setStream {q : List (Nat × Nat)} (hI : Inv s) (hk : s.streams[k]? = some st) (hx : st'.extra = st.extra)
    (hl : live st' = live st) : Inv { s with outq := q, streams := s.streams.set k st' } := by
  obtain ⟨h1, h2⟩ := inv_setFwd hI hk st' (hx.trans (hI.noextra st (List.mem_of_getElem? hk)))
  rw [hl] at h2
  exact { hI with noextra := h1, count := (Nat.add_right_cancel h2).symm }

theorem Inv.fwdExit (hI : Inv s) (hk : s.streams[k]? = some st) (hl : live st = true) (hx : st'.extra = st.extra)
    (hd : live st' = false) : Inv (fwdExit .fixed { s with streams := s.streams.set k st' }) := by
  obtain ⟨h1, h2⟩ := inv_setFwd hI hk st' (hx.trans (hI.noextra st (List.mem_of_getElem? hk)))
  rw [hl, hd, if_pos rfl, if_neg Bool.false_ne_true] at h2
  exact { hI with
    noextra := h1
    count := by show s.fcount - 1 = List.countP live (s.streams.set k st'); omega
    closedZero := or_beq_zero fun hc => by show s.fcount - 1 = 0; rw [hI.closedZero hc] }

theorem Inv.served (hI : Inv s) (h : Served s s') : Inv s' := by
  cases h with
  | known => exact { hI with }
  | fail => exact { hI with closedZero := or_beq_zero hI.closedZero }
  | fresh c b ho =>
    exact { hI with
      noextra := List.forall_mem_concat hI.noextra rfl
      count := by
        show s.fcount + 1 = List.countP live (s.streams ++ [_])
        rw [List.countP_append, hI.count]; rfl
      closedZero := fun hc => by cases ho.symm.trans hc }
  | refused =>
    exact { hI with
      noextra := List.forall_mem_concat hI.noextra rfl
      count := by
        show s.fcount = List.countP live (s.streams ++ [_])
        rw [List.countP_append, hI.count]; rfl }
  | nil =>
    exact { hI with
      noextra := List.forall_mem_concat hI.noextra rfl
      count := by
        show s.fcount = List.countP live (s.streams ++ [_])
        rw [List.countP_append, hI.count]; rfl
      closedZero := or_beq_zero hI.closedZero }

theorem Inv.step (hI : Inv s) (h : Step .fixed caps s a s') : Inv s' := by
  cases h with
  | cSend | cLeave | aEnd | aDrain | wData | wClose | wClosing | wFail => exact { hI with }
  | rExit | rLeave => exact { hI with rdone := ⟨fun _ => rfl, fun _ => rfl⟩ }
  | rRead hr => exact { hI with rdone := ⟨fun hc => (by cases hr ▸ hI.rdone.mp hc), fun hd => (by cases hd)⟩ }
  | rPanic hr hc => cases (hI.inOpen hr).symm.trans hc
  | rFwd hr hc => exact { hI with rdone := ⟨fun hc' => (by cases hc.symm.trans hc'), fun hd => (by cases hd)⟩ }
  | @aServe m rest => exact Inv.served (s := { s with inq := rest }) { hI with } (serve_served _ m)
  | emit _ hk _ _ hf | fSend hk hf =>
    obtain ⟨rfl, hfw⟩ := hI.fwd0 hk hf
    exact hI.setStream hk rfl (by rw [live, live, hfw]; rfl)
  | svcClose hk => exact hI.setStream hk rfl rfl
  | stop hk => rw [stopChan_fixed]; exact hI.setStream hk rfl rfl
  | emitBad hk _ _ hf | fExit hk hf | fDrop hk hf =>
    obtain ⟨rfl, hfw⟩ := hI.fwd0 hk hf
    exact hI.fwdExit hk (by rw [live, hfw]; rfl) rfl rfl
  | fPanic hk hf ho =>
    obtain ⟨rfl, hfw⟩ := hI.fwd0 hk hf
    cases (hI.outOpen hk (by rw [live, hfw]; rfl)).symm.trans ho

end

theorem inv_step (caps : Caps) (s s' : St) (a : Act) (hI : Inv s) (h : step .fixed caps s a = some s') :
    Inv s' :=
  hI.step (Step.of_step h).2

/-- second invariant: who may have ended, and why -/
structure Inv2 (s : St) : Prop where
  adone : s.adone = true → s.stopAll = true ∧ s.inClosed = true ∧ s.inq = []
  leaving : s.leaving = true → s.wdone = true
  rexit : s.rpc = .done → s.closing = true ∨ s.wdone = true

theorem inv2_init (m : CMsg) : Inv2 (init m) := by
  constructor <;> simp [init]

theorem Inv2.served {s s' : St} (hJ : Inv2 s) (ha : s.adone = false) (h : Served s s') : Inv2 s' := by
  cases h <;> exact { hJ with adone := fun ha' => by cases ha.symm.trans ha' }

theorem Inv2.step {caps : Caps} {s s' : St} {a : Act} (hJ : Inv2 s) (h : Step .fixed caps s a s') : Inv2 s' := by
  cases h with
  | cSend | cLeave | rPanic | emit | emitBad | svcClose | fExit | fPanic | fSend | fDrop | wData =>
    exact { hJ with }
  | stop => rw [stopChan_fixed]; exact { hJ with }
  | rExit =>
    exact { hJ with adone := fun ha => ⟨(hJ.adone ha).1, rfl, (hJ.adone ha).2.2⟩, rexit := fun _ => .inl rfl }
  | rLeave _ _ hl =>
    exact { hJ with adone := fun ha => ⟨(hJ.adone ha).1, rfl, (hJ.adone ha).2.2⟩,
                    rexit := fun _ => .inr (hJ.leaving hl) }
  | rRead => exact { hJ with rexit := fun hd => nomatch hd }
  | rFwd _ hc =>
    exact { hJ with adone := fun ha => (by cases hc.symm.trans (hJ.adone ha).2.1), rexit := fun hd => nomatch hd }
  | aEnd _ hq hc => exact { hJ with adone := fun _ => ⟨rfl, hc, hq⟩ }
  | aDrain ha => exact { hJ with adone := fun ha' => by cases ha.symm.trans ha' }
  | @aServe m rest ha =>
    exact Inv2.served (s := { s with inq := rest }) { hJ with adone := fun ha' => by cases ha.symm.trans ha' } ha
      (serve_served _ m)
  | wClose | wClosing | wFail => exact { hJ with leaving := fun _ => rfl, rexit := fun _ => .inr rfl }

theorem inv2_step (caps : Caps) (s s' : St) (a : Act) (hI : Inv s) (hJ : Inv2 s)
    (h : step .fixed caps s a = some s') : Inv2 s' :=
  hJ.step (Step.of_step h).2

/-- none of onet's own goroutines of this connection can move: reader, adapter, write loop, the
stopper and the forwarder of every channel -/
def Quiet (caps : Caps) (s : St) : Prop :=
  step .fixed caps s .rStep = none ∧ step .fixed caps s .rLeave = none ∧
  step .fixed caps s .aStep = none ∧
  step .fixed caps s .wOut = none ∧ step .fixed caps s .wClosing = none ∧
  step .fixed caps s .wOutFail = none ∧
  (∀ k, step .fixed caps s (.stop k) = none) ∧
  (∀ k, step .fixed caps s (.fStep k 0) = none ∧ step .fixed caps s (.fDrop k 0) = none)

structure Waits (caps : Caps) (s : St) : Prop where
  reader : s.rpc = .done ∨ (s.rpc = .read ∧ s.c2s = [] ∧ s.cGone = false ∧ s.wsClosed = false) ∨
    ∃ m, s.rpc = .hold m ∧ caps.inCap ≤ s.inq.length
  adapter : s.adone = true ∨ (s.inq = [] ∧ s.inClosed = false)
  writer : s.wdone = true ∨ (s.outq = [] ∧ s.outClosed = false ∧ s.closing = false)
  stopper : ∀ st ∈ s.streams, s.stopAll = true ∨ st.refused = true → st.stopClosed = true
  fwd : ∀ st ∈ s.streams, st.fwd = .done ∨ (st.fwd = .recv ∧ st.chanClosed = false) ∨
    ∃ x, st.fwd = .hold x ∧ s.stopAll = false ∧ caps.outCap ≤ s.outq.length

theorem Quiet.waits {caps : Caps} {s : St} (hI : Inv s) (hq : Quiet caps s) : Waits caps s := by
  obtain ⟨qr, _, qa, qwo, qwc, _, qs, qf⟩ := hq
  have no : ∀ {a s'}, step .fixed caps s a = none → Step .fixed caps s a s' → False := fun hn h => by
    have := h.enabled hI.nopanic
    rw [hn] at this; cases this
  refine ⟨?_, ?_, ?_, ?_, ?_⟩
  · cases hr : s.rpc with
    | done => exact .inl rfl
    | hold m => exact .inr (.inr ⟨m, rfl, Nat.le_of_not_lt fun hl => no qr (.rFwd hr (hI.inOpen hr) hl)⟩)
    | read =>
      refine .inr (.inl ⟨rfl, ?_⟩)
      cases hw : s.wsClosed with
      | true => exact (no qr (.rExit hr (.inl hw))).elim
      | false =>
        cases hc : s.c2s with
        | cons m rest => exact (no qr (.rRead hr hw hc)).elim
        | nil =>
          cases hg : s.cGone with
          | true => exact (no qr (.rExit hr (.inr ⟨hc, hg⟩))).elim
          | false => exact ⟨rfl, rfl, rfl⟩
  · cases ha : s.adone with
    | true => exact .inl rfl
    | false =>
      refine .inr ?_
      cases hi : s.inq with
      | cons m rest =>
        cases he : s.ended with
        | true => exact (no qa (.aDrain ha hi he)).elim
        | false => exact (no qa (.aServe ha hi he)).elim
      | nil =>
        refine ⟨rfl, ?_⟩
        cases hc : s.inClosed with
        | false => rfl
        | true => exact (no qa (.aEnd ha hi hc)).elim
  · cases hw : s.wdone with
    | true => exact .inl rfl
    | false =>
      refine .inr ?_
      cases ho : s.outq with
      | cons p rest => exact (no qwo (.wData (k := p.1) (x := p.2) hw ho)).elim
      | nil =>
        refine ⟨rfl, ?_, ?_⟩
        · cases hc : s.outClosed with
          | false => rfl
          | true => exact (no qwo (.wClose hw ho hc)).elim
        · cases hc : s.closing with
          | false => rfl
          | true => exact (no qwc (.wClosing hw hc)).elim
  · intro st hst hor
    obtain ⟨k, hk⟩ := List.getElem?_of_mem hst
    cases hc : st.stopClosed with
    | true => rfl
    | false => exact (no (qs k) (.stop hk hor hc)).elim
  · intro st hst
    obtain ⟨k, hk⟩ := List.getElem?_of_mem hst
    cases hf : st.fwd with
    | done => exact .inl rfl
    | recv =>
      refine .inr (.inl ⟨rfl, ?_⟩)
      cases hc : st.chanClosed with
      | false => rfl
      | true => exact (no (qf k).1 (.fExit hk (congrArg some hf) hc)).elim
    | hold x =>
      have hg : getFwd st 0 = some (.hold x) := congrArg some hf
      refine .inr (.inr ⟨x, rfl, ?_, Nat.le_of_not_lt fun hl =>
        no (qf k).1 (.fSend hk hg (hI.outOpen hk (by rw [live, hf]; rfl)) hl)⟩)
      cases ha : s.stopAll with
      | false => rfl
      | true => exact (no (qf k).2 (.fDrop hk hg rfl ha)).elim

theorem Waits.reader' {caps : Caps} {s : St} (hW : Waits caps s) (hcap : 0 < caps.inCap) (hJ : Inv2 s) :
    s.rpc = .done ∨ (s.rpc = .read ∧ s.c2s = [] ∧ s.cGone = false ∧ s.wsClosed = false) := by
  rcases hW.reader with h | h | ⟨m, _, hfull⟩
  · exact .inl h
  · exact .inr h
  · have hne : s.inq ≠ [] := fun he => by rw [he] at hfull; exact absurd hfull (Nat.not_le_of_lt hcap)
    rcases hW.adapter with ha | ⟨hq, _⟩
    · exact absurd (hJ.adone ha).2.2 hne
    · exact absurd hq hne

/-- serves `c15_client_leaves` (the client gone) and `c15_nothing_stuck` (the socket closed by the server) -/
theorem quiet_teardown (caps : Caps) (hcap : 0 < caps.inCap) (s : St) (hI : Inv s) (hJ : Inv2 s)
    (hgone : s.cGone = true ∨ s.wsClosed = true) (hq : Quiet caps s) :
      s.rpc = .done ∧ s.adone = true ∧ s.wdone = true ∧ s.stopAll = true ∧
      (∀ st ∈ s.streams, st.stopClosed = true) ∧
      (∀ st ∈ s.streams, st.fwd = .done ∨ (st.fwd = .recv ∧ st.chanClosed = false)) := by
  have hW := hq.waits hI
  have hr : s.rpc = .done := by
    rcases hW.reader' hcap hJ with h | ⟨_, _, hg, hw⟩
    · exact h
    · rcases hgone with h | h
      · cases hg.symm.trans h
      · cases hw.symm.trans h
  have hic : s.inClosed = true := hI.rdone.mpr hr
  have ha : s.adone = true := hW.adapter.elim id fun h => by cases h.2.symm.trans hic
  have hstop := (hJ.adone ha).1
  have hw : s.wdone = true := by
    rcases hW.writer with h | ⟨_, _, hc⟩
    · exact h
    · exact (hJ.rexit hr).elim (fun h => by cases hc.symm.trans h) id
  refine ⟨hr, ha, hw, hstop, fun st hst => hW.stopper st hst (.inl hstop), fun st hst => ?_⟩
  rcases hW.fwd st hst with h | h | ⟨_, _, h, _⟩
  · exact .inl h
  · exact .inr h
  · cases h.symm.trans hstop

/-! ### the full statement, and why the code before the repairs did not satisfy it -/

def heldOf : FPc → List Nat
  | .hold v => [v]
  | _ => []

/-- the values of channel `k` among the frames written / queued in `outChan` -/
def dataOfK (k : Nat) : List Frame → List Nat
  | [] => []
  | .data j v :: l => if j = k then v :: dataOfK k l else dataOfK k l
  | _ :: l => dataOfK k l

def outqK (k : Nat) (q : List (Nat × Nat)) : List Nat := (q.filter (fun p => p.1 == k)).map (·.2)

/-- actions of onet's own goroutines (everything but the client and the service) -/
def internal : Act → Bool
  | .cSend _ => false
  | .cLeave => false
  | .emit _ _ _ => false
  | .emitBad _ _ => false
  | .svcClose _ => false
  | _ => true

/-- The full property for the code variant `v`: for every first message, every schedule of client,
service and goroutines, all capacities —
1. the server does not crash;
2. while the client is there, per channel: what was written to the client, then what is queued, then
   what the forwarder holds is, in this order, a prefix of what the service emitted;
3. clean end: client still there, no bad message, a normal close written ⇒ every emitted value of
   every channel was written before it;
4. client gone and nothing left to do for onet's goroutines ⇒ reader, adapter and write loop have
   ended and every stream's stop channel is closed. -/
def C15_full (v : Variant) : Prop :=
  ∀ (caps : Caps) (m₀ : CMsg) (sched : List Act), 0 < caps.inCap →
    let s := run v caps (init m₀) sched
    s.panic = none ∧
    (s.cGone = false → ∀ (k : Nat) st, s.streams[k]? = some st →
      (dataOfK k s.s2c ++ outqK k s.outq ++ heldOf st.fwd) <+: st.emitted) ∧
    (s.cGone = false → s.ended = false → Frame.closeNormal ∈ s.s2c →
      ∀ (k : Nat) st, s.streams[k]? = some st → st.emitted = dataOfK k s.s2c) ∧
    (s.cGone = true → (∀ a, internal a = true → step v caps s a = none) →
      s.rpc = .done ∧ s.adone = true ∧ s.wdone = true ∧ ∀ st ∈ s.streams, st.stopClosed = true)

theorem Quiet.of_internal {caps : Caps} {s : St} (hq : ∀ a, internal a = true → step .fixed caps s a = none) :
    Quiet caps s :=
  ⟨hq _ rfl, hq _ rfl, hq _ rfl, hq _ rfl, hq _ rfl, hq _ rfl, fun _ => hq _ rfl, fun _ => ⟨hq _ rfl, hq _ rfl⟩⟩

def caps10 : Caps := ⟨10, 100⟩

/-- (a) **an undecodable second client message on a stream kills the old server**: the adapter
closes `outChan` while the first request's forwarder is running; its next value is a send on a
closed channel … -/
theorem c15_old_undecodable_second_message_crashes :
    (run .old caps10 (init .fresh)
      [.aStep, .cSend .garbage, .rStep, .rStep, .aStep, .emit 0 0 7, .fStep 0 0]).panic
      = some .sendOnClosedOut := by decide +kernel

/-- … and if the service closes its channel instead, the forwarder's deferred close is a close of a
closed channel -/
theorem c15_old_undecodable_second_message_double_close :
    (run .old caps10 (init .fresh)
      [.aStep, .cSend .garbage, .rStep, .rStep, .aStep, .svcClose 0, .fStep 0 0]).panic
      = some .closeOfClosedOut := by decide +kernel

/-- (b) **a second valid request whose stream ends first**: its forwarder closes the shared
`outChan`; the client is sent a normal close although the first stream goes on (cut short), and the
first stream's next value is a send on a closed channel -/
theorem c15_old_second_stream_ends_first :
    let s := run .old caps10 (init .fresh)
      [.aStep, .cSend .fresh, .rStep, .rStep, .aStep, .emit 0 0 1, .svcClose 1, .fStep 1 0, .wOut]
    s.s2c = [.closeNormal] ∧ (s.streams[0]?.map (·.emitted)) = some [1] ∧
    (run .old caps10 s [.fStep 0 0]).panic = some .sendOnClosedOut := by decide +kernel

/-- (c) **the reader forwards into a just-closed `clientInputs`**: it has read a further client
message when the service ends the stream; the write loop closes `clientInputs` on its way out -/
theorem c15_old_reader_races_close :
    (run .old caps10 (init .fresh)
      [.aStep, .cSend .fresh, .rStep, .svcClose 0, .fStep 0 0, .wOut, .rStep]).panic
      = some .sendOnClosedInputs := by decide +kernel

/-- (d) **a channel handed out for two requests gets two forwarders and its
values can overtake each other** (the service emitted 1 then 2, the client receives 2 then 1) -/
theorem c15_old_shared_channel_reorders :
    let s := run .old caps10 (init .fresh)
      [.aStep, .cSend (.reuse 0), .rStep, .rStep, .aStep, .emit 0 0 1, .emit 0 1 2, .fStep 0 1, .fStep 0 0,
       .wOut, .wOut]
    s.panic = none ∧ (s.streams[0]?.map (·.emitted)) = some [1, 2] ∧ s.s2c = [.data 0 2, .data 0 1] := by
  decide +kernel

/-- each repair is needed on its own (the other two in place) -/
theorem c15_each_repair_needed :
    (run ⟨false, true, true, true⟩ caps10 (init .fresh)
      [.aStep, .cSend .garbage, .rStep, .rStep, .aStep, .emit 0 0 7, .fStep 0 0]).panic = some .sendOnClosedOut ∧
    (run ⟨true, false, true, true⟩ caps10 (init .fresh)
      [.aStep, .cSend .fresh, .rStep, .svcClose 0, .fStep 0 0, .wOut, .rStep]).panic = some .sendOnClosedInputs ∧
    (run ⟨true, true, false, true⟩ caps10 (init .fresh)
      [.aStep, .cSend (.reuse 0), .rStep, .rStep, .aStep, .emit 0 0 1, .emit 0 1 2, .fStep 0 1, .fStep 0 0,
       .wOut, .wOut]).s2c = [.data 0 2, .data 0 1] := by decide +kernel

/-- **one forwarder per distinct channel, also when a channel is revisited**: the client asks for
channel 0, channel 1, then channel 0 again.  If that third request starts a forwarder of its own
(here: no `dedupe` at all; the same happens when only the previous request's channel is remembered),
two values of channel 0 overtake each other; with the code as it is the second forwarder does not
exist, the same schedule delivers in order. -/
theorem c15_revisited_channel_needs_one_forwarder :
    (run ⟨true, true, false, true⟩ caps10 (init .fresh)
      [.aStep, .cSend .fresh, .rStep, .rStep, .aStep, .cSend (.reuse 0), .rStep, .rStep, .aStep,
       .emit 0 0 1, .emit 0 1 2, .fStep 0 1, .fStep 0 0, .wOut, .wOut]).s2c = [.data 0 2, .data 0 1] ∧
    (run .fixed caps10 (init .fresh)
      [.aStep, .cSend .fresh, .rStep, .rStep, .aStep, .cSend (.reuse 0), .rStep, .rStep, .aStep,
       .emit 0 0 1, .emit 0 1 2, .fStep 0 1, .fStep 0 0, .wOut, .wOut]).s2c = [.data 0 1] ∧
    ((run .fixed caps10 (init .fresh)
      [.aStep, .cSend .fresh, .rStep, .rStep, .aStep, .cSend (.reuse 0), .rStep, .rStep, .aStep]).streams.map
        (fun st => (st.fwd, st.extra))) = [(.recv, []), (.recv, [])] := by decide +kernel

theorem not_full_of_panic {v : Variant} {m : CMsg} {sched : List Act} {p : Panic}
    (h : (run v caps10 (init m) sched).panic = some p) : ¬ C15_full v := fun hf => by
  have := (hf caps10 m sched (by decide)).1
  rw [h] at this; cases this

/-- **the full statement fails for the code before the repairs** (witness (a)) -/
theorem c15_full_fails_old : ¬ C15_full .old :=
  not_full_of_panic c15_old_undecodable_second_message_crashes

/-- the same schedules on the code as it is: no crash, the stream ends, the services are stopped -/
example :
    let s := run .fixed caps10 (init .fresh)
      [.aStep, .cSend .garbage, .rStep, .rStep, .aStep, .emit 0 0 7, .fStep 0 0, .svcClose 0, .fStep 0 0,
       .wOut, .wOut, .stop 0, .rStep, .aStep]
    s.panic = none ∧ s.s2c = [.data 0 7, .closeNormal] ∧ s.adone = true ∧
    (s.streams.map (·.stopClosed)) = [true] := by decide +kernel

example :
    (run .fixed caps10 (init .fresh)
      [.aStep, .cSend .fresh, .rStep, .svcClose 0, .fStep 0 0, .wOut, .rStep, .rLeave]).panic = none := by decide +kernel

/-! ### the code as it is -/

theorem dataOfK_append (k : Nat) (l₁ l₂ : List Frame) : dataOfK k (l₁ ++ l₂) = dataOfK k l₁ ++ dataOfK k l₂ := by
  induction l₁ with
  | nil => rfl
  | cons f l ih =>
    cases f with
    | data j v => by_cases h : j = k <;> simp [dataOfK, h, ih]
    | closeNormal | closeError => simp [dataOfK, ih]

theorem outqK_append (k : Nat) (q₁ q₂ : List (Nat × Nat)) : outqK k (q₁ ++ q₂) = outqK k q₁ ++ outqK k q₂ := by
  simp [outqK, List.filter_append]

theorem dataOfK_data (j k x : Nat) : dataOfK j [.data k x] = if k = j then [x] else [] := rfl

theorem outqK_pair (j k x : Nat) : outqK j [(k, x)] = if k = j then [x] else [] := by
  by_cases h : k = j <;> simp [outqK, h]

theorem outqK_none {n : Nat} {q : List (Nat × Nat)} (h : ∀ p ∈ q, p.1 < n) : outqK n q = [] := by
  simp only [outqK, List.map_eq_nil_iff, List.filter_eq_nil_iff]
  intro p hp hc
  exact absurd (beq_iff_eq.mp hc) (Nat.ne_of_lt (h p hp))

theorem dataOfK_none {n : Nat} {l : List Frame} (h : ∀ k v, Frame.data k v ∈ l → k < n) : dataOfK n l = [] := by
  induction l with
  | nil => rfl
  | cons f l ih =>
    have ih' := ih (fun k v hm => h k v (List.mem_cons_of_mem _ hm))
    cases f with
    | data j v => simp [dataOfK, Nat.ne_of_lt (h j v List.mem_cons_self), ih']
    | closeNormal | closeError => exact ih'

section
variable {caps : Caps} {s s' : St} {a : Act} {k f : Nat} {st st' : Stream}

/-- what is on its way from the service's channel `k` to the client, oldest first -/
def pipe (w : List Frame) (q : List (Nat × Nat)) (k : Nat) (st : Stream) : List Nat :=
  dataOfK k w ++ outqK k q ++ heldOf st.fwd

section pipe
variable {w : List Frame} {q : List (Nat × Nat)} {j x : Nat}

theorem pipe_close {f : Frame} (hf : f.isData = false) : pipe (w ++ [f]) q k st = pipe w q k st := by
  rw [pipe, pipe, dataOfK_append]
  cases f with
  | data => cases hf
  | closeNormal | closeError => rw [show dataOfK k [_] = [] from rfl, List.append_nil]

theorem pipe_wData {rest : List (Nat × Nat)} (hq : q = (j, x) :: rest) :
    pipe (w ++ [.data j x]) rest k st = pipe w q k st := by
  rw [pipe, pipe, hq, dataOfK_append, dataOfK_data, ← outqK_pair, List.append_assoc (dataOfK k w), ← outqK_append]
  rfl

theorem pipe_fSend (hf : st.fwd = .hold x) (hf' : st'.fwd = .recv) : pipe w (q ++ [(k, x)]) k st' = pipe w q k st := by
  rw [pipe, pipe, hf, hf', outqK_append, outqK_pair, if_pos rfl]
  simp only [heldOf, List.append_assoc, List.append_nil]

theorem pipe_fSend_other (hj : j ≠ k) : pipe w (q ++ [(j, x)]) k st = pipe w q k st := by
  rw [pipe, pipe, outqK_append, outqK_pair, if_neg hj, List.append_nil]

theorem pipe_emit (hf : st.fwd = .recv) (hf' : st'.fwd = .hold x) : pipe w q k st' = pipe w q k st ++ [x] := by
  rw [pipe, pipe, hf, hf']
  exact (congrArg (· ++ [x]) (List.append_nil _)).symm

theorem pipe_idle (hf : heldOf st'.fwd = heldOf st.fwd) : pipe w q k st' = pipe w q k st := by
  rw [pipe, pipe, hf]

theorem pipe_drop (hf : st.fwd = .hold x) (hf' : st'.fwd = .done) : pipe w q k st' ++ [x] = pipe w q k st := by
  rw [pipe, pipe, hf, hf']
  exact congrArg (· ++ [x]) (List.append_nil _)

end pipe

/-- only a forwarder that gave up after a bad message has ended the stream may have dropped the value it held -/
def Acct (s : St) (k : Nat) (st : Stream) : Prop :=
  pipe s.s2c s.outq k st <+: st.emitted ∧ (st.fwd ≠ .done ∨ s.ended = false → st.emitted = pipe s.s2c s.outq k st)

theorem Acct.of_eq (h : st.emitted = pipe s.s2c s.outq k st) : Acct s k st :=
  ⟨by rw [h]; exact List.prefix_refl _, fun _ => h⟩

theorem Acct.congr (h : Acct s k st) (hp : pipe s'.s2c s'.outq k st' = pipe s.s2c s.outq k st)
    (he : st'.emitted = st.emitted)
    (hd : st'.fwd ≠ .done ∨ s'.ended = false → st.fwd ≠ .done ∨ s.ended = false) : Acct s' k st' := by
  unfold Acct
  rw [hp, he]
  exact ⟨h.1, fun h' => h.2 (hd h')⟩

/-- `acct` speaks of every channel NUMBER: a channel not handed out yet is the default stream, so nothing tagged with
it is written or queued (`GInv.tags`) -/
structure GInv (s : St) : Prop where
  wsW : s.wsClosed = true → s.wdone = true
  closingW : s.cGone = false → s.closing = true → s.wdone = true
  inclosedW : s.cGone = false → s.inClosed = true → s.wdone = true
  stopW : s.cGone = false → s.ended = false → s.stopAll = true → s.wdone = true
  wdoneQ : s.cGone = false → s.wdone = true → s.outClosed = true ∧ s.outq = []
  acct : s.cGone = false → ∀ k, Acct s k ((s.streams[k]?).getD {})

theorem GInv.acct' (hG : GInv s) (hc : s.cGone = false) (hk : s.streams[k]? = some st) : Acct s k st := by
  have := hG.acct hc k
  rwa [hk] at this

theorem GInv.tags (hG : GInv s) (hc : s.cGone = false) (hk : s.streams.length ≤ k) :
    dataOfK k s.s2c = [] ∧ outqK k s.outq = [] := by
  have := (hG.acct hc k).1
  rw [List.getElem?_eq_none hk] at this
  exact List.append_eq_nil_iff.mp (List.append_eq_nil_iff.mp (List.prefix_nil.mp this)).1

theorem ginv_init (m : CMsg) : GInv (init m) :=
  ⟨nofun, nofun, nofun, nofun, nofun, fun _ _ => .of_eq rfl⟩

theorem GInv.append (hG : GInv s) {t : Stream} (he : t.emitted = []) (hh : heldOf t.fwd = []) :
    GInv { s with streams := s.streams ++ [t] } := by
  refine { hG with acct := fun hc k => ?_ }
  show Acct _ k (((s.streams ++ [t])[k]?).getD {})
  rcases getD_snoc s.streams t k with h | ⟨h0, h1⟩
  · rw [h]; exact hG.acct hc k
  · rw [h1]; exact (h0 ▸ hG.acct hc k).congr (pipe_idle hh) he fun _ => .inl nofun

theorem GInv.setStream (hG : GInv s) (hk : s.streams[k]? = some st) (h' : s.cGone = false → Acct s k st → Acct s k st') :
    GInv { s with streams := s.streams.set k st' } :=
  { hG with acct := fun hc => forall_getD_set (hG.acct hc) hk (h' hc (hG.acct' hc hk)) fun _ _ _ h => h }

/-- `endStream` and a forwarder's exit only ever close `outChan` -/
theorem GInv.closes (hG : GInv s) {oc : Bool} (hc : s.cGone = false) (hw : s.wdone = true) :
    (s.outClosed || oc) = true ∧ s.outq = [] :=
  ⟨Bool.or_eq_true_iff.mpr (.inl (hG.wdoneQ hc hw).1), (hG.wdoneQ hc hw).2⟩

theorem GInv.fwdExit (hG : GInv s) : GInv (fwdExit .fixed s) :=
  { hG with wdoneQ := hG.closes }

theorem GInv.served (hG : GInv s) (h : Served s s') : GInv s' := by
  cases h with
  | known => exact { hG with }
  | fail =>
    exact { hG with stopW := nofun, wdoneQ := hG.closes,
                    acct := fun hc k => (hG.acct hc k).congr rfl rfl (.imp_right nofun) }
  | fresh c b => exact { hG.append (t := { noStop := b }) rfl rfl with }
  | refused c b => exact { hG.append (t := { noStop := b, refused := true, fwd := .done }) rfl rfl with }
  | nil =>
    have h := hG.append (t := { refused := true, fwd := .done, noOut := true }) rfl rfl
    exact { h with stopW := nofun, wdoneQ := hG.closes,
                   acct := fun hc k => (h.acct hc k).congr rfl rfl (.imp_right nofun) }

theorem GInv.step (hI : Inv s) (hJ : Inv2 s) (hG : GInv s) (h : Step .fixed caps s a s') : GInv s' := by
  cases h with
  | cSend | rRead | rPanic | rFwd | aDrain | fPanic => exact { hG with }
  | cLeave => exact { hG with closingW := nofun, inclosedW := nofun, stopW := nofun, wdoneQ := nofun, acct := nofun }
  | rExit _ hx =>
    -- the reader ends on a closed socket (the write loop has gone) or because the client has
    have hw : s.cGone = false → s.wdone = true := fun hc => hx.elim hG.wsW fun h => by cases hc.symm.trans h.2
    exact { hG with closingW := fun hc _ => hw hc, inclosedW := fun hc _ => hw hc }
  | rLeave _ _ hl => exact { hG with inclosedW := fun _ _ => hJ.leaving hl }
  | aEnd _ _ hc => exact { hG with stopW := fun hg _ _ => hG.inclosedW hg hc }
  | @aServe m rest => exact GInv.served (s := { s with inq := rest }) { hG with } (serve_served _ m)
  | emit x hk _ _ hf =>
    obtain ⟨rfl, hfw⟩ := hI.fwd0 hk hf
    exact hG.setStream hk fun _ h => .of_eq (by rw [pipe_emit hfw rfl, ← h.2 (.inl (by rw [hfw]; nofun))]; rfl)
  | svcClose hk => exact hG.setStream hk fun _ h => h.congr rfl rfl id
  | stop hk => rw [stopChan_fixed]; exact hG.setStream hk fun _ h => h.congr rfl rfl id
  | emitBad hk _ _ hf | fExit hk hf =>
    obtain ⟨rfl, hfw⟩ := hI.fwd0 hk hf
    refine (hG.setStream hk fun _ h => .of_eq ?_).fwdExit
    exact (h.2 (.inl (by rw [hfw]; nofun))).trans (pipe_idle (by rw [hfw]; rfl)).symm
  | @fDrop k f st x hk hf _ ha =>
    obtain ⟨rfl, hfw⟩ := hI.fwd0 hk hf
    refine (hG.setStream hk fun hc h => ⟨⟨[x], ?_⟩, fun hd => ?_⟩).fwdExit
    · exact (pipe_drop hfw rfl).trans (h.2 (.inl (by rw [hfw]; nofun))).symm
    · rcases hd with hd | hd
      · exact absurd rfl hd
      · -- `stopAll` with the client there and no bad message: the write loop has gone, so has every forwarder
        cases (hI.outOpen hk (by rw [live, hfw]; rfl)).symm.trans (hG.wdoneQ hc (hG.stopW hc hd ha)).1
  | @fSend k f st x hk hf ho =>
    obtain ⟨rfl, hfw⟩ := hI.fwd0 hk hf
    refine { hG with wdoneQ := fun hc hw => (by cases ho.symm.trans (hG.wdoneQ hc hw).1), acct := fun hc => ?_ }
    refine forall_getD_set (hG.acct hc) hk (.of_eq ?_) fun j u hj h => h.congr (pipe_fSend_other hj.symm) rfl id
    exact ((hG.acct' hc hk).2 (.inl (by rw [hfw]; nofun))).trans (pipe_fSend hfw rfl).symm
  | wData hw hq =>
    exact { hG with wdoneQ := fun _ h => (by cases hw.symm.trans h),
                    acct := fun hc j => (hG.acct hc j).congr (pipe_wData hq) rfl id }
  | wClose hw hq ho =>
    exact { wsW := fun _ => rfl, closingW := fun _ _ => rfl, inclosedW := fun _ _ => rfl,
            stopW := fun _ _ _ => rfl, wdoneQ := fun _ _ => ⟨ho, hq⟩,
            acct := fun hc k => (hG.acct hc k).congr (pipe_close (f := .closeNormal) rfl) rfl id }
  | wClosing hw hcl =>
    exact { wsW := fun _ => rfl, closingW := fun _ _ => rfl, inclosedW := fun _ _ => rfl,
            stopW := fun _ _ _ => rfl, wdoneQ := fun hc _ => (by cases hw.symm.trans (hG.closingW hc hcl)),
            acct := fun hc k => (hG.acct hc k).congr (pipe_close (f := .closeError) rfl) rfl id }
  | wFail hw hq hg =>
    exact { wsW := fun _ => rfl, closingW := fun _ _ => rfl, inclosedW := fun _ _ => rfl,
            stopW := fun _ _ _ => rfl, wdoneQ := fun hc => (by cases hg.symm.trans hc),
            acct := fun hc => (by cases hg.symm.trans hc) }

theorem GInv.complete (hG : GInv s) (hI : Inv s) (hc : s.cGone = false) (hen : s.ended = false)
    (hw : s.wdone = true) (hk : s.streams[k]? = some st) : st.emitted = dataOfK k s.s2c := by
  obtain ⟨hoc, hq⟩ := hG.wdoneQ hc hw
  have h := (hG.acct' hc hk).2 (.inr hen)
  rw [pipe, hq, all_done_of_closed hI hoc st (List.mem_of_getElem? hk)] at h
  exact h.trans ((List.append_nil _).trans (List.append_nil _))

end

/-- third invariant: the write loop's exit closes the socket; a client that is still there gets
the normal close; the stream ends with its last forwarder -/
structure Inv3 (s : St) : Prop where
  wdW : s.wdone = true → s.wsClosed = true
  cnN : s.cGone = false → s.wdone = true → Frame.closeNormal ∈ s.s2c
  lastF : ∀ st ∈ s.streams, st.refused = false → s.fcount = 0 → s.outClosed = true

theorem inv3_init (m : CMsg) : Inv3 (init m) := by
  constructor <;> simp [init]

section
variable {caps : Caps} {s s' : St} {a : Act} {k f : Nat} {st st' : Stream}

theorem Inv3.setStream {q : List (Nat × Nat)} (hK : Inv3 s) (hk : s.streams[k]? = some st)
    (hr : st'.refused = st.refused) : Inv3 { s with outq := q, streams := s.streams.set k st' } :=
  { hK with lastF := List.forall_mem_set hK.lastF fun hx' => hK.lastF st (List.mem_of_getElem? hk) (hr.symm.trans hx') }

theorem Inv3.served (hK : Inv3 s) (h : Served s s') : Inv3 s' := by
  cases h with
  | known => exact { hK with }
  | fail | nil => exact { hK with lastF := fun _ _ _ hf => or_beq_zero_intro hf }
  | fresh => exact { hK with lastF := fun _ _ _ hf => nomatch hf }
  | refused _ _ ho => exact { hK with lastF := fun _ _ _ _ => ho }

theorem Inv3.step (hG : GInv s) (hK : Inv3 s) (h : Step .fixed caps s a s') : Inv3 s' := by
  cases h with
  | cSend | rExit | rRead | rPanic | rFwd | rLeave | aEnd | aDrain | fPanic => exact { hK with }
  | cLeave => exact { hK with cnN := nofun }
  | @aServe m rest => exact Inv3.served (s := { s with inq := rest }) { hK with } (serve_served _ m)
  | emit _ hk | fSend hk => exact hK.setStream hk (setFwd_refused ..)
  | svcClose hk => exact hK.setStream hk rfl
  | stop hk => rw [stopChan_fixed]; exact hK.setStream hk rfl
  -- the last forwarder that ends closes `outChan`
  | emitBad | fExit | fDrop => exact { hK with lastF := fun _ _ _ hf => or_beq_zero_intro hf }
  | wData => exact { hK with cnN := fun hc hw => List.mem_append_left _ (hK.cnN hc hw) }
  | wClose =>
    exact { hK with wdW := fun _ => rfl, cnN := fun _ _ => List.mem_append_right _ (List.mem_singleton.mpr rfl) }
  | wClosing hw hcl =>
    exact { hK with wdW := fun _ => rfl, cnN := fun hc => by cases hw.symm.trans (hG.closingW hc hcl) }
  | wFail _ _ hg => exact { hK with wdW := fun _ => rfl, cnN := fun hc => by cases hg.symm.trans hc }

end

/-- no forwarder is ever started on a nil channel; such a request is refused (its service is told
to stop at once) -/
def NilL (l : List Stream) : Prop := ∀ st ∈ l, st.noOut = true → st.fwd = .done ∧ st.refused = true

/-- a stream whose forwarder is running is not a nil channel -/
theorem nilL_running {l : List Stream} (hN : NilL l) {k : Nat} {st : Stream} (hk : l[k]? = some st)
    (hf : st.fwd ≠ .done) : st.noOut = false := by
  cases hno : st.noOut with
  | false => rfl
  | true => exact absurd (hN st (List.mem_of_getElem? hk) hno).1 hf

section
variable {caps : Caps} {s s' : St} {a : Act} {k f : Nat} {st st' : Stream}

theorem NilL.served (hN : NilL s.streams) (h : Served s s') : NilL s'.streams := by
  cases h with
  | known | fail => exact hN
  | fresh | refused => exact List.forall_mem_concat hN nofun
  | nil => exact List.forall_mem_concat hN fun _ => ⟨rfl, rfl⟩

theorem NilL.step (hI : Inv s) (hN : NilL s.streams) (h : Step .fixed caps s a s') : NilL s'.streams := by
  cases h with
  | cSend | cLeave | rExit | rRead | rPanic | rFwd | rLeave | aEnd | aDrain | fPanic | wData | wClose | wClosing
  | wFail => exact hN
  | @aServe m rest => exact NilL.served (s := { s with inq := rest }) hN (serve_served _ m)
  | emit _ hk _ _ hf | emitBad hk _ _ hf | fExit hk hf | fDrop hk hf | fSend hk hf =>
    obtain ⟨rfl, hfw⟩ := hI.fwd0 hk hf
    exact List.forall_mem_set hN fun h => by cases (nilL_running hN hk (by rw [hfw]; nofun)).symm.trans h
  | svcClose hk _ hn => exact List.forall_mem_set hN fun h => by cases hn.symm.trans h
  | @stop k st hk => rw [stopChan_fixed]; exact List.forall_mem_set hN (hN st (List.mem_of_getElem? hk))

end

theorem nil_step (caps : Caps) (s s' : St) (a : Act) (hI : Inv s) (hN : NilL s.streams)
    (h : step .fixed caps s a = some s') : NilL s'.streams :=
  NilL.step hI hN (Step.of_step h).2

/-- what a step does to the frames on the wire: nothing, or — the write loop not yet left — one more data
frame, or one close frame with which the write loop is left -/
def FrStep (s s' : St) : Prop :=
  (s'.s2c = s.s2c ∧ s'.wdone = s.wdone) ∨
  (s.wdone = false ∧ ∃ f, s'.s2c = s.s2c ++ [f] ∧ s'.wdone = !f.isData)

theorem Step.frames {v : Variant} {caps : Caps} {s s' : St} {a : Act} (h : Step v caps s a s') : FrStep s s' := by
  cases h with
  | cSend | cLeave | rRead | rPanic | rFwd | aEnd | aDrain | emit | svcClose | fPanic | fSend => exact .inl ⟨rfl, rfl⟩
  | rExit | rLeave => exact .inl (readerExit_fr ..)
  | aServe => exact .inl (serve_fr ..)
  | emitBad | fExit | fDrop => exact .inl (fwdExit_fr ..)
  | stop => exact .inl (stopChan_fr ..)
  | wData hw => exact .inr ⟨hw, _, rfl, hw⟩
  | wClose hw | wClosing hw | wFail hw => exact .inr ⟨hw, _, (writerLeave_fr ..).1, (writerLeave_fr ..).2⟩

theorem step_frames (v : Variant) (caps : Caps) (s s' : St) (a : Act) (h : step v caps s a = some s') :
    FrStep s s' :=
  (Step.of_step h).2.frames

/-- the frames on the wire: data frames and — exactly when the write loop has been left — one close frame
behind them, nothing after it (any code variant) -/
def WellFramed (s : St) : Prop :=
  (s.wdone = false → ∀ f ∈ s.s2c, f.isData = true) ∧
  (s.wdone = true → ∃ ds f, s.s2c = ds ++ [f] ∧ (∀ g ∈ ds, g.isData = true) ∧ f.isData = false)

theorem wellFramed_step {s s' : St} (h : FrStep s s') (hw : WellFramed s) : WellFramed s' := by
  rcases h with ⟨h1, h2⟩ | ⟨h0, f, h1, h2⟩
  · unfold WellFramed; rw [h1, h2]; exact hw
  · have hall := hw.1 h0
    cases hf : f.isData with
    | true =>
      rw [hf] at h2
      refine ⟨fun _ g hg => ?_, fun hc => ?_⟩
      · rw [h1] at hg
        rcases List.mem_append.mp hg with hg | hg
        · exact hall g hg
        · simp at hg; rw [hg]; exact hf
      · rw [h2] at hc; simp at hc
    | false =>
      rw [hf] at h2
      refine ⟨fun hc => ?_, fun _ => ⟨s.s2c, f, h1, hall, hf⟩⟩
      rw [h2] at hc; simp at hc

theorem wellFramed_run (v : Variant) (caps : Caps) (s : St) (hw : WellFramed s) (sched : List Act) :
    WellFramed (run v caps s sched) :=
  (run_skips v caps).inv (fun s s' a hw h => wellFramed_step (step_frames v caps s s' a h) hw) sched s hw

theorem wellFramed_init (m : CMsg) : WellFramed (init m) := by
  refine ⟨fun _ f hf => ?_, fun h => ?_⟩ <;> simp [init] at *

theorem WellFramed.left {s : St} (hW : WellFramed s) {f : Frame} (hf : f ∈ s.s2c) (hd : f.isData = false) :
    s.wdone = true := by
  cases hw : s.wdone with
  | false => cases (hW.1 hw f hf).symm.trans hd
  | true => rfl

structure Reach (s : St) : Prop where
  inv : Inv s
  inv2 : Inv2 s
  ginv : GInv s
  inv3 : Inv3 s
  nil : NilL s.streams
  wf : WellFramed s

theorem Reach.step {caps : Caps} {s s' : St} {a : Act} (h : Reach s) (hn : Step .fixed caps s a s') : Reach s' :=
  ⟨h.inv.step hn, h.inv2.step hn, h.ginv.step h.inv h.inv2 hn, h.inv3.step h.ginv hn, NilL.step h.inv h.nil hn,
    wellFramed_step hn.frames h.wf⟩

theorem reach_run (caps : Caps) (m₀ : CMsg) (sched : List Act) : Reach (run .fixed caps (init m₀) sched) :=
  (run_skips .fixed caps).inv (P := Reach) (fun _ _ _ h hs => h.step (Step.of_step hs).2) sched _
    ⟨inv_init m₀, inv2_init m₀, ginv_init m₀, inv3_init m₀, (fun _ h => nomatch h), wellFramed_init m₀⟩

/-- **the server never sends on, or closes, a closed channel**: whatever the client's first
message, whatever further messages it sends (valid, reusing a channel, undecodable, failing),
whenever it leaves, whatever the service emits and whenever it closes its channels, for every
interleaving of the reader, the write loop, the adapter, the forwarders and the stoppers and every
channel capacity. -/
theorem c15_no_panic (caps : Caps) (m₀ : CMsg) (sched : List Act) :
    (run .fixed caps (init m₀) sched).panic = none :=
  (reach_run caps m₀ sched).inv.nopanic

/-- **when the client closes or disappears first, the service is told to stop**: in every
reachable state in which the client is gone and onet's goroutines have nothing left to do, the
reader, the adapter and the write loop have all ended, `stopAll` and the stop channel of every
stream are closed, and a forwarder that is still there waits for a channel its service has not
closed yet — for every client behaviour before leaving, every service behaviour, every interleaving. -/
theorem c15_client_leaves (caps : Caps) (hcap : 0 < caps.inCap) (m₀ : CMsg) (sched : List Act) :
    let s := run .fixed caps (init m₀) sched
    s.cGone = true → Quiet caps s →
      s.rpc = .done ∧ s.adone = true ∧ s.wdone = true ∧ s.stopAll = true ∧
      (∀ st ∈ s.streams, st.stopClosed = true) ∧
      (∀ st ∈ s.streams, st.fwd = .done ∨ (st.fwd = .recv ∧ st.chanClosed = false)) := by
  intro s hgone hq
  have hR := reach_run caps m₀ sched
  exact quiet_teardown caps hcap s hR.inv hR.inv2 (.inl hgone) hq

/-- non-vacuity of `c15_client_leaves`: a reachable state in which the client is gone and nothing
is left to do -/
example :
    let s := run .fixed caps10 (init .fresh)
      [.aStep, .emit 0 0 5, .fStep 0 0, .cLeave, .rStep, .aStep, .wClosing, .stop 0, .svcClose 0, .fStep 0 0]
    s.cGone = true ∧ s.rpc = .done ∧ s.adone = true ∧ s.wdone = true ∧
    (s.streams.map (fun st => (st.stopClosed, st.fwd))) = [(true, .done)] := by decide +kernel

/-- **per channel, in emission order, nothing invented** (any number of channels, any further
client messages, any schedule): while the client is there, what was written to it for channel `k`,
then what is queued, then what the forwarder holds is a prefix of what the service emitted on `k` -/
theorem c15_order_per_channel (caps : Caps) (m₀ : CMsg) (sched : List Act) :
    let s := run .fixed caps (init m₀) sched
    s.cGone = false → ∀ (k : Nat) st, s.streams[k]? = some st →
      (dataOfK k s.s2c ++ outqK k s.outq ++ heldOf st.fwd) <+: st.emitted := by
  intro s hc k st hk
  show pipe s.s2c s.outq k st <+: st.emitted
  exact ((reach_run caps m₀ sched).ginv.acct' hc hk).1

/-- **complete at a normal end**: the client is still there, never sent a bad message, and a
normal close has been written ⇒ every value the service emitted on every channel was written
before it -/
theorem c15_complete_at_normal_close (caps : Caps) (m₀ : CMsg) (sched : List Act) :
    let s := run .fixed caps (init m₀) sched
    s.cGone = false → s.ended = false → Frame.closeNormal ∈ s.s2c →
      ∀ (k : Nat) st, s.streams[k]? = some st → st.emitted = dataOfK k s.s2c := by
  intro s hc hen hcn k st hk
  have hR := reach_run caps m₀ sched
  exact hR.ginv.complete hR.inv hc hen (hR.wf.left hcn rfl) hk

/-- **the full statement holds for the code as it is** -/
theorem c15_full_fixed : C15_full .fixed := by
  intro caps m₀ sched hcap
  refine ⟨c15_no_panic caps m₀ sched, c15_order_per_channel caps m₀ sched,
    c15_complete_at_normal_close caps m₀ sched, ?_⟩
  intro hg hq
  have := c15_client_leaves caps hcap m₀ sched hg (.of_internal hq)
  exact ⟨this.1, this.2.1, this.2.2.1, this.2.2.2.2.1⟩

/-! ### the stream of a client that just listens -/

/-- the values of the data frames, in order -/
def dataOf : List Frame → List Nat
  | [] => []
  | .data _ v :: l => v :: dataOf l
  | _ :: l => dataOf l

theorem dataOf_append (l₁ l₂ : List Frame) : dataOf (l₁ ++ l₂) = dataOf l₁ ++ dataOf l₂ := by
  induction l₁ with
  | nil => rfl
  | cons f l ih => cases f <;> simp [dataOf, ih]

/-- the client neither sends further messages nor leaves -/
def passive : Act → Bool
  | .cSend _ => false
  | .cLeave => false
  | .emitBad _ _ => false   -- (the service hands out values that can be encoded)
  | _ => true

/-- invariant of a stream opened by one valid request whose client only listens -/
structure HInv (s : St) : Prop where
  c2s : s.c2s = []
  here : s.cGone = false
  nohold : s.rpc = .read ∨ s.rpc = .done
  notended : s.ended = false
  shape : (s.inq = [.fresh] ∧ s.streams = []) ∨ (s.inq = [] ∧ ∃ st, s.streams = [st])
  pre : s.streams = [] → s.s2c = [] ∧ s.outq = [] ∧ s.outClosed = false
  closingW : s.closing = true → s.wdone = true
  stopW : s.stopAll = true → s.wdone = true
  inclosedW : s.inClosed = true → s.wdone = true
  wsW : s.wsClosed = true → s.wdone = true
  order : ∀ st, s.streams = [st] → st.emitted = dataOf s.s2c ++ s.outq.map (·.2) ++ heldOf st.fwd
  noerr : Frame.closeError ∉ s.s2c
  wdoneIff : s.wdone = true ↔ Frame.closeNormal ∈ s.s2c
  wdoneAll : s.wdone = true → s.outq = [] ∧ ∀ st, s.streams = [st] → st.fwd = .done
  doneClosed : ∀ st, s.streams = [st] → st.fwd = .done → st.chanClosed = true

/-- the clauses of `HInv` that are special to one valid request and a client that only listens -/
structure Listening (s : St) : Prop where
  c2s : s.c2s = []
  here : s.cGone = false
  nohold : s.rpc = .read ∨ s.rpc = .done
  notended : s.ended = false
  shape : (s.inq = [.fresh] ∧ s.streams = []) ∨ (s.inq = [] ∧ s.streams.length = 1)
  pre : s.streams = [] → s.s2c = [] ∧ s.outq = [] ∧ s.outClosed = false
  noerr : Frame.closeError ∉ s.s2c
  doneClosed : ∀ st ∈ s.streams, st.fwd = .done → st.chanClosed = true

section
variable {caps : Caps} {s s' : St} {a : Act} {k f : Nat} {st st' : Stream}

theorem Listening.setStream {q : List (Nat × Nat)} (hL : Listening s) (hk : s.streams[k]? = some st)
    (hd : st'.fwd = .done → st'.chanClosed = true) :
    Listening { s with outq := q, streams := s.streams.set k st' } := by
  have hne : s.streams.set k st' ≠ [] := fun he => by
    have := List.lt_length_of_getElem? hk
    rw [← List.length_set (a := st'), he] at this; cases this
  refine { hL with shape := ?_, pre := fun he => absurd he hne, doneClosed := List.forall_mem_set hL.doneClosed hd }
  rcases hL.shape with ⟨_, he⟩ | ⟨hi, hl⟩
  · rw [he] at hk; cases hk
  · exact .inr ⟨hi, (List.length_set ..).trans hl⟩

theorem Listening.fwdExit (hL : Listening s) (hk : s.streams[k]? = some st) : Listening (fwdExit .fixed s) :=
  { hL with pre := fun he => by rw [show s.streams = [] from he] at hk; cases hk }

theorem Listening.step (hR : Reach s) (hL : Listening s) (hpa : passive a = true) (h : Step .fixed caps s a s') :
    Listening s' := by
  cases h with
  | cSend | cLeave | emitBad => cases hpa
  | rExit => exact { hL with nohold := .inr rfl }
  | rRead _ _ hc => cases hL.c2s.symm.trans hc
  | rPanic hr | rFwd hr | rLeave hr => rcases hL.nohold with h | h <;> cases h.symm.trans hr
  | aEnd | fPanic => exact { hL with }
  | aDrain _ _ he => cases hL.notended.symm.trans he
  | aServe _ hq =>
    rcases hL.shape with ⟨hi, he⟩ | ⟨hi, _⟩
    · cases hi.symm.trans hq
      obtain ⟨p1, p2, p3⟩ := hL.pre he
      show Listening (newStream .fixed _ _)
      rw [newStream_fixed]
      simp only [p3, Bool.false_eq_true, if_false]
      refine { hL with shape := .inr ⟨rfl, by rw [he]; rfl⟩, pre := fun h => (by rw [he] at h; cases h),
                       doneClosed := fun u hu hd => ?_ }
      rw [he] at hu
      cases List.mem_singleton.mp hu; cases hd
    · cases hi.symm.trans hq
  | emit _ hk _ _ hf | fSend hk hf =>
    obtain ⟨rfl, _⟩ := hR.inv.fwd0 hk hf
    exact hL.setStream hk nofun
  | svcClose hk => exact hL.setStream hk fun _ => rfl
  | @stop k st hk =>
    rw [stopChan_fixed]
    exact hL.setStream hk (hL.doneClosed st (List.mem_of_getElem? hk))
  | @fExit k f st hk hf hc =>
    obtain ⟨rfl, _⟩ := hR.inv.fwd0 hk hf
    have h := hL.setStream (q := s.outq) (st' := setFwd st 0 .done) hk fun _ => hc
    exact h.fwdExit (k := k) (by rw [List.getElem?_set_self_of_some hk])
  | fDrop hk hf _ ha =>
    -- `stopAll`, client there, no bad message: the write loop has gone, no forwarder holds a value
    obtain ⟨rfl, hfw⟩ := hR.inv.fwd0 hk hf
    have hw := hR.ginv.stopW hL.here hL.notended ha
    cases (hR.inv.outOpen hk (by rw [live, hfw]; rfl)).symm.trans (hR.ginv.wdoneQ hL.here hw).1
  | wData _ hq =>
    exact { hL with pre := fun he => (by cases ((hL.pre he).2.1).symm.trans hq),
                    noerr := fun hm => hL.noerr (List.mem_of_mem_snoc hm nofun) }
  | wClose _ _ ho =>
    exact { hL with pre := fun he => (by cases ((hL.pre he).2.2).symm.trans ho),
                    noerr := fun hm => hL.noerr (List.mem_of_mem_snoc hm nofun) }
  | wClosing hw hc => cases hw.symm.trans (hR.ginv.closingW hL.here hc)
  | wFail _ _ hg => cases hL.here.symm.trans hg

end

theorem dataOfK_single {l : List Frame} (h : ∀ k, 1 ≤ k → dataOfK k l = []) : dataOfK 0 l = dataOf l := by
  induction l with
  | nil => rfl
  | cons f l ih =>
    cases f with
    | data j v =>
      cases j with
      | zero => exact congrArg (v :: ·) (ih fun k hk => (by have := h k hk; rwa [dataOfK, if_neg (by omega)] at this))
      | succ j => have := h (j + 1) (by omega); rw [dataOfK, if_pos rfl] at this; cases this
    | closeNormal | closeError => exact ih h

theorem outqK_single {q : List (Nat × Nat)} (h : ∀ k, 1 ≤ k → outqK k q = []) : outqK 0 q = q.map (·.2) := by
  rw [outqK, List.filter_eq_self.mpr fun p hp => ?_]
  cases hp1 : p.1 with
  | zero => rfl
  | succ j =>
    have : p.2 ∈ outqK (j + 1) q := List.mem_map_of_mem (List.mem_filter.mpr ⟨hp, by rw [hp1]; exact beq_self_eq_true _⟩)
    rw [h _ (by omega)] at this; cases this

theorem HInv.of_listening {s : St} (hR : Reach s) (hL : Listening s) : HInv s := by
  have hG := hR.ginv
  refine ⟨hL.c2s, hL.here, hL.nohold, hL.notended, ?_, hL.pre, hG.closingW hL.here, hG.stopW hL.here hL.notended,
    hG.inclosedW hL.here, hG.wsW, fun st hs => ?_, hL.noerr,
    ⟨hR.inv3.cnN hL.here, fun hn => hR.wf.left hn rfl⟩, fun hw => ?_,
    fun st hs => hL.doneClosed st (by rw [hs]; exact List.mem_singleton.mpr rfl)⟩
  · exact hL.shape.imp_right fun h => ⟨h.1, List.length_eq_one_iff.mp h.2⟩
  · have h := (hG.acct' hL.here (k := 0) (by rw [hs]; rfl)).2 (.inr hL.notended)
    -- with one channel handed out nothing is tagged with another
    have ht := fun k (hk : 1 ≤ k) => hG.tags hL.here (k := k) (by rw [hs]; exact hk)
    rw [pipe, dataOfK_single fun k hk => (ht k hk).1, outqK_single fun k hk => (ht k hk).2] at h
    exact h
  · obtain ⟨ho, hq⟩ := hG.wdoneQ hL.here hw
    exact ⟨hq, fun st hs => all_done_of_closed hR.inv ho st (by rw [hs]; exact List.mem_singleton.mpr rfl)⟩

theorem listening_run (caps : Caps) (sched : List Act) (hp : ∀ a ∈ sched, passive a = true) :
    Reach (run .fixed caps (init .fresh) sched) ∧ Listening (run .fixed caps (init .fresh) sched) :=
  (run_skips .fixed caps).inv_on (P := fun s => Reach s ∧ Listening s) (A := fun a => passive a = true)
    (fun _ _ _ ha h hs => ⟨h.1.step (Step.of_step hs).2, h.2.step h.1 ha (Step.of_step hs).2⟩) sched hp _
    ⟨reach_run caps .fresh [], by constructor <;> simp [init]⟩

/-- **a client that only listens gets exactly what the service emitted, in order, then a normal
close** (the statement's first sentence, in the strongest form: it is the
single-request case of `c15_full_fixed`, with equality instead of a prefix at every moment): for
every number of emitted values, every point at which the service closes its channel, every
interleaving and all channel capacities,
* at every moment the values emitted so far are: those already written to the client, then those
  queued in `outChan`, then the one the forwarder holds — nothing lost, nothing reordered;
* no error close is ever written;
* once the close frame is written it is a normal close, everything emitted was written before it,
  and the service had closed its channel. -/
theorem c15_happy_order_partial (caps : Caps) (sched : List Act) (hp : ∀ a ∈ sched, passive a = true) :
    let s := run .fixed caps (init .fresh) sched
    s.panic = none ∧
    (∀ st, s.streams = [st] → st.emitted = dataOf s.s2c ++ s.outq.map (·.2) ++ heldOf st.fwd) ∧
    Frame.closeError ∉ s.s2c ∧
    (Frame.closeNormal ∈ s.s2c → s.outq = [] ∧ ∃ st, s.streams = [st] ∧ st.emitted = dataOf s.s2c ∧ st.chanClosed = true) := by
  intro s
  obtain ⟨hR, hL⟩ := listening_run caps sched hp
  have hH := HInv.of_listening hR hL
  refine ⟨hR.inv.nopanic, hH.order, hH.noerr, fun hc => ?_⟩
  have hw := hH.wdoneIff.mpr hc
  obtain ⟨hq, hd⟩ := hH.wdoneAll hw
  rcases hH.shape with ⟨_, he⟩ | ⟨_, st, he⟩
  · rw [(hH.pre he).1] at hc; cases hc
  · refine ⟨hq, st, he, ?_, hH.doneClosed st he (hd st he)⟩
    rw [hH.order st he, hq, hd st he]
    exact (List.append_nil _).trans (List.append_nil _)

/-- non-vacuity of `c15_happy_order_partial`: three values, delivered in order, normal close -/
example :
    (run .fixed caps10 (init .fresh)
      [.aStep, .emit 0 0 1, .fStep 0 0, .emit 0 0 2, .wOut, .fStep 0 0, .emit 0 0 3, .fStep 0 0, .svcClose 0,
       .wOut, .fStep 0 0, .wOut, .wOut]).s2c = [.data 0 1, .data 0 2, .data 0 3, .closeNormal] := by decide +kernel

/-! ### the service ends the stream; nothing of onet's is ever stuck -/

/-- **nothing of onet's is ever stuck**: in every reachable state in which none of onet's goroutines
of the connection can move, each of them has ended or waits for the one event it is there for —
the reader for the client, the adapter for the reader, the write loop for the service's output or
the reader's signal, a forwarder for its service — and once the write loop has been left (whoever
caused it, whatever the client does afterwards — also nothing at all) the socket is closed, reader and
adapter have ended and every service has been told to stop.  For every client and service
behaviour, every interleaving, all (positive) capacities. -/
theorem c15_nothing_stuck (caps : Caps) (hin : 0 < caps.inCap) (hout : 0 < caps.outCap) (m₀ : CMsg)
    (sched : List Act) :
    let s := run .fixed caps (init m₀) sched
    Quiet caps s →
      (s.rpc = .done ∨ (s.rpc = .read ∧ s.c2s = [] ∧ s.cGone = false ∧ s.wsClosed = false)) ∧
      (s.adone = true ∨ (s.inq = [] ∧ s.inClosed = false)) ∧
      (s.wdone = true ∨ (s.outq = [] ∧ s.outClosed = false ∧ s.closing = false)) ∧
      (∀ st ∈ s.streams, st.fwd = .done ∨ (st.fwd = .recv ∧ st.chanClosed = false)) ∧
      (∀ st ∈ s.streams, s.stopAll = true ∨ st.refused = true → st.stopClosed = true) ∧
      (s.wdone = true → s.wsClosed = true ∧ s.rpc = .done ∧ s.adone = true ∧ s.stopAll = true) := by
  intro s hq
  obtain ⟨hI, hJ, _, hK, _⟩ := reach_run caps m₀ sched
  have hW := hq.waits hI
  have tear : s.wdone = true → s.wsClosed = true ∧ s.rpc = .done ∧ s.adone = true ∧ s.stopAll = true := by
    intro hw
    have h := quiet_teardown caps hin s hI hJ (.inr (hK.wdW hw)) hq
    exact ⟨hK.wdW hw, h.1, h.2.1, h.2.2.2.1⟩
  refine ⟨hW.reader' hin hJ, hW.adapter, hW.writer, fun st hst => ?_, hW.stopper, tear⟩
  rcases hW.fwd st hst with h | h | ⟨x, _, hsa, hfull⟩
  · exact .inl h
  · exact .inr h
  · -- a forwarder with a value in its hands: `outChan` is full, so the write loop has been left
    have hne : s.outq ≠ [] := fun he => by rw [he] at hfull; exact absurd hfull (Nat.not_le_of_lt hout)
    rcases hW.writer with hw | ⟨hq', _⟩
    · cases hsa.symm.trans (tear hw).2.2.2
    · exact absurd hq' hne

/-- **after the service ended the stream the server tears the connection down on its own**: once
the write loop has been left — here: the service closed its channels, the normal close was written —
nothing waits for the client any more.  In every quiescent state in which at least one request was
served and the service has closed every channel: the write loop is left, the socket closed, reader and
adapter ended, every stop channel closed, every forwarder gone; and a client that is still there
(listening or silent) has been sent the normal close, after every value the service emitted if it
never sent a bad message. -/
theorem c15_service_ends_stream (caps : Caps) (hin : 0 < caps.inCap) (hout : 0 < caps.outCap) (m₀ : CMsg)
    (sched : List Act) :
    let s := run .fixed caps (init m₀) sched
    Quiet caps s → (∃ st ∈ s.streams, st.refused = false) → (∀ st ∈ s.streams, st.chanClosed = true) →
      s.wdone = true ∧ s.wsClosed = true ∧ s.rpc = .done ∧ s.adone = true ∧
      (∀ st ∈ s.streams, st.stopClosed = true ∧ st.fwd = .done) ∧
      (s.cGone = false → Frame.closeNormal ∈ s.s2c ∧
        (s.ended = false → ∀ (k : Nat) st, s.streams[k]? = some st → st.emitted = dataOfK k s.s2c)) := by
  intro s hq hex hcl
  have hns := c15_nothing_stuck caps hin hout m₀ sched hq
  obtain ⟨hI, _, hG, hK, _⟩ := reach_run caps m₀ sched
  obtain ⟨_, _, hw, hf, hst, htear⟩ := hns
  have hdone : ∀ st ∈ s.streams, st.fwd = .done := by
    intro st hst'
    rcases hf st hst' with h | ⟨_, h⟩
    · exact h
    · rw [hcl st hst'] at h; cases h
  have hwd : s.wdone = true := by
    rcases hw with h | ⟨_, hoc, _⟩
    · exact h
    · exfalso
      have hc0 : s.fcount = 0 := by
        rw [hI.count]
        apply List.countP_eq_zero.mpr
        intro st hst'
        simp [live, hdone st hst']
      obtain ⟨st, hst', hr⟩ := hex
      have := hK.lastF st hst' hr hc0
      rw [hoc] at this; cases this
  obtain ⟨hws, hr, ha, hsa⟩ := htear hwd
  refine ⟨hwd, hws, hr, ha, fun st hst' => ⟨hst st hst' (Or.inl hsa), hdone st hst'⟩, ?_⟩
  exact fun hc => ⟨hK.cnN hc hwd, fun hen k st hk => hG.complete hI hc hen hwd hk⟩

theorem step_stream_none (v : Variant) (caps : Caps) (s : St) (k : Nat) (h : s.streams.length ≤ k) :
    step v caps s (.stop k) = none ∧ step v caps s (.fStep k 0) = none ∧ step v caps s (.fDrop k 0) = none := by
  rw [step_stop, step_fStep, step_fDrop, List.getElem?_eq_none h]
  exact ⟨ite_self _, ite_self _, ite_self _⟩

/-- non-vacuity of `c15_service_ends_stream` and `c15_nothing_stuck`: a reachable quiescent state in
which the service has closed its only channel and the client is still connected -/
example :
    let s := run .fixed caps10 (init .fresh) [.aStep, .emit 0 0 1, .fStep 0 0, .wOut, .svcClose 0, .fStep 0 0, .wOut,
      .rStep, .aStep, .stop 0, .wOut]
    Quiet caps10 s ∧ s.cGone = false ∧ (∃ st ∈ s.streams, st.refused = false) ∧
      (∀ st ∈ s.streams, st.chanClosed = true) := by
  intro s
  have hl : s.streams.length = 1 := by decide
  refine ⟨⟨by decide, by decide, by decide, by decide, by decide, by decide, ?_, ?_⟩, by decide, by decide, by decide⟩
  · intro k
    cases k with
    | zero => decide
    | succ k => exact (step_stream_none _ _ s (k + 1) (by omega)).1
  · intro k
    cases k with
    | zero => decide
    | succ k => exact (step_stream_none _ _ s (k + 1) (by omega)).2

/-! A streaming handler returns `(chan T, chan bool, error)`.  With a nil error nothing forces either
channel to be non-nil.  In the code before the nil-channel repair (`Variant.nilUnsafe`) a **nil stop channel** ends
the whole server at the end of the stream (`close of nil channel` in the stopper), and a **nil output channel** gets a
forwarder that waits for ever in `reflect.Select` — it survives the client, and because it counts as a running
forwarder `outChan` is never closed: a client that stays is never sent a close.  `c15_no_panic`,
`c15_nothing_stuck`, … above quantify over the messages `nostop` and `noout` too (they hold for the
repaired code); what follows is the part of the statement that is specific to them. -/

/-- **no routine of onet's ever waits on a nil channel**: whatever the handler hands back for
whichever request, in every reachable state a nil output channel has no forwarder and its request
has been refused (so by `c15_nothing_stuck` its stopper has run as soon as onet is quiescent); every
forwarder that is still waiting waits on a real channel, which its service can close. -/
theorem c15_no_forwarder_on_nil_channel (caps : Caps) (m₀ : CMsg) (sched : List Act) :
    let s := run .fixed caps (init m₀) sched
    (∀ st ∈ s.streams, st.noOut = true → st.fwd = .done ∧ st.refused = true) ∧
    (∀ st ∈ s.streams, st.fwd ≠ .done → st.noOut = false) := by
  intro s
  have hN := (reach_run caps m₀ sched).nil
  refine ⟨hN, fun st hst hf => ?_⟩
  obtain ⟨k, hk⟩ := List.getElem?_of_mem hst
  exact nilL_running hN hk hf

/-- **whoever still waits, waits for something that can happen** (`c15_nothing_stuck` with the nil
channels excluded): in every reachable quiescent state a forwarder has ended or waits on a real
channel its service has not closed yet — never on a nil channel, never with a value in its hands —
and the stopper of every refused request (a nil channel's included) has run. -/
theorem c15_waiting_forwarders_wait_on_real_channels (caps : Caps) (hin : 0 < caps.inCap) (hout : 0 < caps.outCap)
    (m₀ : CMsg) (sched : List Act) :
    let s := run .fixed caps (init m₀) sched
    Quiet caps s →
      (∀ st ∈ s.streams, st.fwd = .done ∨ (st.fwd = .recv ∧ st.chanClosed = false ∧ st.noOut = false)) ∧
      (∀ st ∈ s.streams, st.noOut = true → st.fwd = .done ∧ st.stopClosed = true) := by
  intro s hq
  obtain ⟨_, _, _, hf, hst, _⟩ := c15_nothing_stuck caps hin hout m₀ sched hq
  obtain ⟨hn1, hn2⟩ := c15_no_forwarder_on_nil_channel caps m₀ sched
  refine ⟨fun st hm => ?_, fun st hm hno => ?_⟩
  · rcases hf st hm with h | ⟨h1, h2⟩
    · exact Or.inl h
    · exact Or.inr ⟨h1, h2, hn2 st hm (by rw [h1]; simp)⟩
  · obtain ⟨hd, hr⟩ := hn1 st hm hno
    exact ⟨hd, hst st hm (Or.inr hr)⟩

/-- non-vacuity: a quiescent state with a healthy waiting forwarder and a refused nil channel -/
example :
    let s := run .fixed caps10 (init .fresh) [.aStep, .cSend .noout, .rStep, .rStep, .aStep, .stop 0, .stop 1]
    (s.streams.map (fun st => (st.fwd, st.noOut, st.stopClosed))) = [(.recv, false, true), (.done, true, true)] ∧
    s.ended = true ∧ s.outClosed = false ∧
    step .fixed caps10 s .rStep = none ∧ step .fixed caps10 s .aStep = none ∧ step .fixed caps10 s .wOut = none ∧
    step .fixed caps10 s (.fStep 0 0) = none ∧ step .fixed caps10 s (.stop 0) = none ∧ step .fixed caps10 s (.stop 1) = none := by
  decide +kernel

/-- the actions of onet's goroutines on a connection with one channel -/
def internal1 : List Act := [.rStep, .rLeave, .aStep, .wOut, .wClosing, .wOutFail, .stop 0, .fStep 0 0, .fDrop 0 0]

/-- the code as it is but for the handling of nil channels -/
def Variant.nilUnsafe : Variant := ⟨true, true, true, false⟩

/-- **a nil stop channel killed the server at the end of the stream** (reproduced
by `notes/probes/onet_c15_nil_channels_probe_test.go.txt`): the handler returns its channel and no
stop channel; the values arrive, the service closes its channel, the client is sent the normal
close, the connection is torn down — and the stopper, woken by `stopAll`, closes the nil channel.
The code as it is survives the same schedule with everything torn down. -/
theorem c15_old_nil_stop_channel_crashes :
    let sched : List Act := [.aStep, .emit 0 0 7, .fStep 0 0, .wOut, .svcClose 0, .fStep 0 0, .wOut, .rStep, .aStep,
      .stop 0]
    let o := run .nilUnsafe caps10 (init .nostop) sched
    let s := run .fixed caps10 (init .nostop) sched
    o.s2c = [.data 0 7, .closeNormal] ∧ o.panic = some .closeOfNilStop ∧
    s.s2c = [.data 0 7, .closeNormal] ∧ s.panic = none ∧ s.wdone = true ∧ s.adone = true ∧ s.rpc = .done ∧
      (∀ a ∈ internal1, step .fixed caps10 s a = none) := by decide +kernel

/-- … the same when the client leaves first, or when a later request of a healthy stream is the one
without a stop channel -/
theorem c15_old_nil_stop_channel_crashes_client_leaves :
    (run .nilUnsafe caps10 (init .nostop) [.aStep, .cLeave, .rStep, .aStep, .stop 0]).panic = some .closeOfNilStop ∧
    (run .nilUnsafe caps10 (init .fresh) [.aStep, .cSend .nostop, .rStep, .rStep, .aStep, .cLeave, .rStep, .aStep,
      .stop 0, .stop 1]).panic = some .closeOfNilStop ∧
    (run .fixed caps10 (init .fresh) [.aStep, .cSend .nostop, .rStep, .rStep, .aStep, .cLeave, .rStep, .aStep,
      .stop 0, .stop 1]).panic = none := by decide +kernel

/-- **a nil output channel left a forwarder behind for ever** (same probe): after the client has
left and everything else is torn down the forwarder still waits, and nothing the service can do
(`emit`, `svcClose` are impossible on a nil channel) will ever end it; while the client stays,
`outChan` is never closed (the forwarder counts as running), so the client is never sent a close.
The code as it is ends the stream at once: the client is sent the close, the service is told to
stop, no routine is left. -/
theorem c15_old_nil_out_channel_forwarder_stuck :
    let o := run .nilUnsafe caps10 (init .noout) [.aStep, .cLeave, .rStep, .aStep, .wClosing, .stop 0]
    let w := run .nilUnsafe caps10 (init .noout) [.aStep]
    let s := run .fixed caps10 (init .noout) [.aStep, .stop 0, .wOut, .rStep, .aStep]
    (o.cGone = true ∧ o.rpc = .done ∧ o.adone = true ∧ o.wdone = true ∧
      (o.streams.map (fun st => (st.stopClosed, st.fwd, st.noOut))) = [(true, .recv, true)] ∧ o.fcount = 1 ∧
      (∀ a ∈ internal1, step .nilUnsafe caps10 o a = none) ∧
      step .nilUnsafe caps10 o (.svcClose 0) = none ∧ (∀ v, step .nilUnsafe caps10 o (.emit 0 0 v) = none)) ∧
    (w.s2c = [] ∧ w.outClosed = false ∧ (∀ a ∈ internal1, step .nilUnsafe caps10 w a = none) ∧
      step .nilUnsafe caps10 w (.svcClose 0) = none) ∧
    (s.s2c = [.closeNormal] ∧ s.panic = none ∧ s.fcount = 0 ∧ s.wdone = true ∧ s.adone = true ∧ s.rpc = .done ∧
      (s.streams.map (fun st => (st.stopClosed, st.fwd, st.noOut))) = [(true, .done, true)] ∧
      (∀ a ∈ internal1, step .fixed caps10 s a = none)) := by
  -- closed finite facts, but the last about `o`: for every `v`, `step` refuses the `emit` without looking at it
  refine ⟨⟨by decide +kernel, by decide +kernel, by decide +kernel, by decide +kernel, by decide +kernel, by decide +kernel, by decide +kernel, by decide +kernel, ?_⟩,
    by decide +kernel, by decide +kernel⟩
  intro v
  rfl

/-- the nil-channel repair is needed on its own (the other three in place): the full statement
fails without it -/
theorem c15_full_fails_nil_unsafe : ¬ C15_full .nilUnsafe :=
  not_full_of_panic c15_old_nil_stop_channel_crashes_client_leaves.1

/-! ### a value the service emits that cannot be encoded -/

/-- **what a value `protobuf.Encode` refuses does to a stream** (processor.go:631-635; all theorems
above hold with the action `emitBad` among the service's — no crash, order, completeness of what can
be delivered, tear-down): the forwarder of that channel ends.  With one channel the stream then ends
with the *normal* close although the service has not closed its channel, and the service is told to
stop at tear-down.  With two channels the stream goes on for the other one; the first channel's
service is neither drained (no value of it is taken any more, whatever it emits) nor told to stop
as long as the stream lives — it is told when the stream ends. -/
theorem c15_unencodable_value_ends_its_forwarder :
    let one := run .fixed caps10 (init .fresh)
      [.aStep, .emit 0 0 1, .fStep 0 0, .emitBad 0 0, .wOut, .wOut, .rStep, .aStep, .stop 0]
    let two := run .fixed caps10 (init .fresh)
      [.aStep, .cSend .fresh, .rStep, .rStep, .aStep, .emitBad 0 0, .emit 1 0 5, .fStep 1 0, .wOut, .stop 0]
    let fin := run .fixed caps10 two [.svcClose 1, .fStep 1 0, .wOut, .rStep, .aStep, .stop 0, .stop 1]
    (one.s2c = [.data 0 1, .closeNormal] ∧ one.panic = none ∧
      (one.streams.map (fun st => (st.chanClosed, st.fwd, st.stopClosed))) = [(false, .done, true)]) ∧
    (two.s2c = [.data 1 5] ∧ two.wdone = false ∧ two.stopAll = false ∧
      (two.streams.map (fun st => (st.chanClosed, st.fwd, st.stopClosed))) = [(false, .done, false), (false, .recv, false)] ∧
      step .fixed caps10 two (.stop 0) = none ∧ (∀ v, step .fixed caps10 two (.emit 0 0 v) = none)) ∧
    (fin.s2c = [.data 1 5, .closeNormal] ∧ (fin.streams.map (·.stopClosed)) = [true, true]) := by
  -- closed finite facts, but the last about `two`: for every `v`, `step` refuses the `emit` without looking at it
  refine ⟨by decide +kernel, ⟨by decide +kernel, by decide +kernel, by decide +kernel, by decide +kernel, by decide +kernel, ?_⟩, by decide +kernel⟩
  intro v
  rfl

/-! ### the client's read options are per read -/

theorem cRead_none (c : CConn) (hd : c.dead = false) : cRead false c none =
    match c.inbox with
    | f :: rest => ({ c with deadline := none, inbox := rest }, .frame f)
    | [] => ({ c with deadline := none }, .waits) := by
  rw [cRead, if_neg (ne_true_of_eq_false hd)]; rfl

theorem cRead_some (c : CConn) (hd : c.dead = false) (r : Nat) : cRead false c (some r) =
    if c.now + r ≤ c.now then ({ c with deadline := some (c.now + r), dead := true }, .timedOut)
    else match c.inbox with
      | f :: rest => ({ c with deadline := some (c.now + r), inbox := rest }, .frame f)
      | [] => ({ c with deadline := some (c.now + r) }, .waits) := by
  rw [cRead, if_neg (ne_true_of_eq_false hd)]; rfl

theorem cRead_live (c : CConn) (hd : c.dead = false) (dl : Option Nat) :
    (cRead false c dl).2 ≠ .failed ∧ ((cRead false c dl).2 ≠ .timedOut → (cRead false c dl).1.dead = false) := by
  cases dl with
  | none => rw [cRead_none c hd]; cases c.inbox <;> exact ⟨nofun, fun _ => hd⟩
  | some r =>
    rw [cRead_some c hd]
    split
    · exact ⟨nofun, fun h => absurd rfl h⟩
    · cases c.inbox <;> exact ⟨nofun, fun _ => hd⟩

/-- a read without deadline on a live connection never times out, whatever reads came before it:
with a frame there it returns that frame, otherwise it waits -/
theorem c15_client_plain_read_never_times_out (c : CConn) (hd : c.dead = false) :
    (cRead false c none).2 ≠ .timedOut ∧ (cRead false c none).2 ≠ .failed ∧ (cRead false c none).1.dead = false ∧
    (cRead false c none).1.deadline = none ∧
    (∀ f rest, c.inbox = f :: rest → cRead false c none = ({ c with deadline := none, inbox := rest }, .frame f)) := by
  rw [cRead_none c hd]
  cases c.inbox with
  | nil => exact ⟨nofun, nofun, hd, rfl, nofun⟩
  | cons f rest => exact ⟨nofun, nofun, hd, rfl, fun _ _ h => (by cases h; rfl)⟩

/-- **a deadline belongs to the read it was given to** (seed C15r6-B): for every history of arriving
frames, passing time and reads with or without deadlines, the connection dies only by a read that ran
into *its own* deadline — when no read of the history reports `timedOut`, the connection is alive at
the end and no read reports `failed`. -/
theorem c15_client_deadline_is_per_read (hist : List CAct) (c : CConn) (hd : c.dead = false)
    (hno : ROut.timedOut ∉ (cRun false c hist).2) :
    (cRun false c hist).1.dead = false ∧ ROut.failed ∉ (cRun false c hist).2 := by
  induction hist generalizing c with
  | nil => simp [cRun, hd]
  | cons a as ih =>
    simp only [cRun, List.mem_append, not_or] at hno ⊢
    obtain ⟨h1, h2⟩ := hno
    have key : (cStep false c a).1.dead = false ∧ ROut.failed ∉ (cStep false c a).2 := by
      cases a with
      | tick d => exact ⟨hd, nofun⟩
      | arrive f => exact ⟨hd, nofun⟩
      | read dl =>
        obtain ⟨l1, l2⟩ := cRead_live c hd dl
        exact ⟨l2 fun h => h1 (List.mem_singleton.mpr h.symm), fun hm => l1 (List.mem_singleton.mp hm).symm⟩
    obtain ⟨k1, k2⟩ := key
    obtain ⟨i1, i2⟩ := ih (cStep false c a).1 k1 h2
    exact ⟨i1, k2, i2⟩

/-- a read with a positive deadline and a frame already there returns the frame (so the histories
of `c15_client_deadline_is_per_read` exist: the correspondence run only issues such reads) -/
theorem c15_client_read_with_frame (c : CConn) (hd : c.dead = false) (f : Frame) (rest : List Frame)
    (hi : c.inbox = f :: rest) (r : Nat) (hr : 0 < r) :
    cRead false c (some r) = ({ c with deadline := some (c.now + r), inbox := rest }, .frame f) := by
  rw [cRead_some c hd, if_neg (by omega), hi]

/-- … and the variant that leaves the deadline of an earlier read armed does not have the property:
a read with a deadline of 5 that succeeds, a quiet period of 10, a frame, a plain read — the stale
deadline fires, the read fails for good, the frames that follow and the normal close never reach
the caller; the code as it is delivers all of them -/
theorem c15_client_sticky_deadline_kills_stream :
    let hist : List CAct := [.arrive (.data 0 1), .read (some 5), .tick 10, .arrive (.data 0 2), .read none,
      .arrive .closeNormal, .read none]
    (cRun true {} hist).2 = [.frame (.data 0 1), .timedOut, .failed] ∧ (cRun true {} hist).1.dead = true ∧
    (cRun false {} hist).2 = [.frame (.data 0 1), .frame (.data 0 2), .frame .closeNormal] ∧
    (cRun false {} hist).1.dead = false := by decide +kernel

/-! ### several connections on one server: other clients are unaffected -/

theorem not_panicked {y : Srv} (h : ∀ s ∈ y.conns, Inv s) : y.panicked = false := by
  simp only [Srv.panicked, List.any_eq_false]
  intro s hs
  simp [(h s hs).nopanic]

theorem proj_cons (i j : Nat) (a : Act) (rest : List (Nat × Act)) :
    proj i ((j, a) :: rest) = if j = i then a :: proj i rest else proj i rest := by
  by_cases h : j = i <;> simp [proj, h]

theorem srvStep_getElem? {v : Variant} {caps : Caps} {y : Srv} (hnp : y.panicked = false) (i j : Nat) (a : Act) :
    ((srvStep v caps y j a).getD y).conns[i]? =
      (y.conns[i]?).map fun s => if j = i then (step v caps s a).getD s else s := by
  rw [srvStep, if_neg (by rw [hnp]; exact Bool.false_ne_true)]
  by_cases hji : j = i
  · subst hji
    cases hj : y.conns[j]? with
    | none => exact hj
    | some s =>
      show ((match step v caps s a with | none => none | some s' => some _).getD y).conns[j]? = some (ite _ _ _)
      rw [if_pos rfl]
      cases step v caps s a with
      | none => exact hj
      | some s' => exact List.getElem?_set_self_of_some hj
  · have hid : (y.conns[i]?).map (fun s => if j = i then (step v caps s a).getD s else s) = y.conns[i]? := by
      simp only [hji, if_false]; exact Option.map_id'
    rw [hid]
    cases y.conns[j]? with
    | none => rfl
    | some s =>
      show ((match step v caps s a with | none => none | some s' => some _).getD y).conns[i]? = _
      cases step v caps s a with
      | none => rfl
      | some s' => exact List.getElem?_set_ne hji

/-- general form: from any server state whose connections satisfy the no-crash invariant -/
theorem srvRun_proj (caps : Caps) (sched : List (Nat × Act)) (y : Srv) (hy : ∀ s ∈ y.conns, Inv s) :
    (∀ s ∈ (srvRun .fixed caps y sched).conns, Inv s) ∧
    ∀ i, (srvRun .fixed caps y sched).conns[i]? = (y.conns[i]?).map (fun s => run .fixed caps s (proj i sched)) := by
  induction sched generalizing y with
  | nil => exact ⟨hy, fun i => Option.map_id'.symm⟩
  | cons p rest ih =>
    obtain ⟨j, a⟩ := p
    have hcons : srvRun .fixed caps y ((j, a) :: rest) = srvRun .fixed caps ((srvStep .fixed caps y j a).getD y) rest := by
      rw [srvRun]; cases srvStep .fixed caps y j a <;> rfl
    have hget := srvStep_getElem? (v := .fixed) (caps := caps) (not_panicked hy) (j := j) (a := a)
    have hy' : ∀ t ∈ ((srvStep .fixed caps y j a).getD y).conns, Inv t := by
      intro t ht
      obtain ⟨i, hi⟩ := List.getElem?_of_mem ht
      rw [hget i] at hi
      obtain ⟨s, hs, rfl⟩ := Option.map_eq_some_iff.mp hi
      have hI := hy s (List.mem_of_getElem? hs)
      split
      · cases hst : step .fixed caps s a with
        | none => exact hI
        | some s' => exact inv_step caps s s' a hI hst
      · exact hI
    rw [hcons]
    refine ⟨(ih _ hy').1, fun i => ?_⟩
    rw [(ih _ hy').2 i, hget i, Option.map_map]
    congr 1
    funext s
    show run .fixed caps (if j = i then _ else s) (proj i rest) = _
    rw [proj_cons]
    split
    · exact ((run_skips .fixed caps).cons s a _).symm
    · rfl

/-- **other clients are unaffected** — any number of streaming connections on one server, any
interleaving of all their clients, services and goroutines: the process never crashes, and every
connection is at every moment in exactly the state it would be in if it were alone on the server
and only its own actions had happened (so everything proved for one connection — order,
completeness, clean end, tear-down — holds for each of them whatever the others do, bad messages,
disconnects and failing handlers included). -/
theorem c15_other_clients_unaffected (caps : Caps) (ms : List CMsg) (sched : List (Nat × Act)) :
    let y := srvRun .fixed caps ⟨ms.map init⟩ sched
    y.panicked = false ∧
    ∀ i, y.conns[i]? = (ms[i]?).map (fun m => run .fixed caps (init m) (proj i sched)) := by
  intro y
  have hy : ∀ s ∈ (⟨ms.map init⟩ : Srv).conns, Inv s := by
    intro s hs
    simp only [List.mem_map] at hs
    obtain ⟨m, _, rfl⟩ := hs
    exact inv_init m
  obtain ⟨h1, h2⟩ := srvRun_proj caps sched ⟨ms.map init⟩ hy
  refine ⟨not_panicked h1, fun i => ?_⟩
  rw [h2 i]
  simp only [List.getElem?_map]
  cases ms[i]? <;> rfl

/-- … and this is what the repairs bought: with the code before them a bad message on one
connection took every other client's stream down with it (connection 1 only listens to a healthy
stream; connection 0's undecodable second message kills the process; the value connection 1's
service emits afterwards is never delivered) -/
theorem c15_old_crash_takes_other_clients_down :
    let sched : List (Nat × Act) :=
      [(0, .aStep), (1, .aStep), (0, .cSend .garbage), (0, .rStep), (0, .rStep), (0, .aStep), (0, .emit 0 0 7),
       (0, .fStep 0 0), (1, .emit 0 0 5), (1, .fStep 0 0), (1, .wOut), (0, .wOut)]
    ((srvRun .old caps10 ⟨[init .fresh, init .fresh]⟩ sched).conns.map (·.s2c)) = [[], []] ∧
    (srvRun .old caps10 ⟨[init .fresh, init .fresh]⟩ sched).panicked = true ∧
    ((srvRun .fixed caps10 ⟨[init .fresh, init .fresh]⟩ sched).conns.map (·.s2c)) = [[.data 0 7], [.data 0 5]] := by
  decide +kernel

/-! ### a write loop that waits for the client's answer to its close frame -/

/-- **waiting for the reader after the normal close blocks on a silent client**: the service ends
the stream, the normal close is written; the client is still connected but sends nothing more (it
does not answer the close frame).  With the write loop waiting for the reader routine
(`stepWaiting`) no goroutine of onet can move any more and the connection stays open, the reader, the
adapter and the write loop never end, the service's stop channel is never closed; the code as it is
reaches, on the same schedule, the torn-down state `c15_service_ends_stream` promises. -/
theorem c15_waiting_for_silent_client_blocks :
    let sched : List Act := [.aStep, .emit 0 0 1, .fStep 0 0, .wOut, .svcClose 0, .fStep 0 0, .wOut,
      .rStep, .aStep, .stop 0, .wOut]
    let w := runWaiting caps10 (init .fresh) sched
    let s := run .fixed caps10 (init .fresh) sched
    (w.s2c = [.data 0 1, .closeNormal] ∧ w.cGone = false ∧ (∀ a ∈ internal1, stepWaiting caps10 w a = none) ∧
      w.wdone = false ∧ w.wsClosed = false ∧ w.rpc = .read ∧ w.adone = false ∧
      (w.streams.map (·.stopClosed)) = [false]) ∧
    (s.s2c = [.data 0 1, .closeNormal] ∧ (∀ a ∈ internal1, step .fixed caps10 s a = none) ∧
      s.wdone = true ∧ s.wsClosed = true ∧ s.rpc = .done ∧ s.adone = true ∧
      (s.streams.map (·.stopClosed)) = [true]) := by
  decide +kernel


/-! ### the whole statement in one proposition -/

/-- `Quiet` for a code variant -/
def QuietV (v : Variant) (caps : Caps) (s : St) : Prop :=
  step v caps s .rStep = none ∧ step v caps s .rLeave = none ∧
  step v caps s .aStep = none ∧
  step v caps s .wOut = none ∧ step v caps s .wClosing = none ∧
  step v caps s .wOutFail = none ∧
  (∀ k, step v caps s (.stop k) = none) ∧
  (∀ k, step v caps s (.fStep k 0) = none ∧ step v caps s (.fDrop k 0) = none)

/-- **the property, all clauses, for a code variant**: `C15_full` (no crash; order per channel; complete at
the normal close; tear-down when the client has gone) and, for every first message, schedule and
(positive) capacities —
5. whatever channels a handler hands back: a nil output channel has no forwarder and its request is
   refused (nobody of onet's ever waits on something that cannot happen);
6. nothing is stuck: when none of onet's goroutines can move, every forwarder has ended or waits, with
   empty hands, on a real channel its service has not closed; once the write loop has been left the
   socket is closed, reader and adapter have ended, every service has been told to stop;
7. the service ends the stream: if, at such a moment, some request was served and every channel has been
   closed by its service, the write loop has been left and a client that is still there has been sent
   the normal close;
8. other clients: any number of connections on one server, any interleaving — nobody crashes and each
   connection is in the state its own actions alone lead to. -/
def C15_statement (v : Variant) : Prop :=
  C15_full v ∧
  (∀ (caps : Caps) (m₀ : CMsg) (sched : List Act), 0 < caps.inCap → 0 < caps.outCap →
    let s := run v caps (init m₀) sched
    (∀ st ∈ s.streams, st.noOut = true → st.fwd = .done ∧ st.refused = true) ∧
    (QuietV v caps s →
      (∀ st ∈ s.streams, st.fwd = .done ∨ (st.fwd = .recv ∧ st.chanClosed = false ∧ st.noOut = false)) ∧
      (s.wdone = true → s.wsClosed = true ∧ s.rpc = .done ∧ s.adone = true ∧ s.stopAll = true ∧
        ∀ st ∈ s.streams, st.stopClosed = true) ∧
      ((∃ st ∈ s.streams, st.refused = false) → (∀ st ∈ s.streams, st.chanClosed = true) →
        s.wdone = true ∧ (s.cGone = false → Frame.closeNormal ∈ s.s2c)))) ∧
  (∀ (caps : Caps) (ms : List CMsg) (sched : List (Nat × Act)),
    let y := srvRun v caps ⟨ms.map init⟩ sched
    y.panicked = false ∧ ∀ i, y.conns[i]? = (ms[i]?).map (fun m => run v caps (init m) (proj i sched)))

/-- **the whole statement holds for the code as it is** -/
theorem c15_statement_fixed : C15_statement .fixed := by
  refine ⟨c15_full_fixed, ?_, fun caps ms sched => c15_other_clients_unaffected caps ms sched⟩
  intro caps m₀ sched hin hout s
  refine ⟨(c15_no_forwarder_on_nil_channel caps m₀ sched).1, fun hq => ?_⟩
  have hq' : Quiet caps s := hq
  obtain ⟨hw1, _⟩ := c15_waiting_forwarders_wait_on_real_channels caps hin hout m₀ sched hq'
  obtain ⟨_, _, _, _, hst, htear⟩ := c15_nothing_stuck caps hin hout m₀ sched hq'
  refine ⟨hw1, fun hw => ?_, fun hex hcl => ?_⟩
  · obtain ⟨a, b, c, d⟩ := htear hw
    exact ⟨a, b, c, d, fun st hm => hst st hm (Or.inl d)⟩
  · obtain ⟨a, _, _, _, _, f⟩ := c15_service_ends_stream caps hin hout m₀ sched hq' hex hcl
    exact ⟨a, fun hc => (f hc).1⟩

/-- **… and fails without the nil-channel repair by the nil-channel clause itself** (not only by the crash on
a nil stop channel, `c15_full_fails_nil_unsafe`): a handler that hands back a nil output channel gets a
forwarder that waits on it for ever -/
theorem c15_statement_fails_nil_unsafe_by_stuck_forwarder :
    ¬ (∀ (caps : Caps) (m₀ : CMsg) (sched : List Act), 0 < caps.inCap → 0 < caps.outCap →
        ∀ st ∈ (run .nilUnsafe caps (init m₀) sched).streams, st.noOut = true → st.fwd = .done ∧ st.refused = true) := by
  intro h
  have := h caps10 .noout [.aStep] (by decide) (by decide)
  revert this
  decide +kernel

theorem c15_statement_fails_nil_unsafe : ¬ C15_statement .nilUnsafe := fun h => c15_full_fails_nil_unsafe h.1

theorem c15_statement_fails_old : ¬ C15_statement .old := fun h => c15_full_fails_old h.1

/-! ### the client's side: what the read loop of onet's client hands to its caller -/

theorem clientLoop_append : ∀ (ds tl : List Frame), (∀ g ∈ ds, g.isData = true) →
    (clientLoop (ds ++ tl)).2 = (clientLoop tl).2 ∧
    ∀ k, outqK k (clientLoop (ds ++ tl)).1 = dataOfK k ds ++ outqK k (clientLoop tl).1
  | [], _, _ => ⟨rfl, fun _ => rfl⟩
  | .data j v :: rest, tl, h => by
    obtain ⟨h1, h2⟩ := clientLoop_append rest tl fun g hg => h g (List.mem_cons_of_mem _ hg)
    refine ⟨h1, fun k => ?_⟩
    show outqK k ([(j, v)] ++ (clientLoop (rest ++ tl)).1) = dataOfK k ([.data j v] ++ rest) ++ _
    rw [outqK_append, outqK_pair, h2 k, dataOfK_append, dataOfK_data, List.append_assoc]
  | .closeNormal :: _, _, h => by cases h _ List.mem_cons_self
  | .closeError :: _, _, h => by cases h _ List.mem_cons_self

theorem WellFramed.loop {s : St} (hW : WellFramed s) :
    (∀ k, outqK k (clientLoop s.s2c).1 = dataOfK k s.s2c) ∧
    ((clientLoop s.s2c).2 = .waiting ↔ s.wdone = false) ∧
    ((clientLoop s.s2c).2 = .closed true ↔ Frame.closeNormal ∈ s.s2c) := by
  cases hw : s.wdone with
  | false =>
    obtain ⟨h1, h2⟩ := clientLoop_append s.s2c [] (hW.1 hw)
    rw [List.append_nil] at h1 h2
    refine ⟨fun k => (h2 k).trans (List.append_nil _), ⟨fun _ => rfl, fun _ => h1⟩, ⟨fun h => ?_, fun h => ?_⟩⟩
    · cases h1.symm.trans h
    · cases hW.1 hw _ h
  | true =>
    obtain ⟨ds, f, h, hds, hf⟩ := hW.2 hw
    obtain ⟨h1, h2⟩ := clientLoop_append ds [f] hds
    rw [h]
    have hk : ∀ k, dataOfK k (ds ++ [f]) = dataOfK k ds ++ outqK k (clientLoop [f]).1 := fun k => by
      rw [dataOfK_append]; cases f with
      | data => cases hf
      | closeNormal | closeError => rfl
    refine ⟨fun k => (h2 k).trans (hk k).symm, ⟨fun h => ?_, nofun⟩, ⟨fun h => ?_, fun h => ?_⟩⟩
    · cases f with
      | data => cases hf
      | closeNormal | closeError => cases h1.symm.trans h
    · cases f with
      | closeNormal => exact List.mem_append_right _ List.mem_cons_self
      | data => cases hf
      | closeError => cases h1.symm.trans h
    · rcases List.mem_append.mp h with h | h
      · cases hds _ h
      · cases List.mem_singleton.mp h; exact h1

/-- **the read loop, whatever the server does**: for every list of frames — any server behaviour — the
loop hands its caller exactly the data frames that precede the first close frame, in their order, one per
`ReadMessage`, and ends at that close frame with its code (the caller is never handed anything that was
written behind a close frame, never the same frame twice, never out of order) -/
theorem c15_client_loop_any_server (fs : List Frame) :
    (clientLoop fs).1 = (fs.takeWhile Frame.isData).filterMap (fun f => match f with | .data k v => some (k, v) | _ => none) ∧
    ((clientLoop fs).2 = .waiting ↔ ∀ f ∈ fs, f.isData = true) ∧
    (∀ b, (clientLoop fs).2 = .closed b ↔ ∃ ds rest, fs = ds ++ (if b then Frame.closeNormal else Frame.closeError) :: rest ∧
      ∀ g ∈ ds, g.isData = true) ∧
    clientReads fs ≤ fs.length := by
  induction fs with
  | nil =>
    exact ⟨rfl, ⟨fun _ _ h => (nomatch h), fun _ => rfl⟩,
      fun b => ⟨nofun, fun ⟨ds, _, h1, _⟩ => (by cases ds <;> cases h1)⟩, Nat.le_refl 0⟩
  | cons f rest ih =>
    obtain ⟨i1, i2, i3, i4⟩ := ih
    cases f with
    | data k v =>
      refine ⟨congrArg ((k, v) :: ·) i1,
        i2.trans ⟨fun h => List.forall_mem_cons.mpr ⟨rfl, h⟩, fun h => (List.forall_mem_cons.mp h).2⟩,
        fun b => (i3 b).trans ⟨?_, ?_⟩, ?_⟩
      · rintro ⟨ds, r, h1, h2⟩
        exact ⟨.data k v :: ds, r, congrArg (Frame.data k v :: ·) h1, List.forall_mem_cons.mpr ⟨rfl, h2⟩⟩
      · rintro ⟨ds, r, h1, h2⟩
        cases ds with
        | nil => cases b <;> cases h1
        | cons d ds' => exact ⟨ds', r, (List.cons.inj h1).2, (List.forall_mem_cons.mp h2).2⟩
      · simp only [clientReads, clientLoop, List.length_cons] at i4 ⊢; omega
    | closeNormal | closeError =>
      refine ⟨rfl, ⟨nofun, fun h => (by cases h _ List.mem_cons_self)⟩, fun b => ⟨fun h => ?_, ?_⟩,
        Nat.succ_le_succ (Nat.zero_le _)⟩
      · cases h; exact ⟨[], rest, rfl, nofun⟩
      · rintro ⟨ds, r, h1, h2⟩
        cases ds with
        | nil => cases b <;> cases h1 <;> rfl
        | cons d ds' =>
          -- the close frame at the head would be one of the data frames `ds`
          have hd := h2 d List.mem_cons_self
          rw [← (List.cons.inj h1).1] at hd; cases hd

/-- **end to end — the client of onet's own library receives every message the service emitted, in emission
order, then the normal close**: for the code as it is, every first message, every schedule of client,
service and goroutines, all capacities.  `r` is what the client's read loop has been handed from the frames
written so far.  (1) per channel the values handed to the caller are a prefix, in order, of what the service
emitted; (2) the loop has ended iff the server's write loop has been left — a client that reads never waits
for a server that has gone, nor is it cut off while the server still writes; (3) when it ended with the normal
close (no bad message on the stream) the caller has been handed *everything* every channel emitted. -/
theorem c15_client_receives_in_order_and_complete (caps : Caps) (m₀ : CMsg) (sched : List Act) :
    let s := run .fixed caps (init m₀) sched
    let r := clientLoop s.s2c
    (s.cGone = false → ∀ (k : Nat) st, s.streams[k]? = some st → outqK k r.1 <+: st.emitted) ∧
    (r.2 = .waiting ↔ s.wdone = false) ∧
    (s.cGone = false → s.ended = false → r.2 = .closed true →
      ∀ (k : Nat) st, s.streams[k]? = some st → outqK k r.1 = st.emitted) := by
  intro s r
  obtain ⟨hval, hwait, hcl⟩ := (reach_run caps m₀ sched).wf.loop
  refine ⟨fun hc k st hk => ?_, hwait, fun hc he hr k st hk => ?_⟩
  · rw [hval k]
    exact List.IsPrefix.trans ⟨outqK k s.outq ++ heldOf st.fwd, by rw [List.append_assoc]⟩
      (c15_order_per_channel caps m₀ sched hc k st hk)
  · rw [hval k]
    exact (c15_complete_at_normal_close caps m₀ sched hc he (hcl.mp hr) k st hk).symm

/-- non-vacuity: three values, the service closes, the client's loop has been handed all three and the
normal close -/
example :
    let s := run .fixed caps10 (init .fresh)
      [.aStep, .emit 0 0 1, .fStep 0 0, .emit 0 0 2, .fStep 0 0, .wOut, .emit 0 0 3, .fStep 0 0, .svcClose 0, .fStep 0 0,
       .wOut, .wOut, .wOut]
    clientLoop s.s2c = ([(0, 1), (0, 2), (0, 3)], .closed true) ∧ clientReads s.s2c = 4 := by decide +kernel

/-- what the frame discipline excludes: a write loop that goes on after its close frame (or writes the close
twice) — the caller is handed neither the value behind the close nor a second close -/
theorem c15_client_loop_stops_at_the_first_close :
    clientLoop [.data 0 1, .closeNormal, .data 0 2, .closeNormal] = ([(0, 1)], .closed true) ∧
    clientLoop [.data 0 1, .closeError, .data 0 2] = ([(0, 1)], .closed false) ∧
    clientLoop [.data 0 1, .data 1 7] = ([(0, 1), (1, 7)], .waiting) := by decide +kernel

/-! ### a message whose encoding is empty (seed C15r7-B) -/

/-- **the empty message is a message**: `outChan` carries byte slices and the write loop tells the end of
the stream by the channel being closed (`!ok`, lifted from the source in `Props/C15Gen.lean`), not by what
a slice holds.  The driver maps the message with the empty encoding to value 0 of channel 0 — every
theorem above quantifies over it; here the concrete run: it is written in its place, the stream goes on,
the normal close comes only after the service closed its channel, and the client's loop hands over all
three values.  (A write loop that tests `reply == nil` ends the stream at the second frame: the run
`corpus:empty-message` then shows `c15:incomplete`.) -/
theorem c15_empty_message_is_a_message :
    let mid := run .fixed caps10 (init .fresh)
      [.aStep, .emit 0 0 1, .fStep 0 0, .wOut, .emit 0 0 0, .fStep 0 0, .wOut]
    let s := run .fixed caps10 mid [.emit 0 0 2, .fStep 0 0, .wOut, .svcClose 0, .fStep 0 0, .wOut]
    mid.s2c = [.data 0 1, .data 0 0] ∧ mid.wdone = false ∧ mid.outClosed = false ∧ mid.stopAll = false ∧
    s.s2c = [.data 0 1, .data 0 0, .data 0 2, .closeNormal] ∧
    clientLoop s.s2c = ([(0, 1), (0, 0), (0, 2)], .closed true) ∧
    (s.streams.map (·.emitted)) = [[1, 0, 2]] := by decide +kernel

/-- **liveness for the client, at quiescence**: the service has ended the stream (some request was served, every
channel closed by its service, no bad message), the client is still there and none of onet's goroutines can
move — then the client's read loop **has** ended, with the normal close, and **has** been handed, per channel,
exactly what the service emitted.  Nothing is still on its way, nothing was dropped, for every schedule that
leads there and all (positive) capacities. -/
theorem c15_client_has_everything_when_the_service_ended (caps : Caps) (hin : 0 < caps.inCap) (hout : 0 < caps.outCap)
    (m₀ : CMsg) (sched : List Act) :
    let s := run .fixed caps (init m₀) sched
    Quiet caps s → (∃ st ∈ s.streams, st.refused = false) → (∀ st ∈ s.streams, st.chanClosed = true) →
    s.cGone = false → s.ended = false →
      (clientLoop s.s2c).2 = .closed true ∧
      ∀ (k : Nat) st, s.streams[k]? = some st → outqK k (clientLoop s.s2c).1 = st.emitted := by
  intro s hq hex hcl hc he
  obtain ⟨_, _, _, _, _, hcn⟩ := c15_service_ends_stream caps hin hout m₀ sched hq hex hcl
  have hend := (reach_run caps m₀ sched).wf.loop.2.2.mpr (hcn hc).1
  exact ⟨hend, (c15_client_receives_in_order_and_complete caps m₀ sched).2.2 hc he hend⟩

/-- non-vacuity: such a state is reached (two values, the service closes, everything runs to rest) -/
example :
    let s := run .fixed caps10 (init .fresh)
      [.aStep, .emit 0 0 1, .fStep 0 0, .emit 0 0 2, .fStep 0 0, .svcClose 0, .fStep 0 0, .wOut, .wOut, .wOut, .rStep, .aStep, .stop 0]
    (∀ a ∈ internal1, step .fixed caps10 s a = none) ∧ s.cGone = false ∧ s.ended = false ∧
    (s.streams.map (fun st => (st.refused, st.chanClosed))) = [(false, true)] ∧
    clientLoop s.s2c = ([(0, 1), (0, 2)], .closed true) := by decide +kernel

/-! ### the code regions the model stands for
Regenerated from /repo's source on every run (`harness/cmd/astfacts` → `OnetVerif/Shapes.lean`): the
calls that matter for synchronisation and data flow, the lock regions and (for decision logic) the
conditions, in source order.  A re-ordering, a dropped call or a changed condition breaks these
obligations even when no sampled input or schedule shows a difference; the check then searches for
a failing input. -/
theorem c15_shape_ServiceProcessor_ProcessClientStreamRequest :
    Shapes.processor_ServiceProcessor_ProcessClientStreamRequest =
   ["assign:outChan:=make(conv,100)", "assign:mh,ok:=p.handlers[path]", "if:!ok",
     "assign:err:=xerrors.New(((\"\"+\"\")+path))", "return:nil,err",
     "assign:stopAll:=make(conv)", "assign:closing:=sync.Mutex{}", "assign:forwarders:=0",
     "assign:outClosed:=false", "verifC15Point", "close:stopAll", "stopAllOnce.Do",
     "outLock.Lock", "if:((forwarders==0)&&!outClosed)", "assign:outClosed=true",
     "close:outChan", "outLock.Unlock", "assign:endStream:=func", "go{", "assign:ended:=false",
     "assign:forwarded:=make(conv)", "range:buf,:=clientInputs{", "verifC15Point", "if:ended",
     "continue", "assign:msg:=reflect.New().Interface()", "server.Suite",
     "network.DefaultConstructors", "protobuf.DecodeWithConstructors",
     "assign:err:=protobuf.DecodeWithConstructors(buf,msg,network.DefaultConstructors(p.Context.server.Suite()))",
     "if:(err!=nil)", "assign:ended=true", "endStream", "continue", "callInterfaceFunc",
     "assign:reply,stopServiceChan,err:=callInterfaceFunc(mh.handler,msg,mh.streaming)",
     "if:(err!=nil)", "if:(stopServiceChan!=nil)", "close:stopServiceChan", "assign:ended=true",
     "endStream", "continue", "assign:inChan:=reflect.ValueOf(reply)", "inChan.IsNil",
     "assign:noChan:=inChan.IsNil()", "if:noChan", "assign:ended=true", "endStream",
     "assign:known:=forwarded[reply]", "assign:forwarded[reply]=true", "outLock.Lock",
     "assign:refused:=(outClosed||noChan)", "if:(!refused&&!known)", "assign:forwarders++",
     "outLock.Unlock", "go{", "if:!refused", "recv:stopAll", "if:(stopServiceChan==nil)",
     "return:", "closing.Lock", "defer:closing.Unlock", "recv:stopServiceChan", "return:",
     "close:stopServiceChan", "}", "if:(refused||known)", "continue", "go{",
     "assign:cases:=conv{{Dir:reflect.SelectRecv,Chan:inChan}}", "defer{", "verifC15Point",
     "outLock.Lock", "assign:forwarders--", "if:((forwarders==0)&&!outClosed)",
     "assign:outClosed=true", "close:outChan", "outLock.Unlock", "}", "for:{",
     "assign:chosen,v,ok:=reflect.Select(cases)", "if:!ok", "return:", "if:(chosen==0)",
     "v.Interface", "protobuf.Encode", "assign:buf,err:=protobuf.Encode(v.Interface())",
     "if:(err!=nil)", "return:", "verifC15Point", "send:outChan", "recv:stopAll", "return:",
     "else", "}", "}", "}", "close:stopAll", "stopAllOnce.Do", "}", "return:outChan,nil"] := rfl

theorem c15_shape_wsHandler_ServeHTTP :
    Shapes.websocket_wsHandler_ServeHTTP =
   ["assign:rx:=0", "assign:tx:=0", "assign:n:=0", "defer{", "}", "return:true",
     "assign:u:=websocket.Upgrader{EnableCompression:false,CheckOrigin:func}", "u.Upgrade",
     "assign:ws,err:=u.Upgrade(w,r,http.Header{})", "if:(err!=nil)", "return:", "defer:ws.Close",
     "for:(err==nil){", "ws.ReadMessage", "assign:mt,buf,rerr:=ws.ReadMessage()",
     "if:(rerr!=nil)", "assign:err=rerr", "break", "assign:rx+=len(buf)", "assign:n++",
     "assign:s:=t.service",
     "assign:path:=strings.TrimPrefix(r.URL.Path,((\"\"+t.serviceName)+\"\"))",
     "assign:isStreaming:=false", "assign:bidirectionalStreamer,ok:=s.(BidirectionalStreamer)",
     "if:ok", "bidirectionalStreamer.IsStreaming",
     "assign:isStreaming,err=bidirectionalStreamer.IsStreaming(path)", "if:(err!=nil)",
     "continue", "if:!isStreaming", "s.ProcessClientRequest",
     "assign:reply,_,err=s.ProcessClientRequest(r,path,buf)", "if:(err!=nil)", "continue",
     "assign:tx+=len(reply)", "time.Now", "Now().Add", "ws.SetWriteDeadline",
     "assign:err=ws.SetWriteDeadline(time.Now().Add((5*time.Minute)))", "if:(err!=nil)", "break",
     "ws.WriteMessage", "assign:err=ws.WriteMessage(mt,reply)", "if:(err!=nil)", "break",
     "continue", "assign:clientInputs:=make(conv,10)", "send:clientInputs",
     "bidirectionalStreamer.ProcessClientStreamRequest",
     "assign:outChan,err=bidirectionalStreamer.ProcessClientStreamRequest(r,path,clientInputs)",
     "if:(err!=nil)", "continue", "assign:closing:=make(conv)", "assign:leaving:=make(conv)",
     "go{", "defer:close:clientInputs", "defer:verifC15Point", "for:{", "ws.ReadMessage",
     "assign:_,buf,err:=ws.ReadMessage()", "if:(err!=nil)", "close:closing", "return:",
     "verifC15Point", "send:clientInputs", "recv:leaving", "return:", "}", "}", "for:{",
     "recv:closing", "break", "recv:outChan", "assign:reply,ok:=<-outChan", "if:!ok",
     "websocket.FormatCloseMessage", "time.Now", "Now().Add", "ws.WriteControl", "verifC15Point",
     "close:leaving", "return:", "assign:tx+=len(reply)", "time.Now", "Now().Add",
     "ws.SetWriteDeadline", "assign:err=ws.SetWriteDeadline(time.Now().Add((5*time.Minute)))",
     "if:(err!=nil)", "verifC15Point", "close:leaving", "break", "ws.WriteMessage",
     "assign:err=ws.WriteMessage(mt,reply)", "if:(err!=nil)", "verifC15Point", "close:leaving",
     "break", "}", "}", "assign:errMessage:=\"\"", "if:(err!=nil)", "err.Error",
     "assign:errMessage+=err.Error()", "websocket.FormatCloseMessage", "time.Now", "Now().Add",
     "ws.WriteControl", "return:"] := rfl


end C15

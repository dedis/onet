import OnetVerif.Model.C20
import OnetVerif.Proofs.C20Spec
import OnetVerif.Proofs.C20Lemmas
import OnetVerif.Proofs.C20IPv4
import OnetVerif.Shapes
import OnetVerif.Gen.C20
import OnetVerif.Proofs.C20Gen
import OnetVerif.Proofs.C20Private
/-! Property C20 — address parsing is total and self-consistent.

The property theorems, the negation witness for the code before the repair and non-vacuity examples.  The independent
grammar `Spec` (with `Parse`, `HostPort`, `PortOk`, `HostName`) is in `Proofs/C20Spec.lean`, helper lemmas in
`Proofs/C20Lemmas.lean`, `C20IPv4.lean`, `C20Private.lean`.  All statements quantify over arbitrary byte strings of any length. -/
namespace C20

/-- **an address is valid exactly when it is in the independent grammar**: a known connection
type, the separator (once), and a host:port whose host is empty, an IPv4 literal `a.b.c.d` (independent grammar), an IPv6
literal or a well-formed host name and whose port is in range. -/
theorem c20_valid_iff_spec (a : Str) : valid a = true ↔ Spec a := by
  have host_ok : ∀ h, (h = [] ∨ parseIP h = true ∨ validHostname h = true) ↔ (h = [] ∨ IPv4 h ∨ IPv6Lit h ∨ HostName h) :=
    fun h => by rw [parseIP_iff, validHostname_iff, or_assoc]
  rw [valid_iff_parts]
  constructor
  · rintro ⟨t, na, h, p, v, hs, hct, hshp, hat, hr, hh⟩
    exact ⟨t, na, h, p, parse_iff.mpr ⟨hs, hct, hshp⟩, atoi_port_iff.mp ⟨v, hat, hr⟩, (host_ok h).mp hh⟩
  · rintro ⟨t, na, h, p, hp, hport, hh⟩
    obtain ⟨hs, hct, hshp⟩ := parse_iff.mp hp
    obtain ⟨v, hat, hr⟩ := atoi_port_iff.mpr hport
    exact ⟨t, na, h, p, v, hs, hct, hshp, hat, hr, (host_ok h).mpr hh⟩

/-- **`net.ParseIP` accepts a dot-first string exactly when it is a dotted quad of the independent
grammar** (four fields of 1..3 digits, value ≤ 255, no leading zero), and accepts a string at all
exactly when it is such an IPv4 literal or an IPv6 literal (colon-first, accepted by the shared
transcription of `netip.parseIPv6`).  Proof: loop invariant of `parseIPv4Fields` over arbitrary
strings, `Proofs/C20IPv4.lean`. -/
theorem c20_parseIP_grammar (s : Str) :
    (parseIPv4 s = true ↔ IPv4 s) ∧ (parseIP s = true ↔ (IPv4 s ∨ IPv6Lit s)) :=
  ⟨parseIPv4_iff s, parseIP_iff s⟩

/-- the parse of an address is unique: type, network address, host and port are functions of it -/
theorem c20_parse_unique {a t na h p t' na' h' p' : Str}
    (h1 : Parse a t na h p) (h2 : Parse a t' na' h' p') : t = t' ∧ na = na' ∧ h = h' ∧ p = p' := by
  obtain ⟨hs, _, hshp⟩ := parse_iff.mp h1
  obtain ⟨hs', _, hshp'⟩ := parse_iff.mp h2
  obtain ⟨rfl, rfl⟩ : t = t' ∧ na = na' := by simpa using hs.symm.trans hs'
  obtain ⟨rfl, rfl⟩ : h = h' ∧ p = p' := by simpa using hshp.symm.trans hshp'
  exact ⟨rfl, rfl, rfl, rfl⟩

/-- **for a valid address the accessors return exactly the parts of the parse** — for *every*
decomposition the grammar allows (there is only one, `c20_parse_unique`) — re-assembling type and
network address gives the address back, and host and port are the split of the network address. -/
theorem c20_accessors (a t na h p : Str) (hv : valid a = true) (hp : Parse a t na h p) :
    connType a = some t ∧ networkAddress a = some na ∧ host a = some h ∧ port a = some p ∧
    isHostname a = some (validHostname h && !parseIP h) ∧
    newAddress t na = a ∧ splitHostPort na = some (h, p) := by
  obtain ⟨hs, hct, hshp⟩ := parse_iff.mp hp
  obtain ⟨ha, ht, -⟩ := hp
  have hna : na ≠ [] := by
    intro e; rw [e, splitHostPort_nil] at hshp; cases hshp
  have hNA : networkAddress a = some na := by simp [networkAddress, hv, hs]
  refine ⟨?_, hNA, ?_, ?_, ?_, ha.symm, hshp⟩
  · simp [connType, hv, hs, connTypeOf_of_known ht]
  · simp [host, hNA, hna, hshp]
  · simp [port, hNA, hna, hshp]
  · simp [isHostname, host, hNA, hna, hshp]

/-- a valid address has a parse (so `c20_accessors` is never vacuous) -/
theorem c20_valid_has_parse (a : Str) (hv : valid a = true) : ∃ t na h p, Parse a t na h p := by
  obtain ⟨t, na, h, p, hp, _⟩ := (c20_valid_iff_spec a).mp hv
  exact ⟨t, na, h, p, hp⟩

/-- **for an invalid address every accessor returns its documented empty value**:
`InvalidConnType` ("wrong"), `""`, `""`, `""`, `false`. -/
theorem c20_accessors_invalid (a : Str) (hv : valid a = false) :
    connType a = some wrong ∧ networkAddress a = some [] ∧ host a = some [] ∧ port a = some [] ∧
    isHostname a = some false := by
  have hNA : networkAddress a = some [] := by simp [networkAddress, hv]
  refine ⟨by simp [connType, hv], hNA, by simp [host, hNA], by simp [port, hNA], ?_⟩
  simp [isHostname, host, hNA, validHostname]

/-- **totality**: no accessor can hit an index panic, whatever the string. -/
theorem c20_total (a : Str) :
    (connType a).isSome ∧ (networkAddress a).isSome ∧ (host a).isSome ∧ (port a).isSome ∧
    (isHostname a).isSome := by
  cases hv : valid a with
  | false =>
    obtain ⟨h1, h2, h3, h4, h5⟩ := c20_accessors_invalid a hv
    simp [h1, h2, h3, h4, h5]
  | true =>
    obtain ⟨t, na, h, p, hp⟩ := c20_valid_has_parse a hv
    obtain ⟨h1, h2, h3, h4, h5, _⟩ := c20_accessors a t na h p hv hp
    simp [h1, h2, h3, h4, h5]

/-! ### resolution and public / private
`Resolve`, `NetworkAddressResolved`, `Public` with the DNS lookup as a parameter `lk` (`none` = error). -/

/-- the host of a valid address never is the bracketed `"[::]"` the code tests for (brackets are removed by
`SplitHostPort`): that branch of `Resolve` is dead; `tcp://[::]:80` has host `::`, an IP literal. -/
theorem c20_resolve_bracket_dead (a t na h p : Str) (hp : Parse a t na h p) : h ≠ bracketAny := by
  obtain ⟨_, _, _, hhp⟩ := hp
  intro e
  have := (hostPort_noSq hhp).1 91 (by simp [e, bracketAny])
  simp at this

/-- the error branches of `Host` and `Port` after a non-empty `NetworkAddress` are dead: a network address an
accessor returns always splits (`if e != nil { return "" }` in both cannot be taken) -/
theorem c20_host_port_error_dead (a na : Str) (h : networkAddress a = some na) (hne : na ≠ []) :
    (splitHostPort na).isSome := by
  cases hv : valid a with
  | false =>
    have := (c20_accessors_invalid a hv).2.1
    rw [this] at h
    simp at h
    exact absurd h hne
  | true =>
    obtain ⟨t, na', ho, po, hp⟩ := c20_valid_has_parse a hv
    obtain ⟨_, hna, _, _, _, _, hshp⟩ := c20_accessors a t na' ho po hv hp
    rw [hna] at h
    simp at h
    subst h
    simp [hshp]

/-- **what `Resolve` returns for a valid address**: an IP-literal host as it is, without consulting the DNS; a host
name (not an IP literal) whatever the lookup answers first, or `""` when it fails; `""` for the empty host — and
the DNS is consulted exactly for host names, with the host as the question. -/
theorem c20_resolve_cases (lk : Str → Option (List Str)) (a t na h p : Str) (hv : valid a = true)
    (hp : Parse a t na h p) :
    lookedUp a = (if validHostname h && !parseIP h then some h else none) ∧
    resolve lk a =
      (if parseIP h then some h
       else if validHostname h then (match lk h with | none => some [] | some l => l.head?)
       else some []) := by
  have hb := c20_resolve_bracket_dead a t na h p hp
  obtain ⟨_, _, hh, _, hi, _, _⟩ := c20_accessors a t na h p hv hp
  unfold lookedUp resolve
  simp only [hv, hh, hi, hb]
  cases hip : parseIP h <;> cases hvh : validHostname h <;> simp [hb, hip]
  -- left: the host name that is no IP literal, where both sides ask `lk h`
  · cases lk h <;> rfl

/-- `Resolve` answers `""` for the empty host (`tcp://:80` means "all addresses") -/
theorem c20_resolve_empty_host (lk : Str → Option (List Str)) (a t na p : Str) (hv : valid a = true)
    (hp : Parse a t na [] p) : resolve lk a = some [] ∧ lookedUp a = none := by
  obtain ⟨h1, h2⟩ := c20_resolve_cases lk a t na [] p hv hp
  have e1 : parseIP [] = false := by decide
  have e2 : validHostname [] = false := by decide
  rw [h2, h1]
  simp [e1, e2]

/-- for an IP-literal host the DNS is irrelevant -/
theorem c20_resolve_ip_independent (lk lk' : Str → Option (List Str)) (a t na h p : Str) (hv : valid a = true)
    (hp : Parse a t na h p) (hip : parseIP h = true) : resolve lk a = some h ∧ resolve lk' a = some h := by
  rw [(c20_resolve_cases lk a t na h p hv hp).2, (c20_resolve_cases lk' a t na h p hv hp).2]
  simp [hip]

/-- **for an invalid address**: `Resolve` and `NetworkAddressResolved` return `""`, `Public` is false, and the DNS
is not consulted -/
theorem c20_resolve_invalid (lk : Str → Option (List Str)) (a : Str) (hv : valid a = false) :
    resolve lk a = some [] ∧ networkAddressResolved lk a = some [] ∧ isPublic lk a = some false ∧ lookedUp a = none := by
  simp [resolve, networkAddressResolved, isPublic_eq, lookedUp, hv]

/-- **the resolved network address of a valid address** is the resolved host joined with the port -/
theorem c20_resolved_address (lk : Str → Option (List Str)) (a t na h p ip : Str) (hv : valid a = true)
    (hp : Parse a t na h p) (hr : resolve lk a = some ip) :
    networkAddressResolved lk a = some (joinHostPort ip p) := by
  obtain ⟨_, _, _, hport, _⟩ := c20_accessors a t na h p hv hp
  simp [networkAddressResolved, hv, hr, hport]

/-- **totality of resolution**: if the lookup never answers with an empty list and no error (`net.LookupHost`
does not), `Resolve`, `NetworkAddressResolved` and `Public` cannot panic, whatever the string -/
theorem c20_resolve_total (lk : Str → Option (List Str)) (hlk : ∀ h, lk h ≠ some []) (a : Str) :
    (resolve lk a).isSome ∧ (networkAddressResolved lk a).isSome ∧ (isPublic lk a).isSome := by
  cases hv : valid a with
  | false =>
    obtain ⟨h1, h2, h3, _⟩ := c20_resolve_invalid lk a hv
    simp [h1, h2, h3]
  | true =>
    obtain ⟨t, na, h, p, hp⟩ := c20_valid_has_parse a hv
    have hr : (resolve lk a).isSome := by
      rw [(c20_resolve_cases lk a t na h p hv hp).2]
      cases parseIP h <;> cases validHostname h <;> simp
      -- left: the host name that is no IP literal; the answer is the head of `lk h`, not empty by `hlk`
      · cases hl : lk h with
        | none => simp
        | some l =>
          cases l with
          | nil => exact absurd hl (hlk h)
          | cons x r => simp
    obtain ⟨ip, hip⟩ := Option.isSome_iff_exists.mp hr
    have hn := c20_resolved_address lk a t na h p ip hv hp hip
    exact ⟨hr, by simp [hn], by simp [isPublic_eq, hn]⟩

/-- an empty answer without error is the one way to make `Resolve` panic (`ipAddress[0]`): the hypothesis of
`c20_resolve_total` is needed -/
theorem c20_resolve_empty_answer_panics :
    resolve (fun _ => some []) [116, 99, 112, 58, 47, 47, 97, 46, 98, 58, 56, 48] = none := by decide +kernel

/-- **a public address is valid, and its resolved network address matches none of the private patterns** -/
theorem c20_public (lk : Str → Option (List Str)) (a : Str) (h : isPublic lk a = some true) :
    valid a = true ∧ ∃ s, networkAddressResolved lk a = some s ∧ privateRe s = false := by
  rw [isPublic_eq, Option.map_eq_some_iff] at h
  obtain ⟨s, hs, hb⟩ := h
  rw [Bool.and_eq_true, Bool.not_eq_true'] at hb
  exact ⟨hb.2, s, hs, hb.1⟩

/-- **`Public` on a dotted-quad host agrees with the numeric private ranges**: for a valid address whose host is the
IPv4 literal `o1.o2.o3.o4` (canonical octets), `Public` is false exactly for 127/8, 10/8, 172.16/12, 192.168/16 and
169.254/16 — the textual patterns of the regular expression mean these ranges — whatever the DNS answers. -/
theorem c20_public_ipv4 (lk : Str → Option (List Str)) (a t na p o1 o2 o3 o4 : Str) (hv : valid a = true)
    (hp : Parse a t na (o1 ++ 46 :: (o2 ++ 46 :: (o3 ++ 46 :: o4))) p)
    (h1 : Octet o1) (h2 : Octet o2) (h3 : Octet o3) (h4 : Octet o4) :
    (isPublic lk a = some false ↔ private4 (decVal o1) (decVal o2)) ∧
    (isPublic lk a = some true ↔ ¬ private4 (decVal o1) (decVal o2)) := by
  have hip : parseIP (o1 ++ 46 :: (o2 ++ 46 :: (o3 ++ 46 :: o4))) = true :=
    (parseIP_iff _).mpr (Or.inl ⟨o1, o2, o3, o4, h1, h2, h3, h4, rfl⟩)
  have hr := (c20_resolve_ip_independent lk lk a t na _ p hv hp hip).1
  have hn := c20_resolved_address lk a t na _ p _ hv hp hr
  have d : ∀ {f : Str}, Octet f → 58 ∉ f := fun hf => not_mem_digits hf.1.2 rfl
  have hj : joinHostPort (o1 ++ 46 :: (o2 ++ 46 :: (o3 ++ 46 :: o4))) p
      = o1 ++ 46 :: (o2 ++ 46 :: (o3 ++ 46 :: (o4 ++ 58 :: p))) := by
    simp [joinHostPort, d h1, d h2, d h3, d h4]
  rw [← privateRe_quad o1 o2 (o3 ++ 46 :: (o4 ++ 58 :: p)) h1 h2, isPublic_eq, hn, hj, Option.map_some]
  cases privateRe (o1 ++ 46 :: (o2 ++ 46 :: (o3 ++ 46 :: (o4 ++ 58 :: p)))) <;> simp [hv]

/-- `tcp://172.31.0.1:1` is private, `tcp://172.32.0.1:1` public -/
example : isPublic (fun _ => none) [116, 99, 112, 58, 47, 47, 49, 55, 50, 46, 51, 49, 46, 48, 46, 49, 58, 49] = some false ∧
    isPublic (fun _ => none) [116, 99, 112, 58, 47, 47, 49, 55, 50, 46, 51, 50, 46, 48, 46, 49, 58, 49] = some true := by
  decide +kernel

/-- **the listen address is an error or a usable host:port consistent with its inputs**: it is
derived only from a valid server address; it splits into host and non-empty port; with no
override it is `:port` of the server address, with a bare host override it is that host joined
with the server's port, otherwise it is the override itself (which then has a host and a port). -/
theorem c20_listen_consistent (a l r : Str) (h : getListenAddress a l = .ok r) :
    valid a = true ∧ ∃ hr pr, splitHostPort r = some (hr, pr) ∧ pr ≠ [] ∧
      ((l = [] ∧ hr = [] ∧ port a = some pr) ∨
       (l ≠ [] ∧ 58 ∉ l ∧ r = l ++ 58 :: pr ∧ port a = some pr) ∨
       (58 ∈ l ∧ r = l ∧ hr ≠ [])) := by
  unfold getListenAddress globalBind at h
  cases hv : valid a with
  | false =>
    -- the network address of an invalid address is `""`, which does not split
    rw [(c20_accessors_invalid a hv).2.1] at h
    dsimp only at h
    rw [splitHostPort_nil] at h
    by_cases hl : l = []
    · rw [if_pos hl] at h; cases h
    · rw [if_neg hl] at h; cases h
  | true =>
    refine ⟨rfl, ?_⟩
    obtain ⟨t, na, ho, po, hparse, hpok, _⟩ := (c20_valid_iff_spec a).mp hv
    obtain ⟨_, hNA, _, hport, _, _, hshp⟩ := c20_accessors a t na ho po hv hparse
    have hpo := portOk_ne_nil hpok
    have hbr := (hostPort_noSq hparse.2.2.2).2
    rw [hNA] at h
    dsimp only at h
    rw [hshp] at h
    dsimp only at h
    by_cases hl : l = []
    · rw [if_pos hl] at h
      cases h
      exact ⟨[], po, splitHostPort_colon hbr, hpo, Or.inl ⟨hl, rfl, hport⟩⟩
    · rw [if_neg hl] at h
      cases hcol : l.contains 58 with
      | true =>
        rw [hcol, if_neg (fun c => nomatch c.1)] at h
        cases hsl : splitHostPort l with
        | none => rw [hsl] at h; cases h
        | some x =>
          rw [hsl] at h
          dsimp only at h
          by_cases hne : x.1 ≠ [] ∧ x.2 ≠ []
          · rw [if_pos hne] at h
            cases h
            exact ⟨x.1, x.2, hsl, hne.2, Or.inr (Or.inr ⟨by simpa using hcol, rfl, hne.1⟩)⟩
          · rw [if_neg hne] at h; cases h
      | false =>
        rw [hcol, if_pos ⟨rfl, hpo⟩] at h
        cases hsl : splitHostPort (l ++ 58 :: po) with
        | none => rw [hsl] at h; cases h
        | some x =>
          rw [hsl] at h
          cases h
          -- the port part of the result is the server's port: it follows the last colon
          obtain ⟨pre, heq, h58'⟩ := hostPort_last_colon (splitHostPort_iff.mp hsl)
          obtain rfl : x.2 = po := (split_at_last_unique heq.symm h58' (noBr_iff.mp hbr).1).2
          exact ⟨x.1, x.2, hsl, hpo, Or.inr (Or.inl ⟨hl, by simpa using hcol, rfl, hport⟩)⟩

/-- the listen address never panics -/
theorem c20_listen_total (a l : Str) : getListenAddress a l ≠ .panic := by
  -- the one panic is an index panic of `NetworkAddress`; every other leaf is an error or an address
  obtain ⟨na, hna⟩ := Option.isSome_iff_exists.mp (c20_total a).2.1
  unfold getListenAddress globalBind
  rw [hna]
  refine ite_ne_panic ?_ ?_
  · cases splitHostPort na <;> exact R.noConfusion
  · cases splitHostPort na with
    | none => exact R.noConfusion
    | some x =>
      refine ite_ne_panic ?_ ?_
      · cases splitHostPort (l ++ 58 :: x.2) <;> exact R.noConfusion
      · cases splitHostPort l with
        | none => exact R.noConfusion
        | some y => exact ite_ne_panic R.noConfusion R.noConfusion

/-- with no override a valid server address always yields its global-bind address `:port` -/
theorem c20_listen_default (a t na h p : Str) (hv : valid a = true) (hp : Parse a t na h p) :
    getListenAddress a [] = .ok (58 :: p) := by
  obtain ⟨_, hNA, _, _, _, _, hshp⟩ := c20_accessors a t na h p hv hp
  simp [getListenAddress, hNA, globalBind, hshp]

/-- `GlobalBind`: an error, or `:port` with the port of the given host:port -/
theorem c20_globalBind (s r : Str) (h : globalBind s = .ok r) :
    ∃ ho po, splitHostPort s = some (ho, po) ∧ r = 58 :: po ∧ splitHostPort r = some ([], po) := by
  unfold globalBind at h
  cases hs : splitHostPort s with
  | none => simp [hs] at h
  | some x =>
    obtain ⟨ho, po⟩ := x
    simp only [hs, R.ok.injEq] at h
    subst h
    refine ⟨ho, po, rfl, rfl, ?_⟩
    exact splitHostPort_colon (hostPort_noSq (splitHostPort_iff.mp hs)).2

/-- **the websocket host:port is an error or has port = address port + 1 ≤ 65535 — never a
wrapped-around port** (full strength, on the repaired code).  Without an explicit URL the result
comes from a valid address whose port is a plain decimal numeral `m`, it is `host:m+1` (host
`0.0.0.0` when binding globally), it splits back into exactly that host and port, and the port
reads back as `m + 1`.  With an explicit URL the port is the URL's own 16-bit port or the
scheme's default, the host the URL's host name. -/
theorem c20_ws_port (a : Str) (url : Option UrlParts) (global : Bool) (r : Str)
    (h : wsHostPort a url global = .ok r) :
    ∃ hn n, r = joinHostPort hn (fmtNat n) ∧ n ≤ 65535 ∧ parseUint16 (fmtNat n) = some n ∧
      (global = true → hn = [48, 46, 48, 46, 48, 46, 48]) ∧
      match url with
      | none =>
        valid a = true ∧ splitHostPort r = some (hn, fmtNat n) ∧
          ∃ p m, port a = some p ∧ parseUint16 p = some m ∧ n = m + 1 ∧
            (global = false → host a = some hn)
      | some u =>
        (global = false → hn = u.hostname) ∧
          ((u.port = [] ∧ schemeToPort u.scheme = some n) ∨ (u.port ≠ [] ∧ parseUint16 u.port = some n)) := by
  cases url with
  | some u =>
    obtain ⟨n, hle, rfl, hn⟩ := wsHostPort_url_ok h
    exact ⟨_, n, rfl, hle, parseUint16_fmtNat hle, fun hg => if_pos hg, fun hg => if_neg (hg ▸ Bool.false_ne_true), hn⟩
  | none =>
    obtain ⟨p, ho, m, hp, hh, hm, hle, rfl⟩ := wsHostPort_addr_ok h
    have hv : valid a = true := by
      -- an invalid address has the port `""`, which is no number
      cases hv : valid a with
      | true => rfl
      | false =>
        have := (c20_accessors_invalid a hv).2.2.2.1
        rw [hp, Option.some.injEq] at this
        rw [this] at hm
        cases hm
    obtain ⟨t, na, ho', po, hparse⟩ := c20_valid_has_parse a hv
    obtain ⟨_, _, hh', _, _, _, hshp⟩ := c20_accessors a t na ho' po hv hparse
    obtain rfl : ho' = ho := Option.some.inj (hh'.symm.trans hh)
    have hnosq : NoSq (if global = true then [48, 46, 48, 46, 48, 46, 48] else ho') := by
      split
      · unfold NoSq; decide
      · exact (hostPort_noSq (splitHostPort_iff.mp hshp)).1
    exact ⟨_, m + 1, rfl, hle, parseUint16_fmtNat hle, fun hg => if_pos hg, hv,
      splitHostPort_joinHostPort hnosq (noBr_of_digits (fmtNat_digits _)), p, m, hp, hm, rfl,
      fun hg => hh.trans (congrArg some (if_neg (hg ▸ Bool.false_ne_true)).symm)⟩

/-- the websocket derivation never panics -/
theorem c20_ws_total (a : Str) (url : Option UrlParts) (global : Bool) :
    wsHostPort a url global ≠ .panic := by
  unfold wsHostPort
  cases url with
  | none =>
    -- the one panic is an index panic of `Port` or `Host`
    obtain ⟨_, _, hh, hp, _⟩ := c20_total a
    obtain ⟨h, hh⟩ := Option.isSome_iff_exists.mp hh
    obtain ⟨p, hp⟩ := Option.isSome_iff_exists.mp hp
    simp only [hp, hh]
    cases parseUint16 p with
    | none => exact R.noConfusion
    | some n => exact ite_ne_panic R.noConfusion R.noConfusion
  | some u =>
    refine ite_ne_panic R.noConfusion (ite_ne_panic R.noConfusion ?_)
    cases schemeToPort u.scheme with
    | none => exact R.noConfusion
    | some pp =>
      refine ite_ne_panic R.noConfusion ?_
      cases parseUint16 u.port <;> exact R.noConfusion

/-- the full statement for the code *before* the repair (`port = uint16(portRaw + 1)` with no
range test) -/
def C20_ws_full_old : Prop :=
  ∀ (a : Str) (global : Bool) (r : Str), wsHostPortOld a global = .ok r →
    ∃ hn p m, port a = some p ∧ parseUint16 p = some m ∧ m + 1 ≤ 65535 ∧ r = joinHostPort hn (fmtNat (m + 1))

/-- `"tcp://10.0.0.1:65535"` -/
def witness65535 : Str :=
  [116, 99, 112, 58, 47, 47, 49, 48, 46, 48, 46, 48, 46, 49, 58, 54, 53, 53, 51, 53]

/-- on the unrepaired code the address `tcp://10.0.0.1:65535` gave `10.0.0.1:0` and no error -/
theorem c20_ws_old_wraps :
    wsHostPortOld witness65535 false = .ok [49, 48, 46, 48, 46, 48, 46, 49, 58, 48] := by decide +kernel

/-- **negation witness**: before the repair the full statement was false (port 65535 wrapped to 0) -/
theorem c20_ws_full_old_fails : ¬ C20_ws_full_old := by
  intro hall
  obtain ⟨hn, p, m, hp, hm, hle, _⟩ := hall witness65535 false _ c20_ws_old_wraps
  have hp' : port witness65535 = some [54, 53, 53, 51, 53] := by decide +kernel
  rw [hp'] at hp
  simp only [Option.some.injEq] at hp
  subst hp
  have : parseUint16 [54, 53, 53, 51, 53] = some 65535 := by decide +kernel
  rw [this] at hm
  simp only [Option.some.injEq] at hm
  omega

/-- the repaired code answers the same address with an error -/
theorem c20_ws_65535_is_error : wsHostPort witness65535 none false = .err := by decide +kernel

/-- `tls://[::1]:7770` is valid: bracketed IPv6 host -/
example : valid [116, 108, 115, 58, 47, 47, 91, 58, 58, 49, 93, 58, 55, 55, 55, 48] = true := by decide +kernel

/-- `tcp://a.b.:+80` is valid: host name with trailing dot, signed port -/
example : valid [116, 99, 112, 58, 47, 47, 97, 46, 98, 46, 58, 43, 56, 48] = true := by decide +kernel

/-- `tcp://10.0.0.1:65534` derives the websocket address `10.0.0.1:65535` -/
example : wsHostPort [116, 99, 112, 58, 47, 47, 49, 48, 46, 48, 46, 48, 46, 49, 58, 54, 53, 53, 51, 52] none false
    = .ok [49, 48, 46, 48, 46, 48, 46, 49, 58, 54, 53, 53, 51, 53] := by decide +kernel

/-- `tcp://1.2.3.4:80` with listen override `h` listens on `h:80`; with `[` it is an error -/
example : getListenAddress [116, 99, 112, 58, 47, 47, 49, 46, 50, 46, 51, 46, 52, 58, 56, 48] [104]
    = .ok [104, 58, 56, 48] := by decide +kernel
example : getListenAddress [116, 99, 112, 58, 47, 47, 49, 46, 50, 46, 51, 46, 52, 58, 56, 48] [91]
    = .err := by decide +kernel

/-- `10.0.0.1` is an IPv4 literal of the grammar, `010.0.0.1` and `256.0.0.1` are rejected by the code -/
example : IPv4 [49, 48, 46, 48, 46, 48, 46, 49] := (parseIPv4_iff _).mp (by decide +kernel)
example : parseIP [48, 49, 48, 46, 48, 46, 48, 46, 49] = false ∧ parseIP [50, 53, 54, 46, 48, 46, 48, 46, 49] = false := by
  decide +kernel

/-- `tcp://a:b:1` and `udp://1.2.3.4:80` are invalid -/
example : valid [116, 99, 112, 58, 47, 47, 97, 58, 98, 58, 49] = false := by decide +kernel
example : valid [117, 100, 112, 58, 47, 47, 49, 46, 50, 46, 51, 46, 52, 58, 56, 48] = false := by decide +kernel


/-! ### the regenerated definitions equal the model
`Gen/C20.lean` is re-translated from the Go source of /repo on every run (`harness/cmd/go2lean`, configuration
`meta/go2lean.json`): onet's own functions become Lean definitions (early returns → nested `if`, index and slice
expressions → `Gen.Rt.idx` / `Gen.Rt.slice` with the run-time panic as `none`, search loops → `Gen.Rt.rangeReturn`);
the Go library functions they call are the hand-written models of `Model/C20.lean` that `meta/go2lean.json` names.  The theorems below state that every
regenerated definition computes what the hand-written model computes — for the functions that contain an
index or slice expression including that the panic outcome cannot occur.  A semantic change of one of these
functions changes the generated text and the theorem about it stops checking. -/
section GenEq
open Gen.Rt

/-- the constants of address.go as translated are the model's -/
theorem c20_gen_consts :
    Gen.C20.PlainTCP = tcp ∧ Gen.C20.TLS = tls ∧ Gen.C20.Local = localT ∧ Gen.C20.InvalidConnType = wrong ∧
    Gen.C20.typeAddressSep = sep :=
  ⟨rfl, rfl, rfl, rfl, rfl⟩

/-- `connType` (address.go) as translated = `connTypeOf` -/
theorem c20_gen_connType_eq (t : Str) : Gen.C20.connType t = connTypeOf t := by
  unfold Gen.C20.connType connTypeOf
  dsimp only
  rw [rangeReturn_const _ (fun t' => t' == t) t]
  by_cases h : t = tcp ∨ t = tls ∨ t = localT
  · rw [if_pos h]
    rcases h with rfl | rfl | rfl <;> rfl
  · have : [Gen.C20.PlainTCP, Gen.C20.TLS, Gen.C20.Local].any (fun t' => t' == t) = false := by
      simp only [List.any_cons, List.any_nil, Bool.or_false, Bool.or_eq_false_iff, beq_eq_false_iff_ne, ne_eq]
      exact ⟨fun e => h (Or.inl e.symm), fun e => h (Or.inr (Or.inl e.symm)), fun e => h (Or.inr (Or.inr e.symm))⟩
    rw [if_neg h, this]
    rfl

/-- `validHostname` as translated never panics (`s[len(s)-1]` is guarded by the `len(s) == 0` test and by
`strings.ToLower` keeping a non-empty string non-empty) and computes the model's `validHostname` -/
theorem c20_gen_validHostname_eq (s : Str) : Gen.C20.validHostname s = some (validHostname s) := by
  unfold Gen.C20.validHostname validHostname
  by_cases hs : s = []
  · subst hs; rfl
  · have hl : goLower s ≠ [] := goLower_ne_nil hs
    have h0 : (len s == 0) = false := by rw [len_eq_zero]; simpa using hs
    obtain ⟨c, hgl⟩ : ∃ c, (goLower s).getLast? = some c :=
      Option.isSome_iff_exists.mp (by rw [List.getLast?_isSome]; exact hl)
    -- the two slicings are `stripDot`
    have e : (if (c == 46) = true then (goLower s).dropLast else goLower s) = stripDot (goLower s) := by
      simp [stripDot, hgl]
    simp only [h0, Bool.false_eq_true, if_false, hs, idx_last, hgl, slice_dropLast _ hl, ← apply_ite some, e]
    generalize stripDot (goLower s) = g
    rw [rangeReturn_const (splitDot g) (fun element => decide (len element < 1) || decide (len element > 63)) (some false)]
    unfold hostnameCore
    have hany : (splitDot g).any (fun element => decide (len element < 1) || decide (len element > 63))
        = (splitDot g).any (fun l => decide (l.length < 1) || decide (l.length > 63)) := by
      congr 1; funext l
      rw [show decide (len l < 1) = decide (l.length < 1) from len_lt l 1,
        show decide (len l > 63) = decide (l.length > 63) from len_gt l 63]
    rw [show decide (len g > 253) = decide (g.length > 253) from len_gt g 253, hany, count_zero]
    generalize ((splitDot g).any fun l => decide (l.length < 1) || decide (l.length > 63)) = b
    by_cases h1 : g.length > 253
    · rw [if_pos (decide_eq_true h1), if_pos h1]
    · rw [if_neg (mt of_decide_eq_true h1), if_neg h1]
      generalize matchRe g = m, g.contains 46 = d
      -- both sides are the same truth table of the three tests
      cases b <;> cases m <;> cases d <;> rfl

/-- `Address.Valid` as translated never panics (`vals[0]`, `vals[1]` are guarded by `len(vals) != 2`) and computes
the model's `valid` -/
theorem c20_gen_Address_Valid_eq (a : Str) : Gen.C20.Address_Valid a = some (valid a) := by
  unfold Gen.C20.Address_Valid valid
  simp only [c20_gen_connType_eq, c20_gen_validHostname_eq, c20_gen_consts.2.2.2.1]
  generalize split a = vals
  rcases vals with _ | ⟨t, _ | ⟨na, _ | ⟨x, r⟩⟩⟩
  · rfl
  · rfl
  · show (if (connTypeOf t == wrong) = true then some false else _) = _
    by_cases hw : connTypeOf t = wrong
    · rw [if_pos (beq_iff_eq.mpr hw)]; simp only [hw, if_true]
    · rw [if_neg (mt beq_iff_eq.mp hw)]
      simp only [hw, if_false]
      cases splitHostPort na with
      | none => rfl
      | some x =>
        dsimp only
        cases atoi x.2 with
        | none => rfl
        | some p =>
          dsimp only
          -- the translation tests `p < 0` and `p > 65535` in two nested `if`s; `ite_or'` brings the model's `∨` to that form
          simp only [apply_ite some, ite_or', decide_eq_true_eq, len_eq_zero, List.isEmpty_iff]
  · have h : (len (t :: na :: x :: r) != 2) = true := by simp [len]; omega
    simp only [h, if_true]

/-- `Address.ConnType` as translated = the model's `connType` (`none` = index panic on both sides) -/
theorem c20_gen_Address_ConnType_eq (a : Str) : Gen.C20.Address_ConnType a = connType a := by
  unfold Gen.C20.Address_ConnType connType
  simp only [c20_gen_Address_Valid_eq, c20_gen_connType_eq, c20_gen_consts.2.2.2.1]
  cases valid a <;> simp [idx]
  -- valid: both sides read the part at index 0
  · cases (split a)[0]? <;> simp

/-- `Address.NetworkAddress` as translated = the model's `networkAddress` -/
theorem c20_gen_Address_NetworkAddress_eq (a : Str) : Gen.C20.Address_NetworkAddress a = networkAddress a := by
  unfold Gen.C20.Address_NetworkAddress networkAddress
  simp only [c20_gen_Address_Valid_eq]
  cases valid a <;> simp [idx]
  -- valid: both sides read the part at index 1
  · cases (split a)[1]? <;> simp

/-- `Address.Host` as translated = the model's `host` -/
theorem c20_gen_Address_Host_eq (a : Str) : Gen.C20.Address_Host a = host a := by
  unfold Gen.C20.Address_Host host
  rw [c20_gen_Address_NetworkAddress_eq]
  cases networkAddress a with
  | none => rfl
  | some na =>
    cases na with
    | nil => rfl
    | cons x r =>
      dsimp only [Option.map]
      cases splitHostPort (x :: r) <;> rfl

/-- `Address.Port` as translated = the model's `port` -/
theorem c20_gen_Address_Port_eq (a : Str) : Gen.C20.Address_Port a = port a := by
  unfold Gen.C20.Address_Port port
  rw [c20_gen_Address_NetworkAddress_eq]
  cases networkAddress a with
  | none => rfl
  | some na =>
    cases na with
    | nil => rfl
    | cons x r =>
      dsimp only [Option.map]
      cases splitHostPort (x :: r) <;> rfl

/-- `Address.IsHostname` as translated = the model's `isHostname` -/
theorem c20_gen_Address_IsHostname_eq (a : Str) : Gen.C20.Address_IsHostname a = isHostname a := by
  unfold Gen.C20.Address_IsHostname isHostname
  simp only [c20_gen_Address_Host_eq, c20_gen_validHostname_eq]
  cases host a <;> simp

/-- `GlobalBind` (struct.go) as translated = the model's `globalBind` (it cannot panic: no panic layer) -/
theorem c20_gen_GlobalBind_eq (s : Str) : R.ofGen (some (Gen.C20.GlobalBind s)) = globalBind s := by
  unfold Gen.C20.GlobalBind globalBind
  cases splitHostPort s with
  | none => simp [R.ofGen]
  | some x => simp [R.ofGen]

/-- `getListenAddress` (tcp.go) as translated = the model's `getListenAddress`: `strings.Split(listenAddr, ":")`
has one part exactly when there is no colon, and `splitted[0]` is then the whole override -/
theorem c20_gen_getListenAddress_eq (a l : Str) :
    R.ofGen (Gen.C20.getListenAddress a l) = getListenAddress a l := by
  unfold Gen.C20.getListenAddress getListenAddress
  rw [c20_gen_Address_NetworkAddress_eq]
  cases networkAddress a with
  | none => cases l <;> rfl
  | some na =>
    cases l with
    | nil => exact c20_gen_GlobalBind_eq na
    | cons y ys =>
      have hb : (y :: ys == ([] : Str)) = false := rfl
      have hl : y :: ys ≠ [] := List.cons_ne_nil _ _
      generalize y :: ys = l at hb hl ⊢
      simp only [hb, hl, Bool.false_eq_true, if_false, len_splitByte_eq_one]
      cases splitHostPort na with
      | none => rfl
      | some x =>
        obtain ⟨h0, p⟩ := x
        dsimp only
        cases hc : l.contains 58 with
        | true =>
          simp only [Bool.not_true, Bool.false_and, Bool.false_eq_true, if_false]
          cases splitHostPort l with
          | none => rfl
          | some z => obtain ⟨_ | _, _ | _⟩ := z <;> rfl
        | false =>
          cases p with
          | nil =>
            simp only [Bool.not_false, Bool.true_and, bne_self_eq_false, Bool.false_eq_true, if_false, ne_eq,
              not_true_eq_false, and_false]
            cases splitHostPort l with
            | none => rfl
            | some z => obtain ⟨_ | _, _ | _⟩ := z <;> rfl
          | cons c r =>
            have hp : (c :: r != ([] : Str)) = true := rfl
            rw [splitByte_nomem (by simpa using hc)]
            simp only [Bool.not_false, Bool.true_and, hp, if_true, ne_eq, List.cons_ne_nil, not_false_eq_true, and_self,
              idx_zero, List.head?_cons, List.append_assoc, List.singleton_append]
            cases splitHostPort (l ++ 58 :: c :: r) <;> rfl

/-- `schemeToPort` (websocket_client.go, a `switch`) as translated = the model's -/
theorem c20_gen_schemeToPort_eq (s : Str) : Gen.C20.schemeToPort s = schemeToPort s := by
  unfold Gen.C20.schemeToPort schemeToPort
  simp only [beq_iff_eq]
  rfl

/-- `getWSHostPort` as translated, with `url.Parse` as a parameter, = the model's `wsHostPort` on what the parser
returned (64-bit `portRaw+1` and the conversions `uint16(…)` keep their `%`; the model's order of evaluation differs
from Go's only where `Host()` would panic, which `c20_total` excludes) -/
theorem c20_gen_getWSHostPort_eq (si : SI) (global : Bool) (urlParse : Str → Option Url) :
    R.ofGen (Gen.C20.getWSHostPort si global urlParse) =
      wsHostPort si.Address (if si.URL = [] then none else some (UrlParts.ofParse (urlParse si.URL))) global := by
  unfold Gen.C20.getWSHostPort wsHostPort
  cases si.URL with
  | nil =>
    obtain ⟨_, _, hh, hp, _⟩ := c20_total si.Address
    obtain ⟨h, hh⟩ := Option.isSome_iff_exists.mp hh
    obtain ⟨p, hp⟩ := Option.isSome_iff_exists.mp hp
    simp only [c20_gen_Address_Port_eq, c20_gen_Address_Host_eq, hh, hp, bne_self_eq_false, Bool.false_eq_true,
      if_false, if_true]
    cases hpu : parseUint16 p with
    | none => rfl
    | some n =>
      -- the 64-bit `portRaw + 1` does not wrap
      have hm : (n + 1) % 18446744073709551616 = n + 1 :=
        Nat.mod_eq_of_lt (Nat.lt_of_le_of_lt (Nat.succ_le_succ (parseUint16_some hpu)) (by decide))
      dsimp only
      rw [hm]
      by_cases hbig : n + 1 ≥ 65536
      · rw [if_pos (decide_eq_true hbig), if_pos hbig]; rfl
      · rw [if_neg (mt of_decide_eq_true hbig), if_neg hbig]; rfl
  | cons c r =>
    simp only [c20_gen_schemeToPort_eq, bne_iff_ne, ne_eq, List.cons_ne_nil, not_false_eq_true, if_true, if_false]
    cases urlParse (c :: r) with
    | none => rfl
    | some u =>
      obtain ⟨ab, sc, po, hn⟩ := u
      simp only [UrlParts.ofParse, Bool.not_true, Bool.false_eq_true, if_false]
      cases ab
      · rfl
      · cases schemeToPort sc with
        | none => rfl
        | some pp =>
          cases po with
          | nil => rfl
          | cons d ds => cases parseUint16 (d :: ds) <;> rfl

/-- `Address.Resolve` as translated (the package variable `lookupHost` a parameter) = the model's `resolve` -/
theorem c20_gen_Address_Resolve_eq (lk : Str → Option (List Str)) (a : Str) :
    Gen.C20.Address_Resolve a lk = resolve lk a := by
  unfold Gen.C20.Address_Resolve resolve bracketAny
  simp only [c20_gen_Address_Valid_eq, c20_gen_Address_Host_eq, c20_gen_Address_IsHostname_eq]
  obtain ⟨_, _, hh, _, hi⟩ := c20_total a
  cases hv : valid a with
  | false => simp
  | true =>
    cases hho : host a with
    | none => simp [hho] at hh
    | some h =>
      cases hih : isHostname a with
      | none => simp [hih] at hi
      | some ih =>
        by_cases h1 : h = [91, 58, 58, 93]
        · simp [h1]
        · cases hip : parseIP h <;> cases ih <;> simp [h1, hip]
          -- left: the host name that is no IP literal; the translation indexes `lk h` at 0, the model takes its head
          · cases hlk : lk h with
            | none => simp
            | some l => cases l <;> simp [idx_zero]

/-- `Address.NetworkAddressResolved` as translated = the model's `networkAddressResolved` -/
theorem c20_gen_Address_NetworkAddressResolved_eq (lk : Str → Option (List Str)) (a : Str) :
    Gen.C20.Address_NetworkAddressResolved a lk = networkAddressResolved lk a := by
  unfold Gen.C20.Address_NetworkAddressResolved networkAddressResolved
  simp only [c20_gen_Address_Valid_eq, c20_gen_Address_Resolve_eq, c20_gen_Address_Port_eq]
  obtain ⟨_, _, _, hp, _⟩ := c20_total a
  cases hv : valid a with
  | false => simp
  | true =>
    cases hpo : port a with
    | none => simp [hpo] at hp
    | some p => cases resolve lk a <;> simp

/-- `Address.Public` as translated (`!private && a.Valid()`: `Valid` only when not private) = the model's `isPublic` -/
theorem c20_gen_Address_Public_eq (lk : Str → Option (List Str)) (a : Str) :
    Gen.C20.Address_Public a lk = isPublic lk a := by
  unfold Gen.C20.Address_Public isPublic
  simp only [c20_gen_Address_Valid_eq, c20_gen_Address_NetworkAddressResolved_eq]
  cases networkAddressResolved lk a with
  | none => simp
  | some s => cases hp : privateRe s <;> simp [hp]

/-- `Address.String` and `NewAddress` as translated -/
theorem c20_gen_Address_String_NewAddress_eq (a t na : Str) :
    Gen.C20.Address_String a = a ∧ Gen.C20.NewAddress t na = newAddress t na := ⟨rfl, rfl⟩

end GenEq

/-! ### the code regions the model stands for
Regenerated from /repo's source on every run (`harness/cmd/astfacts` → `OnetVerif/Shapes.lean`): the library
calls, the conditions and the returns of each function, in source order.  A re-ordering, a dropped call or a
changed condition breaks these obligations even when no sampled input shows a difference; the check then
searches for a failing input. -/
theorem c20_shape_address_Address_Valid :
    Shapes.network_address_Address_Valid =
   ["if:(len(vals)!=2)", "return:false", "if:(connType(vals[])==InvalidConnType)",
     "return:false", "net.SplitHostPort", "if:(e!=nil)", "return:false", "strconv.Atoi",
     "if:(((err!=nil)||(p<0))||(p>65535))", "return:false", "if:(len(ip)==0)", "return:true",
     "if:(net.ParseIP(ip)==nil)", "return:validHostname(ip)", "return:true"] := rfl

theorem c20_shape_address_validHostname :
    Shapes.network_address_validHostname =
   ["if:(len(s)==0)", "return:false", "if:(s[]=='.')", "if:(len(s)>maxLength)", "return:false",
     "if:((len(element)<1)||(len(element)>63))", "return:false", "regexp.MatchString",
     "if:!valid", "if:(strings.Count(s,\"\")==0)", "return:true", "return:valid"] := rfl

theorem c20_shape_address_Address_ConnType :
    Shapes.network_address_Address_ConnType =
   ["if:!a.Valid()", "return:InvalidConnType", "return:connType(vals[])"] := rfl

theorem c20_shape_address_Address_NetworkAddress :
    Shapes.network_address_Address_NetworkAddress =
   ["if:!a.Valid()", "return:\"\"", "return:vals[]"] := rfl

theorem c20_shape_address_Address_Host :
    Shapes.network_address_Address_Host =
   ["a.NetworkAddress", "if:(na==\"\")", "return:\"\"", "a.NetworkAddress", "net.SplitHostPort",
     "if:(e!=nil)", "return:\"\"", "return:h"] := rfl

theorem c20_shape_address_Address_Port :
    Shapes.network_address_Address_Port =
   ["a.NetworkAddress", "if:(na==\"\")", "return:\"\"", "net.SplitHostPort", "if:(e!=nil)",
     "return:\"\"", "return:p"] := rfl

theorem c20_shape_address_Address_IsHostname :
    Shapes.network_address_Address_IsHostname =
   ["a.Host", "return:(validHostname(host)&&(net.ParseIP(host)==nil))"] := rfl

theorem c20_shape_address_NewAddress :
    Shapes.network_address_NewAddress =
   ["Address"] := rfl

theorem c20_shape_struct_GlobalBind :
    Shapes.network_struct_GlobalBind =
   ["net.SplitHostPort", "if:(err!=nil)", "return:\"\",xerrors.Errorf(\"\",err)",
     "return:(\"\"+port),nil"] := rfl

theorem c20_shape_tcp_getListenAddress :
    Shapes.network_tcp_getListenAddress =
   ["if:(listenAddr==\"\")", "return:GlobalBind(addr.NetworkAddress())", "addr.NetworkAddress",
     "net.SplitHostPort", "if:(err!=nil)", "return:\"\",xerrors.Errorf(\"\",err)",
     "if:((len(splitted)==1)&&(port!=\"\"))", "net.SplitHostPort", "if:(err!=nil)",
     "return:\"\",xerrors.Errorf(\"\",err)", "return:combined,nil", "net.SplitHostPort",
     "if:(err!=nil)", "return:\"\",xerrors.Errorf(\"\",err)",
     "if:((hostListen!=\"\")&&(portListen!=\"\"))", "return:listenAddr,nil",
     "return:\"\",xerrors.Errorf(\"\",addr.NetworkAddress(),listenAddr)"] := rfl

theorem c20_shape_client_getWSHostPort :
    Shapes.websocket_client_getWSHostPort =
   ["if:(si.URL!=\"\")", "url.Parse", "if:(err!=nil)", "return:\"\",fmt.Errorf(\"\",err)",
     "if:!url.IsAbs()", "return:\"\",errors.New(\"\")", "schemeToPort", "if:(err!=nil)",
     "return:\"\",fmt.Errorf(\"\",err)", "url.Port", "if:(portStr==\"\")", "else",
     "strconv.ParseUint", "if:(err!=nil)", "return:\"\",fmt.Errorf(\"\",err)", "uint16",
     "url.Hostname", "else", "Address.Port", "strconv.ParseUint", "if:(err!=nil)",
     "return:\"\",fmt.Errorf(\"\",err)", "if:((portRaw+1)>=(1<<portBitSize))",
     "return:\"\",fmt.Errorf(\"\",portRaw)", "uint16", "Address.Host", "if:global",
     "strconv.FormatUint", "return:net.JoinHostPort(hostname,portFormatted),nil"] := rfl


end C20

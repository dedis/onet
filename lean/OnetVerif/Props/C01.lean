import OnetVerif.Model.C01
import OnetVerif.Shapes
import OnetVerif.Proofs.C01
import OnetVerif.Proofs.C01Inst
import OnetVerif.Proofs.C01Net
import OnetVerif.Proofs.C01Send
/-! Property C01 — protocol messages reach exactly the addressed instance, exactly once.
Statements are for arbitrary schedules (`List Act`): unboundedly many messages, arrival threads,
tree requests/responses, local registrations and flushes, in any interleaving. -/
namespace C01

theorem inv_run (as : List Act) : Inv (run {} as) := run_skips.inv inv_step as {} inv_init

/-- **conservation** (never duplicated, never dropped): under every schedule, at every moment,
each arrived message is in exactly one place — handed to its instance, parked, or still carried by
its arrival thread. -/
theorem c01_conservation (as : List Act) (m : Nat) :
    let s := run {} as
    s.arrived.count m = s.delivered.count m + s.refused.count m + s.parked.count m + s.thr.countP (pre m) :=
  (inv_run as).cons m

/-- nothing can move any more: no flush pending, no request unanswered, every thread finished -/
def Quiescent (s : St) : Prop :=
  s.flushes = 0 ∧ s.reqs = 0 ∧ ∀ t ∈ s.thr, t.pc = .done

instance (s : St) : Decidable (Quiescent s) := by unfold Quiescent; infer_instance

theorem Inv.nothing_parked_of_present {s : St} (hI : Inv s) (hpr : s.tree = .present) (hf : s.flushes = 0)
    (ht : ∀ t ∈ s.thr, t.pc = .done) : s.parked = [] := by
  apply Classical.byContradiction; intro hne
  have h4 : s.thr.countP (at_ .recheck) = 0 := countP_eq_zero_of_done ht fun _ => rfl
  have := hI.pres hpr hne
  omega

theorem Inv.exactly_once {s : St} (hI : Inv s) (hq : Quiescent s) :
    s.parked = [] ∧ ∀ m, s.delivered.count m + s.refused.count m = s.arrived.count m := by
  obtain ⟨hf, hr, ht⟩ := hq
  have hz : ∀ p, (Pc.done == p) = false → s.thr.countP (at_ p) = 0 := fun p hp =>
    countP_eq_zero_of_done ht fun _ => hp
  have hp : s.parked = [] := by
    apply Classical.byContradiction; intro hne
    have h1 := hz .chk rfl; have h2 := hz .reg rfl; have h3 := hz .send rfl; have h4 := hz .recheck rfl
    cases hts : s.tree with
    | absent => have := hI.abst hts hne; omega
    | requested => have := hI.reqd hts; omega
    | present => exact hne (hI.nothing_parked_of_present hts hf ht)
  refine ⟨hp, fun m => ?_⟩
  have := hI.cons m
  rw [hp, countP_eq_zero_of_done ht fun _ => Bool.and_false _, List.count_nil] at this
  omega

/-- **exactly once**: for every schedule, once nothing can move, nothing is parked and every
arrived message has been handed over exactly as often as it arrived — whether or not the server
knew the tree before, however arrivals, the request, the response, local registrations and
flushes interleave. -/
theorem c01_quiescent_exactly_once (as : List Act) (hq : Quiescent (run {} as)) :
    (run {} as).parked = [] ∧
    ∀ m, (run {} as).delivered.count m + (run {} as).refused.count m = (run {} as).arrived.count m :=
  (inv_run as).exactly_once hq

/-- only messages whose token names no node of the tree are refused -/
theorem c01_refused_only_bad (as : List Act) : ∀ m ∈ (run {} as).refused, bad m = true :=
  run_skips.inv refused_only_bad_step as {} (fun _ h => nomatch h)

/-- **exactly once, for every message with a proper token**: at quiescence a message whose token
names a node of the tree was handed over exactly as often as it arrived — also when messages of
other runs that were parked with it are refused with an error. -/
theorem c01_quiescent_good_exactly_once (as : List Act) (hq : Quiescent (run {} as)) (m : Nat)
    (hm : bad m = false) : (run {} as).delivered.count m = (run {} as).arrived.count m := by
  have h := (c01_quiescent_exactly_once as hq).2 m
  have hz : (run {} as).refused.count m = 0 := by
    rw [List.count_eq_zero]
    intro hmem
    rw [c01_refused_only_bad as m hmem] at hm
    cases hm
  omega

/-- **no stranding**: whenever something is parked, some action is still enabled that leads to a
flush (a pending flush, an unanswered request, or a thread that has not finished). -/
theorem c01_no_strand (as : List Act) (h : (run {} as).parked ≠ []) : ¬ Quiescent (run {} as) :=
  fun hq => h (c01_quiescent_exactly_once as hq).1

/-! ### a run started on this server (`CreateProtocol` / `StartProtocol`) while messages of the tree are parked -/

/-- **a server that lists an instance of a run on the tree holds the tree** — under every schedule, whether the
instance was created by the first message of a peer's run or started on this server while the tree was unknown,
requested from a peer, or known. -/
theorem c01_listed_instance_has_tree (as : List Act) (h : (run {} as).insts ≠ []) : (run {} as).tree = .present :=
  run_skips.inv insts_tree_step as {} (fun h => absurd rfl h) h

/-- **starting a run registers the tree**, whatever the store held for it: the instance is listed, the tree is
stored — also when it was only *requested* — and a flush of the parked messages is spawned; nothing is parked,
handed over or dropped by the start itself. -/
theorem c01_local_start_registers (s : St) :
    ∃ s', step s .localStart = some s' ∧ localTok ∈ s'.insts ∧ s'.tree = .present ∧ s'.flushes = s.flushes + 1 ∧
      s'.parked = s.parked ∧ s'.delivered = s.delivered ∧ s'.arrived = s.arrived ∧ s'.thr = s.thr := by
  refine ⟨_, rfl, ?_, rfl, rfl, rfl, rfl, rfl, rfl⟩
  show localTok ∈ (if s.insts.contains localTok then s.insts else s.insts ++ [localTok])
  by_cases hc : s.insts.contains localTok = true
  · rw [if_pos hc]; simpa using hc
  · rw [if_neg hc]; simp

/-- **a server that runs an instance on the tree answers the tree requests of its peers**: the children of a
run started here hear of the tree from this server only (`handleRequestTree` answers iff the tree is stored);
holds from the start of the run until the tree is released, under every schedule. -/
theorem c01_started_run_answers_tree_requests (as : List Act) (h : localTok ∈ (run {} as).insts) :
    answersTreeRequest (run {} as) = true := by
  have := c01_listed_instance_has_tree as (List.ne_nil_of_mem h)
  simp [answersTreeRequest, this]

/-- **messages parked on a server that runs an instance on their tree do not wait for a peer's answer**: once the
flushes have run and the arrival threads have finished nothing is parked — however many tree requests are still
unanswered (`reqs` is not constrained). -/
theorem c01_started_run_needs_no_answer (as : List Act) (hi : (run {} as).insts ≠ [])
    (hf : (run {} as).flushes = 0) (ht : ∀ t ∈ (run {} as).thr, t.pc = .done) : (run {} as).parked = [] :=
  (inv_run as).nothing_parked_of_present (c01_listed_instance_has_tree as hi) hf ht

/-- non-vacuity: message 1 arrives for an unknown tree, is parked, its thread marks the tree requested and is about
to send the request; a run is started here; the flush hands the message over; the request leaves and stays
unanswered — nothing is parked, the peer's answer is not needed -/
def startWhileRequested : List Act :=
  [.arrive 1, .thread 0, .thread 0, .thread 0, .thread 0, .thread 0, .localStart, .flush, .thread 1, .thread 0]

example : (run {} (startWhileRequested.take 6)).tree = .requested ∧ (run {} (startWhileRequested.take 6)).parked = [1] ∧
    (run {} startWhileRequested).insts = [localTok, 1] ∧ (run {} startWhileRequested).delivered = [1] ∧
    (run {} startWhileRequested).parked = [] ∧ (run {} startWhileRequested).reqs = 1 ∧
    (run {} startWhileRequested).flushes = 0 ∧ (run {} startWhileRequested).thr.all (fun t => t.pc == .done) ∧
    answersTreeRequest (run {} startWhileRequested) = true := by decide +kernel

/-- the variant "register the tree of a new local instance only if the store does not know it" (`IsRegistered` is
true for a tree that is only requested): the start leaves the requested entry alone and spawns no flush -/
def stepOnce (s : St) : Act → Option St
  | .localStart =>
      if s.tree = .absent then step s .localStart
      else some { s with insts := (if s.insts.contains localTok then s.insts else s.insts ++ [localTok]) }
  | a => step s a

def runOnce (s : St) : List Act → St
  | [] => s
  | a :: as => match stepOnce s a with
      | some s' => runOnce s' as
      | none => runOnce s as

/-- negation witness for that variant: on the same schedule the server runs an instance on the tree, yet the tree
is not stored (a child's tree request gets no answer) and message 1 stays parked until the peer answers -/
theorem c01_register_once_variant_strands :
    let s := runOnce {} startWhileRequested
    s.insts = [localTok] ∧ s.tree = .requested ∧ answersTreeRequest s = false ∧ s.parked = [1] ∧ s.delivered = [] ∧
      s.flushes = 0 ∧ s.thr.all (fun t => t.pc == .done) := by
  decide +kernel

/-! ### the unrepaired code (pinned commit) strands a message

`stepThOld` is the thread step without the re-check.  Schedule: the message's thread looks the
tree up (unknown) — a local registration stores the tree and its flush runs (nothing parked yet) —
the thread parks the message and then finds the tree registered: it is done, nothing can move any
more, and the message stays parked for ever.  Reproduced on the real code before the repair
(`notes/probes/onet_overlay_c01_c02_c11_probe_test.go.txt`) and kept as a corpus schedule. -/
def stepOld (s : St) : Act → Option St
  | .thread i =>
      match s.thr[i]? with
      | some t => if t.pc = .done then none else some (stepThOld s i t)
      | none => none
  | a => step s a

def runOld (s : St) : List Act → St
  | [] => s
  | a :: as => match stepOld s a with
      | some s' => runOld s' as
      | none => runOld s as

def strandSchedule : List Act := [.arrive 7, .thread 0, .localSet, .flush, .thread 0, .thread 0]

theorem c01_old_code_strands :
    let s := runOld {} strandSchedule
    s.parked = [7] ∧ s.delivered = [] ∧ s.flushes = 0 ∧ s.reqs = 0 ∧ s.thr.all (fun t => t.pc == .done) := by
  decide +kernel

/-- the same schedule on the repaired model delivers the message -/
example : (run {} (strandSchedule ++ [.thread 0, .flush, .thread 1])).delivered = [7] ∧
    (run {} (strandSchedule ++ [.thread 0, .flush, .thread 1])).parked = [] := by decide +kernel

/-- the variant with a bounded parking list (`savePendingMsg` keeps at most `cap` messages and drops the oldest:
the seeded change C01r7-B with cap = 100) -/
def stepBounded (cap : Nat) (s : St) : Act → Option St
  | .thread i =>
      match s.thr[i]? with
      | some t =>
        if t.pc = .done then none
        else if t.pc = .park then
          some { s with parked := (if cap ≤ s.parked.length then s.parked.drop 1 else s.parked) ++ [t.m],
                        thr := s.thr.set i { t with pc := .recheck } }
        else some (stepTh s i t)
      | none => none
  | a => step s a

def runBounded (cap : Nat) (s : St) : List Act → St
  | [] => s
  | a :: as => match stepBounded cap s a with
      | some s' => runBounded cap s' as
      | none => runBounded cap s as

/-- three first-contact messages parked before the tree arrives, then the answer and the flush -/
def parkThree : List Act :=
  [.arrive 1, .arrive 2, .arrive 3, .thread 0, .thread 0, .thread 1, .thread 1, .thread 2, .thread 2,
   .thread 0, .thread 0, .thread 0, .thread 0, .thread 1, .thread 1, .thread 2, .thread 2,
   .respond, .flush, .thread 3, .thread 4, .thread 5]

/-- negation witness: with a bound of two parked messages the first one is lost for good — arrived, not handed
over, not parked, no thread, no flush and no request left (with the bound 100 of the seeded change the same
happens with 101 messages: harness class park-many) -/
theorem c01_bounded_parking_variant_loses :
    let s := runBounded 2 {} parkThree
    s.arrived = [1, 2, 3] ∧ s.delivered = [2, 3] ∧ s.parked = [] ∧ s.flushes = 0 ∧ s.reqs = 0 ∧
      s.thr.all (fun t => t.pc == .done) := by
  decide +kernel

/-- the same schedule on the model of the code hands over all three -/
example : (run {} parkThree).delivered = [1, 2, 3] ∧ Quiescent (run {} parkThree) := by decide +kernel

/-! ### non-vacuity: a quiescent run with a request/response round -/
example : Quiescent (run {} [.arrive 1, .arrive 2, .thread 0, .thread 1, .thread 0, .thread 0, .thread 0, .thread 0,
      .thread 0, .thread 1, .thread 1, .thread 1, .respond, .flush, .thread 2, .thread 3]) ∧
    (run {} [.arrive 1, .arrive 2, .thread 0, .thread 1, .thread 0, .thread 0, .thread 0, .thread 0,
      .thread 0, .thread 1, .thread 1, .thread 1, .respond, .flush, .thread 2, .thread 3]).delivered = [1, 2] := by
  decide +kernel

/-! ### sending side: which instances a send operation addresses -/
namespace Send

/-- **same run**: every envelope a send operation produces carries the sender's run (roster,
tree, protocol, service, round) and is sent to the server hosting the node its token names. -/
theorem c01_send_same_run_right_server (t : Tree) (host : Nat → Nat) (run me : Nat) (p : Pattern) :
    ∀ e ∈ envelopes t host run me p, e.2.run = run ∧ e.1 = host e.2.node := by
  intro e he
  simp only [envelopes, List.mem_map] at he
  obtain ⟨j, _, rfl⟩ := he
  exact ⟨rfl, rfl⟩

/-- **to children**: exactly the nodes whose parent is the sender, each once. -/
theorem c01_send_children_exact (t : Tree) (me j : Nat) :
    (j ∈ dests t me .children ↔ j < t.n ∧ t.parentOf j = some me) ∧ (dests t me .children).Nodup := by
  constructor
  · simp [dests, Tree.children]
  · exact (List.nodup_range).filter _

/-- **to parent**: the parent and nobody else; the root sends nothing. -/
theorem c01_send_parent_exact (t : Tree) (me : Nat) :
    dests t me .parent = (match t.parentOf me with | none => [] | some p => [p]) := rfl

/-- **broadcast**: every node of the tree except the sender, each exactly once. -/
theorem c01_send_bcast_exact (t : Tree) (me j : Nat) :
    (j ∈ dests t me .bcast ↔ j < t.n ∧ j ≠ me) ∧ (dests t me .bcast).Nodup := by
  constructor
  · simp [dests]
  · exact (List.nodup_range).filter _

/-- a broadcast by a node of the tree addresses one node fewer than the tree has -/
theorem c01_send_bcast_count (t : Tree) (me : Nat) (h : me < t.n) :
    (dests t me .bcast).length + 1 = t.n := by
  have h1 := List.length_filter_not_add (· == me) (List.range t.n)
  have h2 : ((List.range t.n).filter (· == me)).length = 1 := by
    rw [← List.countP_eq_length_filter, ← List.count_eq_countP, List.nodup_range.count, if_pos (List.mem_range.mpr h)]
  rw [h2, List.length_range] at h1
  exact h1

/-- a plain `SendTo` and a `Multicast` address exactly the nodes they were given -/
theorem c01_send_to_exact (t : Tree) (me j : Nat) (js : List Nat) :
    dests t me (.to j) = [j] ∧ dests t me (.multi js) = js := ⟨rfl, rfl⟩

/-- non-vacuity: root 0 with children 1, 2; node 1 with children 3, 4 -/
example : dests ⟨[none, some 0, some 0, some 1, some 1]⟩ 1 .children = [3, 4] ∧
    dests ⟨[none, some 0, some 0, some 1, some 1]⟩ 1 .parent = [0] ∧
    dests ⟨[none, some 0, some 0, some 1, some 1]⟩ 1 .bcast = [0, 2, 3, 4] ∧
    dests ⟨[none, some 0, some 0, some 1, some 1]⟩ 0 .parent = [] := by decide +kernel

/-! #### failing calls: who gets the message and what the operation returns (`Send.outcome`, `Send.sendx`) -/

/-- **every addressed node gets exactly one envelope or exactly one error** (`Broadcast`, `Multicast`,
`SendToChildrenInParallel`): the calls that succeed and the calls that fail partition the destination list — the nodes
that get the message are the destinations at the non-failing positions, in order; the number of errors returned is the
number of failing positions; together they are as many as the operation addresses. -/
theorem c01_sendx_all_partition (f : Fault) (ds : List Nat) :
    (outcome .all f ds).1 = ((ds.zipIdx.filter fun p => !f.fails p.2).map (·.1)) ∧
    (outcome .all f ds).2 = (ds.zipIdx.filter fun p => f.fails p.2).length ∧
    (outcome .all f ds).1.length + (outcome .all f ds).2 = ds.length ∧
    (outcome .all f ds).1.Sublist ds := by
  refine ⟨rfl, rfl, ?_, ?_⟩
  · simp only [outcome, okCalls, badCalls, List.length_map]
    have h := List.length_filter_not_add (fun p : Nat × Nat => f.fails p.2) ds.zipIdx
    simp only [List.length_zipIdx] at h
    exact h
  · simp only [outcome, okCalls]
    have h1 : ((ds.zipIdx.filter fun p => !f.fails p.2).map (·.1)).Sublist (ds.zipIdx.map (·.1)) :=
      (List.filter_sublist).map _
    rwa [List.zipIdx_map_fst] at h1

/-- **the sequential operations stop at the first error** (`SendToChildren`; `SendTo`, `SendToParent` with their one
destination): the nodes that get the message are a prefix of the destination list — everything before the first
failing call, nothing after it —, at most one error is returned, and none exactly when every destination got it. -/
theorem c01_sendx_seq_prefix (f : Fault) (ds : List Nat) :
    (outcome .seq f ds).1 <+: ds ∧ (outcome .seq f ds).2 ≤ 1 ∧
    ((outcome .seq f ds).2 = 0 ↔ (outcome .seq f ds).1 = ds) := by
  have hp : ((ds.zipIdx.takeWhile fun p => !f.fails p.2).map (·.1)) <+: ds := by
    have h1 : (ds.zipIdx.takeWhile fun p => !f.fails p.2) <+: ds.zipIdx := List.takeWhile_prefix _
    have h2 := h1.map (·.1)
    rwa [List.zipIdx_map_fst] at h2
  refine ⟨hp, ?_, ?_⟩
  · simp only [outcome]; split <;> omega
  · simp only [outcome]
    constructor
    · intro h
      split at h
      · rename_i hl; exact hp.eq_of_length hl
      · omega
    · intro h
      rw [h]; simp

/-- **a closing instance sends nothing**: every call fails — no node gets the message; the collecting operations
return one error per destination, the sequential ones one error (none when there is nothing to address: a leaf's
`SendToChildren`, the root's `SendToParent`). -/
theorem c01_sendx_closing (bad : List Nat) (ds : List Nat) :
    (outcome .all ⟨true, bad⟩ ds) = ([], ds.length) ∧
    (outcome .seq ⟨true, bad⟩ ds) = ([], if ds = [] then 0 else 1) :=
  outcome_of_fails_all (fun _ => rfl) ds

/-- **without a fault the operation reaches exactly its destinations and returns no error** — the nodes of
`c01_send_children_exact`, `c01_send_parent_exact`, `c01_send_bcast_exact`, `c01_send_to_exact` -/
theorem c01_sendx_no_fault (t : Tree) (me : Nat) (p : Pattern) (par : Bool) :
    sendx t me p par {} = (dests t me p, 0) :=
  outcome_of_fails_none _ (fun _ => rfl) _

/-- non-vacuity: node 1 of a five-node tree multicasts to 3, nil, 4, nil, 0: three nodes get it, two errors; its
`SendToChildren` with the second call failing reaches the first child only; the variant that goes on after an error
would reach [3, 5] (negation witness for "stops at the first error": the `all` outcome differs) -/
example : sendx ⟨[none, some 0, some 0, some 1, some 1]⟩ 1 (.multi [3, 9, 4, 9, 0]) false { bad := [1, 3] } = ([3, 4, 0], 2) ∧
    sendx ⟨[none, some 0, some 0, some 1, some 1, some 1]⟩ 1 .children false { bad := [1] } = ([3], 1) ∧
    sendx ⟨[none, some 0, some 0, some 1, some 1, some 1]⟩ 1 .children true { bad := [1] } = ([3, 5], 1) ∧
    sendx ⟨[none, some 0, some 0, some 1, some 1]⟩ 0 .bcast false { closing := true } = ([], 4) := by decide +kernel

end Send

/-! ### the `transmitMux` region: one instance per token, every message to that instance -/
namespace Inst

theorem inv_run (as : List Act) : Inv (run {} as) := run_skips.inv inv_step as {} inv_init

theorem Inv.handed_to_its_instance {s : St} (hI : Inv s) :
    ∀ p ∈ s.handed, (p.1 ∈ s.inst ∨ p.1 ∈ s.doneToks) ∧ p.1 ∈ s.created := by
  intro p hp
  rcases hI.handedInst p hp with h | h
  · exact ⟨.inl h, hI.instCreated _ h⟩
  · exact ⟨.inr h, (hI.doneCreated _ h).1⟩

theorem Inv.finished_not_relisted {s : St} (hI : Inv s) :
    ∀ tok ∈ s.doneToks, tok ∉ s.inst ∧ s.created.count tok = 1 := by
  intro tok h
  obtain ⟨h1, h2⟩ := hI.doneCreated tok h
  exact ⟨h2, by rw [hI.nodup.count, if_pos h1]⟩

theorem Inv.region_mutex {s : St} (hI : Inv s) : s.thr.countP atCtor ≤ 1 := by
  rw [hI.ctorCount]; split <;> omega

theorem Inv.region_exactly_once {s : St} (hI : Inv s) (hq : ∀ t ∈ s.thr, t.pc = .fin) (tok m : Nat) :
    s.handed.count (tok, m) + s.dropped.count (tok, m) = s.arrived.count (tok, m) := by
  have h0 : s.thr.countP (carries tok m) = 0 :=
    List.countP_eq_zero.mpr fun ⟨_, _, _⟩ ht h => (carries_iff.mp h).2 (hq _ ht)
  rw [hI.cons tok m, h0]; rfl

/-- **one instance per run and node**: under every schedule of arrivals — any number of messages
for the same not-yet-existing instance, from any number of peers, however long the constructor
takes — the protocol constructor is called at most once per token. -/
theorem c01_one_instance_per_token (as : List Act) : (run {} as).created.Nodup :=
  (inv_run as).nodup

/-- **to that instance and no other**: every hand-over goes to the registered instance of the
message's own token (which, by the previous theorem, is unique). -/
theorem c01_handed_to_its_instance (as : List Act) :
    ∀ p ∈ (run {} as).handed,
      (p.1 ∈ (run {} as).inst ∨ p.1 ∈ (run {} as).doneToks) ∧ p.1 ∈ (run {} as).created :=
  (inv_run as).handed_to_its_instance

/-- **a finished instance stays finished and single**: a token that was marked done is no longer
listed, and (with `c01_one_instance_per_token`) its constructor never runs again — whatever
messages for it were waiting for the lock when it finished. -/
theorem c01_finished_not_relisted (as : List Act) :
    ∀ tok ∈ (run {} as).doneToks, tok ∉ (run {} as).inst ∧ (run {} as).created.count tok = 1 :=
  (inv_run as).finished_not_relisted

/-- only late messages are dropped inside the region -/
theorem c01_dropped_only_finished (as : List Act) :
    ∀ p ∈ (run {} as).dropped, p.1 ∈ (run {} as).doneToks :=
  (inv_run as).droppedDone

/-- the region is a critical section: at most one thread is inside it -/
theorem c01_region_mutex (as : List Act) : (run {} as).thr.countP atCtor ≤ 1 :=
  (inv_run as).region_mutex

/-- **exactly once through the region**: once every arrival thread has finished, each message was
handed over exactly as often as it arrived. -/
theorem c01_region_exactly_once (as : List Act) (hq : ∀ t ∈ (run {} as).thr, t.pc = .fin) :
    ∀ tok m, (run {} as).handed.count (tok, m) + (run {} as).dropped.count (tok, m)
      = (run {} as).arrived.count (tok, m) :=
  (inv_run as).region_exactly_once hq

/-- non-vacuity: two peers race to create instance 7 while instance 9's constructor runs -/
example : (run {} [.arrive 9 1, .thread 0, .arrive 7 2, .arrive 7 3, .thread 1, .thread 2, .thread 0,
      .thread 1, .thread 2, .thread 1, .thread 2]).created = [9, 7] ∧
    (run {} [.arrive 9 1, .thread 0, .arrive 7 2, .arrive 7 3, .thread 1, .thread 2, .thread 0,
      .thread 1, .thread 2, .thread 1, .thread 2]).handed = [(9, 1), (7, 2), (7, 3)] := by decide +kernel

/-- non-vacuity: message 3 for instance 9 waits for the lock (instance 7 is being constructed) while 9
finishes: it is dropped, no second instance 9 -/
example : (run {} [.arrive 9 1, .thread 0, .thread 0, .arrive 7 2, .thread 1, .arrive 9 3, .thread 2,
      .done 9, .thread 1, .thread 2]).created = [9, 7] ∧
    (run {} [.arrive 9 1, .thread 0, .thread 0, .arrive 7 2, .thread 1, .arrive 9 3, .thread 2,
      .done 9, .thread 1, .thread 2]).dropped = [(9, 3)] ∧
    (run {} [.arrive 9 1, .thread 0, .thread 0, .arrive 7 2, .thread 1, .arrive 9 3, .thread 2,
      .done 9, .thread 1, .thread 2]).inst = [7] := by decide +kernel

end Inst

/-! ### between `SendToTreeNode` and the destination's dispatcher: routers and connection tables -/
namespace Net

theorem cons_run (as : List Act) : Cons (run {} as) := run_skips.inv cons_step as {} fun _ _ _ => rfl

/-- **conservation on the way between servers**: under every schedule of `Send` calls (any number,
concurrent, to any peers, to the server itself), dials, listener callbacks and receptions, each
envelope handed to `Send(a → b)` is in exactly one place: dispatched at `b` — carrying `a` as the
identity of its sender —, in flight towards `b`, or still in the hands of its `Send` call.  Never
duplicated, never dropped, never at a third server, however many connections the two servers have
with each other. -/
theorem c01_net_conservation (as : List Act) (a b v : Nat) :
    let s := run {} as
    s.sent.count (a, b, v) = s.dispatched.count (b, a, v) + s.wire.countP (flying a b v) + s.thr.countP (carrying a b v) :=
  cons_run as a b v

/-- nothing can move any more: every `Send` call has returned, no listener callback is pending, no
reception is enabled -/
def Quiescent (s : St) : Prop :=
  (∀ t ∈ s.thr, t.pc = .done) ∧ s.dialed = [] ∧ (∀ j, step s (.recv j) = none) ∧ ∀ j, step s (.recvJunk j) = none

theorem Quiescent.mem_table {s : St} (hq : Quiescent s) {k x y : Nat} (h : End s k x y) : k ∈ s.table x y := by
  obtain ⟨hdone, hdialed, _, _⟩ := hq
  rcases h with h | h | ⟨t, ht, _, _, e⟩
  · exact h
  · rw [hdialed] at h; cases h
  · rw [hdone t ht] at e; cases e

/-- the destination of an unread frame has the connection (`flightMate`), so the reception would be enabled -/
theorem Live.nothing_unread {s : St} (hL : Live s) (hq : Quiescent s) : s.wire = [] ∧ s.junk = [] := by
  have ⟨_, _, hrecv, hjunk⟩ := hq
  constructor
  · cases hw : s.wire with
    | nil => rfl
    | cons f rest =>
      have hf : s.wire[0]? = some f := by rw [hw]; rfl
      exact absurd (hq.mem_table (hL.flightMate f (.inl (List.mem_of_getElem? hf))))
        (step_recv_eq_none.mp (hrecv 0) f hf)
  · cases hw : s.junk with
    | nil => rfl
    | cons f rest =>
      have hf : s.junk[0]? = some f := by rw [hw]; rfl
      exact absurd (hq.mem_table (hL.flightMate f (.inr (List.mem_of_getElem? hf))))
        (step_recvJunk_eq_none.mp (hjunk 0) f hf)

theorem Cons.exactly_once {s : St} (hc : Cons s) (hw : s.wire = []) (hd : ∀ t ∈ s.thr, t.pc = .done) (a b v : Nat) :
    s.dispatched.count (b, a, v) = s.sent.count (a, b, v) := by
  have h0 : s.thr.countP (carrying a b v) = 0 :=
    List.countP_eq_zero.mpr fun t ht h => (carrying_iff.mp h).2 (hd t ht)
  rw [hc a b v, hw, h0]; rfl

theorem Cons.dispatched_was_sent {s : St} (hc : Cons s) {srv from_ v : Nat} (h : (srv, from_, v) ∈ s.dispatched) :
    (from_, srv, v) ∈ s.sent := by
  have hsum := hc from_ srv v
  have hpos : 0 < s.dispatched.count (srv, from_, v) := List.count_pos_iff.mpr h
  exact List.count_pos_iff.mp (by omega)

theorem run_table_prefix (s : St) (as : List Act) (x y : Nat) : s.table x y <+: (run s as).table x y :=
  run_skips.inv (P := fun s' => s.table x y <+: s'.table x y)
    (fun _ _ _ h hs => h.trans ((Step.of_eq hs).table_prefix x y)) as s List.prefix_rfl

theorem live_run (as : List Act) : Live (run {} as) := run_skips.inv live_step as {} live_init

/-- **nothing is stuck between two servers**: when no action is enabled any more, no envelope is in
flight — an envelope written on a connection always finds (or will find) the receive goroutine of
its destination, whichever side dialled the connection and in whatever order the two ends registered
it. -/
theorem c01_net_nothing_in_flight_at_quiescence (as : List Act) (hq : Quiescent (run {} as)) :
    (run {} as).wire = [] :=
  ((live_run as).nothing_unread hq).1

/-- **exactly once, at the addressed server, with the sender's identity**: once nothing can move,
every envelope handed to `Send(a → b)` has been dispatched at `b` exactly as often as it was sent,
with `a` attached as the sender — for every number of concurrent senders, connections per pair of
servers (racing first sends, simultaneous opens) and self-sends. -/
theorem c01_net_quiescent_exactly_once (as : List Act) (hq : Quiescent (run {} as)) (a b v : Nat) :
    (run {} as).dispatched.count (b, a, v) = (run {} as).sent.count (a, b, v) :=
  (cons_run as).exactly_once (c01_net_nothing_in_flight_at_quiescence as hq) hq.1 a b v

/-- **and nowhere else**: whatever a server's dispatcher is handed was sent to that server, by the
server whose identity is attached (at every moment, not only at quiescence) -/
theorem c01_net_dispatched_was_sent (as : List Act) (srv from_ v : Nat)
    (h : (srv, from_, v) ∈ (run {} as).dispatched) : (from_, srv, v) ∈ (run {} as).sent :=
  (cons_run as).dispatched_was_sent h

/-- **the first connection stays the first**: once server `x` has a connection with peer `y`, every
later `Send(x → y)` uses that same connection, whatever else is dialled, accepted or registered
afterwards (tables are only appended to; nothing fails, so nothing is removed) -/
theorem c01_net_first_connection_stable (as bs : List Act) (x y k : Nat)
    (h : ((run {} as).table x y).head? = some k) : ((run (run {} as) bs).table x y).head? = some k := by
  obtain ⟨l, hl⟩ := run_table_prefix (run {} as) bs x y
  rw [← hl, List.head?_append, h]; rfl

/-- non-vacuity: servers 1 and 2 open connections to each other at the same time (two connections, both
tables hold two entries), a third send uses the first one; server 1 also sends to itself; everything
is dispatched once, at the right server, and the run is quiescent -/
def openBoth : List Act :=
  [.send 1 2 10, .send 2 1 20, .thread 0, .thread 1, .thread 0, .thread 1, .thread 0, .thread 1, .thread 0, .thread 1,
   .accept 0, .accept 0, .recv 0, .recv 0, .send 1 2 11, .thread 2, .thread 2, .recv 0, .send 1 1 12, .thread 3]

example : (run {} openBoth).dispatched = [(2, 1, 10), (1, 2, 20), (2, 1, 11), (1, 1, 12)] ∧
    (run {} openBoth).table 1 2 = [0, 1] ∧ (run {} openBoth).table 2 1 = [1, 0] ∧ (run {} openBoth).wire = [] ∧
    (run {} openBoth).dialed = [] ∧ (run {} openBoth).thr.all (fun t => t.pc == .done) := by decide +kernel

example : Quiescent (run {} openBoth) := by
  refine ⟨by decide +kernel, by decide +kernel, fun j => ?_, fun j => ?_⟩
  · have : (run {} openBoth).wire = [] := by decide +kernel
    exact step_recv_eq_none.mpr fun f hf => by rw [this] at hf; cases hf
  · have : (run {} openBoth).junk = [] := by decide +kernel
    exact step_recvJunk_eq_none.mpr fun f hf => by rw [this] at hf; cases hf

/-- two concurrent first sends both dial: two connections 1 → 2, later sends use the first -/
example : (run {} [.send 1 2 10, .send 1 2 11, .thread 0, .thread 1, .thread 0, .thread 1, .thread 0, .thread 1,
      .thread 0, .thread 1, .accept 0, .accept 0, .recv 0, .recv 0]).table 1 2 = [0, 1] := by decide +kernel

/-! #### frames the destination cannot decode (`handleConn`: "Temporary error, continue") -/

/-- **a frame that cannot be decoded is read and dropped, nothing waits behind it**: at quiescence no such frame is
left unread either — its connection has (or gets) its receive goroutine like every other -/
theorem c01_net_junk_read_at_quiescence (as : List Act) (hq : Quiescent (run {} as)) : (run {} as).junk = [] :=
  ((live_run as).nothing_unread hq).2

/-- **a well-formed frame the destination cannot decode is harmless**: under every schedule, whatever is written
on whichever connection and read whenever, the connection tables, the envelopes in flight, the `Send` calls, what
has been dispatched where and with which identity — everything but the undecodable frames themselves — are exactly
what they are in the same schedule without those frames.  In particular no connection is dropped and nothing queued
behind such a frame is lost. -/
theorem c01_net_undecodable_frame_harmless (as : List Act) (s : St) :
    noJunk (run s as) = run (noJunk s) (as.filter (fun a => !isJunk a)) := by
  induction as generalizing s with
  | nil => rfl
  | cons a as ih =>
    rw [run_skips.cons, ih]
    cases ha : isJunk a
    · -- kept: commutes with `noJunk`
      rw [List.filter_cons_of_pos (by rw [ha]; rfl), run_skips.cons, step_noJunk s a ha]
      cases step s a <;> rfl
    · -- erased: changes `junk` only
      rw [List.filter_cons_of_neg (by rw [ha]; exact Bool.false_ne_true)]
      cases hs : step s a with
      | none => rfl
      | some s' => exact congrArg (run · _) (step_junk_only s s' a ha hs)

/-- what the dispatchers saw and the connection tables do not depend on the undecodable frames -/
theorem c01_net_undecodable_frame_dispatch (as : List Act) :
    (run {} as).dispatched = (run {} (as.filter (fun a => !isJunk a))).dispatched ∧
    (run {} as).table = (run {} (as.filter (fun a => !isJunk a))).table ∧
    (run {} as).wire = (run {} (as.filter (fun a => !isJunk a))).wire := by
  have h := c01_net_undecodable_frame_harmless as {}
  exact ⟨(congrArg St.dispatched h :), (congrArg St.table h :), (congrArg St.wire h :)⟩

/-- non-vacuity: 10 is in flight from server 1 to server 2, an undecodable frame and then 11 are written behind it on
the same connection; everything is read: 10 and 11 are dispatched at server 2, the connection is still the one both
tables hold, nothing is left -/
def junkBetween : List Act :=
  [.send 1 2 10, .thread 0, .thread 0, .thread 0, .thread 0, .junk 1 2, .send 1 2 11, .thread 1, .thread 1,
   .accept 0, .recv 0, .recvJunk 0, .recv 0]

example : (run {} (junkBetween.take 9)).junk = [⟨0, 1, 2, 0⟩] ∧ (run {} (junkBetween.take 9)).wire = [⟨0, 1, 2, 10⟩, ⟨0, 1, 2, 11⟩] ∧
    (run {} junkBetween).dispatched = [(2, 1, 10), (2, 1, 11)] ∧ (run {} junkBetween).table 1 2 = [0] ∧
    (run {} junkBetween).table 2 1 = [0] ∧ (run {} junkBetween).wire = [] ∧ (run {} junkBetween).junk = [] := by decide +kernel

/-! #### the destination's dispatcher and `Overlay.Process` -/

/-- **only protocol messages reach `TransmitMsg`, and every protocol message does**: the kind of the
envelope alone decides; control messages, configuration messages and service messages never enter
the instance path, whatever services are registered -/
theorem c01_route_proto (services : List Nat) (k : Kind) :
    route services k = .transmitMsg ↔ k = .proto := by
  cases k with
  | service t =>
    simp only [route]; split <;> simp
  | _ => simp [route]

/-- a service message is handed to the service manager iff some service registered its type -/
theorem c01_route_service (services : List Nat) (t : Nat) :
    route services (.service t) = (if t ∈ services then .serviceManager t else .noProcessor) := rfl

/-- **unchanged content, unchanged tokens**: what `Overlay.Process` recovers from the wire form
`SendToTreeNode` produced is the payload that was sent, the sender's token, and the sender's token
with only the node replaced by the destination node — given that the codec round-trips (C03). -/
theorem c01_wrap_unwrap (enc : Nat → List Nat) (dec : List Nat → Option Nat) (hcodec : ∀ m, dec (enc m) = some m)
    (run me dstNode msg : Nat) :
    unwrap dec (wrap enc run me dstNode msg) = some ((run, me), (run, dstNode), msg) := by
  simp [unwrap, wrap, hcodec]

/-! #### a send operation over the network: the two models composed -/

/-- **from the send operation to the destination servers' dispatchers**: let the `Send` calls of a
network schedule be exactly the envelopes one send operation of node `me` in run `r` produces
(`Send.envelopes`: token with only the node changed, addressed to the node's host; `code` is any
injective naming of tokens as envelope contents).  Once the network is quiescent, the envelope for
node `j` has been dispatched at `host j` exactly as often as the operation addresses `j` — once for
children / parent / broadcast (`c01_send_children_exact`, `…bcast_exact`) — carrying the sender's
server as identity, and at no other server. -/
theorem c01_send_over_net (t : Send.Tree) (host : Nat → Nat) (r me : Nat) (p : Send.Pattern)
    (code : Send.Token → Nat) (hcode : ∀ x y, code x = code y → x = y)
    (as : List Act) (hq : Quiescent (run {} as))
    (hsent : ∀ a b v, (run {} as).sent.count (a, b, v) =
      ((Send.envelopes t host r me p).map (fun e => (host me, e.1, code e.2))).count (a, b, v))
    (srv j : Nat) :
    (run {} as).dispatched.count (srv, host me, code ⟨r, j⟩) = if srv = host j then (Send.dests t me p).count j else 0 := by
  rw [c01_net_quiescent_exactly_once as hq, hsent]
  simp only [Send.envelopes, List.map_map]
  exact Send.count_map_envelopes (Send.dests t me p) host r (host me) srv code hcode j

end Net

/-! ### the code regions the model stands for
Regenerated from /repo's source on every run (`harness/cmd/astfacts` → `OnetVerif/Shapes.lean`): the
calls that matter for synchronisation and data flow, the lock regions and (for decision logic) the
conditions, in source order.  A re-ordering, a dropped call or a changed condition breaks these
obligations even when no sampled input or schedule shows a difference; the check then searches for
a failing input. -/
theorem c01_shape_Overlay_TransmitMsg :
    Shapes.overlay_Overlay_TransmitMsg =
   ["treeStorage.getAndRefresh", "verifPoint:tm.miss", "o.requestTree", "verifPoint:tm.found",
     "transmitMux.Lock", "defer:transmitMux.Unlock", "instancesLock.Lock", "To.ID", "To.ID",
     "o.cleanTreeStorage", "instancesLock.Unlock", "o.TreeNodeFromTree",
     "instancesLock.Lock", "o.cleanTreeStorage", "instancesLock.Unlock",
     "o.newTreeNodeInstanceFromToken", "treeStorage.Set", "o.hasPendingMsg",
     "o.checkPendingMessages", "To.ID", "o.getConfig",
     "serviceManager.newProtocol", "instancesLock.Lock", "o.nodeDelete", "instancesLock.Unlock",
     "instancesLock.Lock", "o.nodeDelete", "instancesLock.Unlock",
     "go{", "defer{", "tni.Token", "ServiceFactory.Name", "}", "pi.Dispatch", "tni.Token",
     "ServiceFactory.Name", "}", "o.RegisterProtocolInstance", "pi.ProcessProtocolMsg"] := rfl

theorem c01_shape_Overlay_requestTree :
    Shapes.overlay_Overlay_requestTree =
   ["o.savePendingMsg", "verifPoint:rt.parked", "treeStorage.Get", "if:(tree!=nil)",
     "o.checkPendingMessages", "return:nil", "verifPoint:rt.recheck-miss", "io.Wrap",
     "if:(err!=nil)", "return:xerrors.Errorf(\"\",err)",
     "if:o.treeStorage.IsRegistered(onetMsg.To.TreeID)", "return:nil",
     "verifPoint:rt.unregistered", "treeStorage.Register", "verifPoint:rt.registered",
     "server.Send", "if:(err!=nil)", "treeStorage.Unregister", "return:xerrors.Errorf(\"\",err)",
     "return:nil"] := rfl

theorem c01_shape_Overlay_checkPendingMessages :
    Shapes.overlay_Overlay_checkPendingMessages =
   ["go{", "verifPoint:cpm.start", "pendingMsgLock.Lock", "ID.Equal", "pendingMsgLock.Unlock",
     "o.TransmitMsg", "verifPoint:cpm.done", "}"] := rfl

theorem c01_shape_Overlay_savePendingMsg :
    Shapes.overlay_Overlay_savePendingMsg =
   ["pendingMsgLock.Lock", "pendingMsgLock.Unlock"] := rfl

theorem c01_shape_Overlay_RegisterTree :
    Shapes.overlay_Overlay_RegisterTree =
   ["treeStorage.Set", "o.checkPendingMessages"] := rfl

theorem c01_shape_Overlay_handleSendTree :
    Shapes.overlay_Overlay_handleSendTree =
   ["if:((rt.TreeMarshal==nil)||rt.TreeMarshal.TreeID.IsNil())", "return:",
     "if:(rt.Roster==nil)", "return:", "if:!o.treeStorage.IsRequested(rt.TreeMarshal.TreeID)",
     "return:", "TreeMarshal.MakeTree", "if:(err!=nil)", "return:", "treeStorage.setIfMissing",
     "if:!stored", "return:", "o.checkPendingMessages"] := rfl

theorem c01_shape_TreeNodeInstance_SendTo :
    Shapes.treenode_TreeNodeInstance_SendTo =
   ["if:(to==nil)", "return:xerrors.New(\"\")", "msgDispatchQueueMutex.Lock", "if:n.closing",
     "msgDispatchQueueMutex.Unlock", "return:xerrors.New(\"\")", "msgDispatchQueueMutex.Unlock",
     "configMut.Lock", "if:!n.sentTo[]", "configMut.Unlock", "overlay.SendToTreeNode", "tx.add",
     "if:(err!=nil)", "return:xerrors.Errorf(\"\",err)", "return:nil"] := rfl

theorem c01_shape_TreeNodeInstance_Broadcast :
    Shapes.treenode_TreeNodeInstance_Broadcast =
   ["n.List", "n.TreeNode", "node.Equal", "n.SendTo"] := rfl

theorem c01_shape_TreeNodeInstance_Multicast :
    Shapes.treenode_TreeNodeInstance_Multicast =
   ["n.SendTo"] := rfl

theorem c01_shape_TreeNodeInstance_SendToParent :
    Shapes.treenode_TreeNodeInstance_SendToParent =
   ["if:n.IsRoot()", "return:nil", "n.Parent", "n.SendTo", "if:(err!=nil)",
     "return:xerrors.Errorf(\"\",err)", "return:nil"] := rfl

theorem c01_shape_TreeNodeInstance_SendToChildren :
    Shapes.treenode_TreeNodeInstance_SendToChildren =
   ["if:n.IsLeaf()", "return:nil", "n.Children", "n.SendTo", "if:(err!=nil)",
     "return:xerrors.Errorf(\"\",err)", "return:nil"] := rfl

theorem c01_shape_TreeNodeInstance_SendToChildrenInParallel :
    Shapes.treenode_TreeNodeInstance_SendToChildrenInParallel =
   ["n.IsLeaf", "n.Children", "node.Name", "wg.Add", "go{", "n.SendTo", "eMut.Lock",
     "eMut.Unlock", "wg.Done", "}", "wg.Wait"] := rfl

theorem c01_shape_Overlay_SendToTreeNode :
    Shapes.overlay_Overlay_SendToTreeNode =
   ["from.ChangeTreeNodeID", "if:(c!=nil)", "tokenTo.ID", "io.Wrap", "if:(err!=nil)",
     "return:0,xerrors.Errorf(\"\",err)", "if:(confMsg!=nil)", "server.Send", "else",
     "server.Send", "if:(err!=nil)", "return:sentLen,err"] := rfl

theorem c01_shape_router_Router_Send :
    Shapes.network_router_Router_Send =
   ["msgTraffic.updateTx", "ServerIdentity.GetID", "e.GetID", "GetID().Equal", "MessageType",
     "r.Dispatch", "Marshal", "e.GetID", "r.connection", "r.connect", "c.Send", "r.connect",
     "c.Send"] := rfl

theorem c01_shape_router_Router_connect :
    Shapes.network_router_Router_connect =
   ["host.Connect", "c.Send", "c.Close", "verifC10Point", "r.registerConnection", "c.Close",
     "verifC10Point", "r.launchHandleRoutine"] := rfl

theorem c01_shape_router_Router_registerConnection :
    Shapes.network_router_Router_registerConnection =
   ["r.Lock", "defer:r.Unlock", "if:r.isClosed", "return:xerrors.Errorf(\"\",ErrClosed)",
     "remote.GetID", "if:okc", "remote.GetID", "remote.GetID", "return:nil"] := rfl

theorem c01_shape_router_Router_connection :
    Shapes.network_router_Router_connection =
   ["r.Lock", "defer:r.Unlock", "if:(len(arr)==0)", "return:nil", "return:arr[]"] := rfl

theorem c01_shape_Overlay_Process :
    Shapes.overlay_Overlay_Process =
   ["MsgType.Equal", "o.handleConfigMessage", "protoIO.getByPacketType", "io.Unwrap",
     "o.handleRequestTree", "o.handleSendTree", "o.handleSendTreeMarshal",
     "o.handleRequestRoster", "o.handleSendRoster", "network.MessageType", "o.TransmitMsg"] := rfl

end C01

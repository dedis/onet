import OnetVerif.Model.C18
import OnetVerif.Proofs.C18Lemmas
import OnetVerif.Proofs.C18Text
import OnetVerif.Proofs.C18Slices
import OnetVerif.Shapes
/-! Property C18 — configuration files round-trip and always yield the same identities.

A Go map is the list of its entries in iteration order; "whatever the iteration order" is a statement about all
permutations.  The statements use `fillDesc` (Proofs/C18Lemmas), `RegKeysOK`, `NotBad` (Proofs/C18Text), and `KeyOK`,
`WFRoot`, `WFTable`, `GroupTextOK`, `normServer`, `normPriv` (Proofs/C18Toml). -/
namespace C18

/-- two decoded server entries that differ at most in the iteration order of their `Services` map -/
def SameUpToOrder (s s' : ServerToml) : Prop :=
  s.address = s'.address ∧ s.suite = s'.suite ∧ s.pub = s'.pub ∧ s.description = s'.description ∧
    s.url = s'.url ∧ s.services.Perm s'.services

/-- element-wise relation of two lists of the same length -/
inductive Forall2 {α β : Type} (R : α → β → Prop) : List α → List β → Prop
  | nil : Forall2 R [] []
  | cons {a b l l'} : R a b → Forall2 R l l' → Forall2 R (a :: l) (b :: l')

/-- the keys of a map are distinct -/
def DistinctNames (l : List SvcCfg) : Prop := (l.map (·.name)).Nodup

theorem distinctNames_iff {l : List SvcCfg} : DistinctNames l ↔ (l.map (·.name)).Nodup := Iff.rfl

/-- **hex round trip**: a key of `l > 0` bytes written by `hex.EncodeToString` is read back by
`getHex(_, l)` as exactly those bytes — whatever follows it in the text — and what `getHex`
returns always has the requested length. -/
theorem c18_hex_roundtrip (b : Bytes) (junk : Str) (hne : b ≠ []) (hb : ∀ x ∈ b, x < 256) :
    getHex (hexEncode b ++ junk) b.length = some b ∧
    (∀ (s : Str) (l : Nat) (b' : Bytes), getHex s l = some b' → b'.length = l ∧ ∀ x ∈ b', x < 256) :=
  ⟨getHex_hexEncode junk hne hb, fun _ _ _ h => getHex_some h⟩

theorem toServerIdentity_order {suites : List Suite} {reg : List (Str × Suite)} {s s' : ServerToml}
    (h : SameUpToOrder s s') (hn : DistinctNames s.services) :
    toServerIdentity suites reg s = toServerIdentity suites reg s' := by
  obtain ⟨h1, h2, h3, h4, h5, h6⟩ := h
  unfold toServerIdentity
  rw [← h1, ← h2, ← h3, ← h4, ← h5, ← parseServices_perm h6 (distinctNames_iff.mp hn)]

/-- **the identities read from a group file, hence the roster id, do not depend on the iteration
order of any `Services` map** (nor on the order of the service entries in the file): two decoded
structures that agree up to the order of the map entries give the same result — the same list of
identities with the same keys, addresses, URLs, descriptions and service identities in the same
order, the same error, or the same panic. -/
theorem c18_order_independent (suites : List Suite) (reg : List (Str × Suite))
    (cfg cfg' : List ServerToml) (h : Forall2 SameUpToOrder cfg cfg')
    (hn : ∀ s ∈ cfg, DistinctNames s.services) :
    readGroup suites reg cfg = readGroup suites reg cfg' := by
  have hs : readServers suites reg cfg = readServers suites reg cfg' := by
    induction h with
    | nil => rfl
    | @cons a b l l' hh _ ih =>
      simp only [readServers]
      rw [toServerIdentity_order hh (hn a (by simp)), ih (fun s hs => hn s (by simp [hs]))]
  unfold readGroup
  rw [hs]

/-- in particular the roster id (its SHA-256 pre-image) is the same -/
theorem c18_roster_id_order_independent (suites : List Suite) (reg : List (Str × Suite))
    (cfg cfg' : List ServerToml) (h : Forall2 SameUpToOrder cfg cfg')
    (hn : ∀ s ∈ cfg, DistinctNames s.services) (g g' : List ServerId)
    (hg : readGroup suites reg cfg = .ok g) (hg' : readGroup suites reg cfg' = .ok g') :
    rosterPre g = rosterPre g' := by
  rw [c18_order_independent suites reg cfg cfg' h hn, hg'] at hg
  simp only [Res.ok.injEq] at hg
  rw [hg]

/-- the same for a private configuration -/
theorem c18_private_order_independent (suites : List Suite) (reg : List (Str × Suite))
    (hc : PrivCfg) (svcs' : List SvcCfg) (hp : hc.services.Perm svcs') (hn : DistinctNames hc.services) :
    getServerIdentity suites reg (loadCothority { hc with services := svcs' }) =
      getServerIdentity suites reg (loadCothority hc) :=
  getServerIdentity_services (loadCothority hc) svcs' (parseServices_perm hp (distinctNames_iff.mp hn)).symm

/-- the service identities of every server read are sorted by service name -/
theorem c18_services_sorted (reg : List (Str × Suite)) (entries : List SvcCfg) (svcs : List SvcId)
    (h : parseServices reg entries = some svcs) : svcs.Pairwise (fun a b => a.name ≤ b.name) := by
  cases parseServices_some h
  exact (sortServices_sorted _).imp of_decide_eq_true

/-- the full statement for the code *before* the repair (identities collected in map order) -/
def C18_order_full_old : Prop :=
  ∀ (reg : List (Str × Suite)) (l l' : List SvcCfg), l.Perm l' → DistinctNames l →
    parseServicesOld reg l = parseServicesOld reg l'

/-- **negation witness**: two services `a`, `b`, two iteration orders, two different slices (and the
roster id covers the service keys in slice order) -/
theorem c18_order_full_old_fails : ¬ C18_order_full_old := by
  intro hall
  let S : Suite := { name := [69], psize := 1, ssize := 1, ptype := 0 }
  let ea : SvcCfg := { name := [97], suite := [69], pub := { s := [48, 49], ok := true }, priv := [] }
  let eb : SvcCfg := { name := [98], suite := [69], pub := { s := [48, 50], ok := true }, priv := [] }
  have := hall [([97], S), ([98], S)] [ea, eb] [eb, ea] (List.Perm.swap eb ea []) (distinctNames_iff.mpr (by decide))
  revert this
  decide +kernel

/-- on the repaired code the same two orders give the same slice (non-vacuity of the premises of
`parseServices_perm`: a permutation with distinct names) -/
example :
    let S : Suite := { name := [69], psize := 1, ssize := 1, ptype := 0 }
    let ea : SvcCfg := { name := [97], suite := [69], pub := { s := [48, 49], ok := true }, priv := [] }
    let eb : SvcCfg := { name := [98], suite := [69], pub := { s := [48, 50], ok := true }, priv := [] }
    parseServices [([97], S), ([98], S)] [ea, eb] = parseServices [([97], S), ([98], S)] [eb, ea] :=
  parseServices_perm (List.Perm.swap _ _ []) (by decide)

/-- **writing out what was read and reading it again yields the same identities and the same roster
id**: a group read from a file whose servers all use suite `S`, written with `Group.Toml(S)` /
`GroupToml.String` and read again, gives exactly the identities of the first read — same keys,
addresses, URLs, service identities in the same order — with the one documented difference that an
empty description comes back as the placeholder text; the roster-id pre-image is unchanged and a
second round changes nothing any more.  Hypotheses: the written suite name finds the suite again,
key sizes are positive, group files carry no private service keys; the TOML library returns the
structure it was given (modelling assumption). -/
theorem c18_write_read_same (suites : List Suite) (reg : List (Str × Suite)) (S : Suite)
    (hS : findSuite suites (defaultSuite S.name) = some S) (hpos : 0 < S.psize)
    (hreg : ∀ e ∈ reg, 0 < e.2.psize)
    (cfg : List ServerToml) (g : List ServerId)
    (hsuite : ∀ s ∈ cfg, findSuite suites (defaultSuite s.suite) = some S)
    (hpriv : ∀ s ∈ cfg, ∀ c ∈ s.services, c.priv = [])
    (h : readGroup suites reg cfg = .ok g) :
    ∃ ts, writeGroup S reg g = some ts ∧
      readGroup suites reg ts = .ok (g.map fillDesc) ∧
      rosterPre (g.map fillDesc) = rosterPre g ∧
      (∀ si ∈ g, si.description ≠ [] → fillDesc si = si) ∧
      (g.map fillDesc).map fillDesc = g.map fillDesc := by
  obtain ⟨hr, hst⟩ := readGroup_ok h
  obtain ⟨hw, hrd⟩ := write_read_servers hS hpos (fun si hsi => (groupIds_of_read hreg hsuite hpriv hr si hsi).1) hst
  refine ⟨_, hw, hrd, rosterPre_fillDesc g, ?_, ?_⟩
  · intro si _ hd
    unfold fillDesc
    rw [if_neg hd]
  · rw [List.map_map]
    exact List.map_congr_left fun si _ => fillDesc_idem si

/-- saving a private configuration that was loaded and loading it again (with the `Services` map
in any iteration order) yields the same server identity -/
theorem c18_private_write_read_same (suites : List Suite) (reg : List (Str × Suite))
    (hc : PrivCfg) (svcs' : List SvcCfg) (hp : hc.services.Perm svcs') (hn : DistinctNames hc.services) :
    getServerIdentity suites reg (loadCothority { loadCothority hc with services := svcs' }) =
      getServerIdentity suites reg (loadCothority hc) := by
  rw [c18_private_order_independent suites reg (loadCothority hc) svcs' hp hn, loadCothority_idem]

/-- the hypotheses of `c18_write_read_same` can be met -/
example :
    let S : Suite := { name := ed25519, psize := 1, ssize := 1, ptype := 0 }
    let cfg : List ServerToml :=
      [{ address := [], suite := [], pub := { s := [48, 49], ok := true }, description := [], url := [],
         services := [] }]
    findSuite [S] (defaultSuite S.name) = some S ∧ 0 < S.psize ∧
    (∀ s ∈ cfg, findSuite [S] (defaultSuite s.suite) = some S) ∧
    (∀ s ∈ cfg, ∀ c ∈ s.services, c.priv = []) ∧
    readGroup [S] [] cfg = .ok [{ pub := [1], ptype := 0, services := [], address := [],
                                  description := [], url := [], priv := none }] := by
  decide +kernel

/-- **the registry history does not matter**: whatever services were registered or unregistered
between two reads — as long as every service *named in the file* is registered with the same suite
as before — a group file reads as the same identities (hence the same roster id) -/
theorem c18_registry_change_irrelevant (suites : List Suite) (reg reg' : List (Str × Suite))
    (cfg : List ServerToml)
    (h : ∀ s ∈ cfg, ∀ c ∈ s.services, regSuite reg' c.name = regSuite reg c.name) :
    readGroup suites reg' cfg = readGroup suites reg cfg := by
  have hs : readServers suites reg' cfg = readServers suites reg cfg := by
    induction cfg with
    | nil => rfl
    | cons s r ih =>
      have h1 : toServerIdentity suites reg' s = toServerIdentity suites reg s := by
        unfold toServerIdentity
        rw [parseServices_congr_reg s.services (h s (by simp))]
      simp only [readServers, h1, ih (fun x hx => h x (by simp [hx]))]
  unfold readGroup
  rw [hs]

/-- in particular for one `Register` / `Unregister` of a service the file does not mention, and the
same for a private configuration -/
theorem c18_unrelated_service_irrelevant (suites : List Suite) (reg : List (Str × Suite)) (n : Str) (S : Suite)
    (cfg : List ServerToml) (hc : PrivCfg)
    (h : ∀ s ∈ cfg, ∀ c ∈ s.services, c.name ≠ n) (hp : ∀ c ∈ hc.services, c.name ≠ n) :
    readGroup suites (regAdd reg n S) cfg = readGroup suites reg cfg ∧
    readGroup suites (regDel reg n) cfg = readGroup suites reg cfg ∧
    getServerIdentity suites (regAdd reg n S) (loadCothority hc) = getServerIdentity suites reg (loadCothority hc) ∧
    getServerIdentity suites (regDel reg n) (loadCothority hc) = getServerIdentity suites reg (loadCothority hc) := by
  refine ⟨?_, ?_, ?_, ?_⟩
  · exact c18_registry_change_irrelevant _ _ _ _ fun s hs c hc' => regSuite_regAdd_other _ _ _ _ (h s hs c hc')
  · exact c18_registry_change_irrelevant _ _ _ _ fun s hs c hc' => regSuite_regDel_other _ _ _ (h s hs c hc')
  · exact getServerIdentity_services (loadCothority hc) hc.services
      (parseServices_congr_reg hc.services fun c hc' => regSuite_regAdd_other _ _ _ _ (hp c hc'))
  · exact getServerIdentity_services (loadCothority hc) hc.services
      (parseServices_congr_reg hc.services fun c hc' => regSuite_regDel_other _ _ _ (hp c hc'))

/-! ### the text of the files: what the writer emits is what the reader reads
(`Model/C18Toml.lean`: the encoder of BurntSushi/toml v0.3.1 for `GroupToml` / `CothorityConfig`
and the reader for that subset; lemmas in `Proofs/C18Toml.lean`, `Proofs/C18Text.lean`) -/

/-- **every string survives the writer's quoting** — descriptions, URLs, addresses, key texts with
quotes, backslashes, line breaks, tabs, control characters, any bytes: the reader, started behind
the opening quote of what `writeQuoted` wrote, returns exactly the string and stops behind the
closing quote -/
theorem c18_toml_string_roundtrip (s acc rest : Str) :
    Toml.unq (s.flatMap Toml.esc ++ 34 :: rest) acc = .ok (acc ++ s, rest) :=
  Toml.unq_quote s acc rest

/-- the full statement for table names (service names are the keys of the `Services` tables) … -/
def C18_key_full : Prop :=
  ∀ k : Str, k ≠ [] → Toml.pathComp (Toml.quoteKey k ++ [93]) = .ok (k, [93])

/-- … **fails**: `Key.maybeQuoted` escapes only `"`, so a name with a backslash comes back as
another name (`a\tb` ↦ `a<TAB>b`) or makes the file unreadable.  Observed on the real library by the
harness (class service-names); no registered service of onet has such a name. -/
theorem c18_key_full_fails : ¬ C18_key_full := by
  intro h
  have := h [97, 92, 116, 98] (by decide)
  revert this
  decide +kernel

/-- a table name without backslash and line break, as the writer quotes it, is read back by the header reader as
the same name, whether a `.` or the closing `]` follows -/
theorem c18_key_roundtrip_partial (k : Str) (hk : Toml.KeyOK k) (d : Nat) (rest : Str) (hd : d = 46 ∨ d = 93) :
    Toml.pathComp (Toml.quoteKey k ++ d :: rest) = .ok (k, d :: rest) :=
  Toml.pathComp_quoteKey k hk d rest hd

/-- **a document the writer emits is read back as the same document** (tables in order, keys and
values, indentation and blank lines included) -/
theorem c18_toml_doc_roundtrip (root : Toml.Table) (tables : List Toml.Table) (hr : Toml.WFRoot root)
    (ht : ∀ t ∈ tables, Toml.WFTable t) : Toml.parseDoc (Toml.emitDoc (root :: tables)) = .ok (root :: tables) :=
  Toml.parseDoc_emitDoc root tables hr ht

/-- **`GroupToml.String()` read back** as the same `GroupToml`, the entries of every `Services`
map in the byte order of their names -/
theorem c18_group_text_roundtrip (g : List Toml.TServer) (h : Toml.GroupTextOK g) :
    Toml.readGroupText (Toml.emitGroup g) = .ok (g.map Toml.normServer) :=
  Toml.readGroupText_emitGroup g h

/-- **`CothorityConfig.Save` read back** as the same `CothorityConfig` -/
theorem c18_private_text_roundtrip (p : Toml.TPriv)
    (hn : ∀ l, p.services = some l → (l.map (·.name)).Nodup ∧ ∀ e ∈ l, Toml.KeyOK e.name) :
    Toml.readPrivateText (Toml.emitPrivate p) = .ok (Toml.normPriv p) :=
  Toml.readPrivateText_emitPrivate p hn

/-- **keys that differ only in case are rejected** (repaired code, `app.ambiguousKeys`): a table
that holds two keys the decoder would store into the same field never yields an identity — for
group files, for private configurations, whatever else the file holds -/
theorem c18_ambiguous_keys_rejected :
    (∀ (st : Toml.GSt) (t : Toml.Table), Toml.ambiguous (t.kvs.map (·.1)) = true → Toml.groupStep st t = .err) ∧
    (∀ (st : Toml.PSt) (t : Toml.Table), t.array = false → Toml.ambiguous (t.kvs.map (·.1)) = true →
        Toml.privStep st t = .err) := by
  constructor
  · intro st t h; simp [Toml.groupStep, h]
  · intro st t ha h; simp [Toml.privStep, ha, h]

/-! the array of tables itself spelled in two ways (`[[servers]]` … `[[Servers]]`): the TOML library keeps two
arrays, the decoder stores both into the one field in map order — such a file never yields identities -/

theorem Toml.PR.err_else_eq_ok {α : Type} {c : Prop} [Decidable c] {y : Toml.PR α} {z : α} :
    (if c then .err else y) = .ok z ↔ ¬ c ∧ y = .ok z := by
  by_cases h : c
  · rw [if_pos h]; exact ⟨nofun, fun h' => absurd h h'.1⟩
  · rw [if_neg h]; exact ⟨fun e => ⟨h, e⟩, fun e => e.2⟩

theorem Toml.PR.unsup_else_eq_ok {α : Type} {c : Prop} [Decidable c] {y : Toml.PR α} {z : α} :
    (if c then .unsup else y) = .ok z ↔ ¬ c ∧ y = .ok z := by
  by_cases h : c
  · rw [if_pos h]; exact ⟨nofun, fun h' => absurd h h'.1⟩
  · rw [if_neg h]; exact ⟨fun e => ⟨h, e⟩, fun e => e.2⟩

theorem svcTable_spell {st st' : Toml.GSt} {a b : Str} {k : Option Str} {kvs : List (Str × Str)}
    (h : Toml.svcTable st a b k kvs = .ok st') : st'.spell = st.spell := by
  unfold Toml.svcTable at h
  cases hc : st.cur with
  | none => simp only [hc, Toml.PR.unsup_else_eq_ok, reduceCtorEq, and_false] at h
  | some c =>
    -- `h` becomes the conjunction of the guards passed and the equation for `st'`, which is `st` with another `cur`:
    -- five guards in both branches, then three for the `Services` table itself, one for a service table
    cases k with
    | none =>
      simp only [hc, Toml.PR.err_else_eq_ok, Toml.PR.unsup_else_eq_ok, Toml.PR.ok.injEq] at h
      obtain ⟨-, -, -, -, -, -, -, -, rfl⟩ := h
      rfl
    | some k =>
      simp only [hc, Toml.PR.err_else_eq_ok, Toml.PR.unsup_else_eq_ok, Toml.PR.ok.injEq] at h
      obtain ⟨-, -, -, -, -, -, rfl⟩ := h
      rfl

theorem groupStep_spell {st st' : Toml.GSt} {t : Toml.Table} (h : Toml.groupStep st t = .ok st') :
    (t.array = true ∧ ∃ a, t.path = [a] ∧ (st.spell = none ∨ st.spell = some a) ∧ st'.spell = some a) ∨
    (t.array = false ∧ st'.spell = st.spell) := by
  unfold Toml.groupStep at h
  rw [Toml.PR.err_else_eq_ok] at h
  replace h := h.2
  split at h
  · rename_i a ha hp
    simp only [Toml.PR.err_else_eq_ok, Toml.PR.unsup_else_eq_ok, Toml.PR.ok.injEq] at h
    obtain ⟨-, hsp, -, rfl⟩ := h
    refine .inl ⟨ha, a, hp, ?_, rfl⟩
    cases hs : st.spell with
    | none => exact .inl rfl
    | some x =>
      rw [hs] at hsp
      simp only [Option.isSome_some, true_and, ne_eq, Decidable.not_not] at hsp
      exact .inr hsp
  · rename_i ha _; exact .inr ⟨ha, svcTable_spell h⟩
  · rename_i ha _; exact .inr ⟨ha, svcTable_spell h⟩
  · cases h

theorem groupStep_spell_keep {st st' : Toml.GSt} {t : Toml.Table} {a : Str}
    (h : Toml.groupStep st t = .ok st') (hs : st.spell = some a) : st'.spell = some a := by
  rcases groupStep_spell h with ⟨-, a', -, hb | hb, h'⟩ | ⟨-, h'⟩
  · rw [hs] at hb; cases hb
  · rw [hs] at hb; rw [h', ← hb]
  · rw [h', hs]

theorem groupStep_spell_set {st st' : Toml.GSt} {t : Toml.Table} {a : Str}
    (h : Toml.groupStep st t = .ok st') (ha : t.array = true) (hp : t.path = [a]) : st'.spell = some a := by
  rcases groupStep_spell h with ⟨-, a', hp', -, h'⟩ | ⟨hf, -⟩
  · rw [hp] at hp'; cases hp'; exact h'
  · rw [ha] at hf; cases hf

theorem groupLoop_spell_keep (tables : List Toml.Table) :
    ∀ (st st' : Toml.GSt) (a : Str), Toml.groupLoop tables st = .ok st' → st.spell = some a → st'.spell = some a := by
  induction tables with
  | nil => intro st st' a h hs; simp only [Toml.groupLoop] at h; cases h; exact hs
  | cons t r ih =>
    intro st st' a h hs
    simp only [Toml.groupLoop] at h
    split at h
    · rename_i st1 h1; exact ih st1 st' a h (groupStep_spell_keep h1 hs)
    · cases h
    · cases h

/-- **every array-of-tables header of a group file that is read is spelled the same way**: if the tables of a
document are accepted, each `[[…]]` header in it is, letter for letter, the spelling the reader ends with -/
theorem c18_array_spelled_one_way (tables : List Toml.Table) :
    ∀ (st st' : Toml.GSt), Toml.groupLoop tables st = .ok st' →
      ∀ t ∈ tables, t.array = true → ∀ a, t.path = [a] → st'.spell = some a := by
  induction tables with
  | nil => intro st st' _ t ht; cases ht
  | cons t0 r ih =>
    intro st st' h t ht harr a hp
    simp only [Toml.groupLoop] at h
    split at h
    · rename_i st1 h1
      rcases List.mem_cons.mp ht with e | hin
      · subst e
        exact groupLoop_spell_keep r st1 st' a h (groupStep_spell_set h1 harr hp)
      · exact ih st1 st' h t hin harr a hp
    · cases h
    · cases h

/-- a file that holds `[[servers]]` and `[[Servers]]` (any two spellings, anywhere, any number of elements) is not
read -/
theorem c18_array_spelled_twice_rejected (tables : List Toml.Table) (st : Toml.GSt) (t₁ t₂ : Toml.Table) (a b : Str)
    (h₁ : t₁ ∈ tables) (h₂ : t₂ ∈ tables) (ha₁ : t₁.array = true) (ha₂ : t₂.array = true)
    (hp₁ : t₁.path = [a]) (hp₂ : t₂.path = [b]) (hne : a ≠ b) :
    ∀ st', Toml.groupLoop tables st ≠ .ok st' := by
  intro st' h
  have e1 := c18_array_spelled_one_way tables st st' h t₁ h₁ ha₁ a hp₁
  have e2 := c18_array_spelled_one_way tables st st' h t₂ h₂ ha₂ b hp₂
  rw [e1] at e2
  exact hne (Option.some.inj e2)

/-- a small file with the array spelled in two ways, a different server under each spelling -/
example : Toml.readGroupText
    ([91, 91, 115, 101, 114, 118, 101, 114, 115, 93, 93, 10, 80, 117, 98, 108, 105, 99, 32, 61, 32, 34, 97, 34, 10] ++
     [91, 91, 83, 101, 114, 118, 101, 114, 115, 93, 93, 10, 80, 117, 98, 108, 105, 99, 32, 61, 32, 34, 98, 34, 10]) = .err := by decide +kernel

/-- the design of the witness file of the finding: `Public` and `public` in one `[[servers]]` table -/
example : Toml.readGroupText
    [91, 91, 115, 101, 114, 118, 101, 114, 115, 93, 93, 10, 80, 117, 98, 108, 105, 99, 32, 61, 32, 34, 97, 34, 10,
     112, 117, 98, 108, 105, 99, 32, 61, 32, 34, 98, 34, 10] = .err := by decide +kernel

/-- a file that merely spells its keys in lower case is read -/
example : Toml.readGroupText
    [91, 91, 115, 101, 114, 118, 101, 114, 115, 93, 93, 10, 112, 117, 98, 108, 105, 99, 32, 61, 32, 34, 98, 34, 10] =
    .ok [{ address := [], suite := [], pub := [98], description := [], url := [], services := none }] := by decide +kernel

/-- **writing out what was read and reading it again, over the text**: a group read from a file
whose servers all use suite `S` is written by `Group.Save(S)`; the *text* that is written — every
string quoted, every service table under its quoted name — is read by `ReadGroupDescToml` as exactly
the identities of the first read (an empty description as the placeholder), whatever the
descriptions, URLs and addresses contain.  Hypotheses of `c18_write_read_same`, plus: the keys of
every `Services` map are distinct (it is a map), registered service names contain no backslash or
line break (`c18_key_full_fails`), and kyber accepts the keys it wrote itself (`NotBad`). -/
theorem c18_write_read_text (suites : List Suite) (reg : List (Str × Suite)) (S : Suite)
    (hS : findSuite suites (defaultSuite S.name) = some S) (hpos : 0 < S.psize)
    (hreg : ∀ e ∈ reg, 0 < e.2.psize) (hkeys : RegKeysOK reg)
    (cfg : List ServerToml) (g : List ServerId)
    (hsuite : ∀ s ∈ cfg, findSuite suites (defaultSuite s.suite) = some S)
    (hpriv : ∀ s ∈ cfg, ∀ c ∈ s.services, c.priv = [])
    (hdist : ∀ s ∈ cfg, DistinctNames s.services)
    (bad : List Str) (hbad : NotBad bad g)
    (h : readGroup suites reg cfg = .ok g) :
    ∃ txt, saveGroupText S reg g = some txt ∧
      readGroupFile suites reg bad txt = .ok (.ok (g.map fillDesc)) := by
  obtain ⟨hr, hst⟩ := readGroup_ok h
  have hg := groupIds_of_read hreg hsuite hpriv hr
  obtain ⟨hw, hrd⟩ := write_read_servers hS hpos (fun si hsi => (hg si hsi).1) hst
  obtain ⟨t1, t2⟩ := written_group_text hkeys (bad := bad) (fun si hsi => by
    obtain ⟨hgi, s, hs, hp⟩ := hg si hsi
    exact ⟨hgi, (parseServices_nodup_mem (distinctNames_iff.mp (hdist s hs)) hp).1⟩) hbad
  refine ⟨Toml.emitGroup ((g.map (written S)).map tserverOf), by rw [saveGroupText, hw]; rfl, ?_⟩
  unfold readGroupFile
  rw [Toml.readGroupText_emitGroup _ t2]
  simp only [t1, hrd]

/-- **a private configuration saved and loaded again, over the text**: `LoadCothority`, then
`CothorityConfig.Save`, then `LoadCothority` + `GetServerIdentity` on the file that was written gives
the identity of the first load -/
theorem c18_private_save_load_text (suites : List Suite) (reg : List (Str × Suite)) (bad : List Str) (p : Toml.TPriv)
    (hn : ∀ l, p.services = some l → (l.map (·.name)).Nodup ∧ ∀ e ∈ l, Toml.KeyOK e.name) :
    readPrivateFile suites reg bad (savePrivateText p) =
      .ok (getServerIdentity suites reg (loadCothority (privCfgOf bad p))) := by
  have hperm : (privCfgOf bad p).services.Perm (((p.services.map Toml.sortSvcs).getD []).map (svcCfgOf bad)) := by
    unfold privCfgOf
    cases p.services with
    | none => exact .refl _
    | some l => exact ((Toml.sortSvcs_perm l).map _).symm
  have hnd : DistinctNames (privCfgOf bad p).services := by
    unfold privCfgOf
    rw [distinctNames_iff, List.map_map]
    cases hsv : p.services with
    | none => exact List.nodup_nil
    | some l => exact (hn l hsv).1
  unfold readPrivateFile savePrivateText
  rw [Toml.readPrivateText_emitPrivate { p with suite := defaultSuite p.suite } hn]
  -- what was read is what was loaded before, saved with its `Services` map in another order
  exact congrArg Toml.PR.ok (c18_private_write_read_same suites reg (privCfgOf bad p) _ hperm hnd)

/-- **the URL a server announces** (`GetServerIdentity`): the configured URL when there is one or when the
configuration has no WebSocket TLS **key**; else `https://<host>:<port+1>` of its address.  The certificate entry plays
no part (it is not even a field of the model's configuration): a key without certificate still derives the URL. -/
theorem c18_url_rule (suites : List Suite) (reg : List (Str × Suite)) (hc : PrivCfg) (si : ServerId)
    (h : getServerIdentity suites reg hc = .ok si) :
    ((hc.url ≠ [] ∨ hc.wsKey = []) → si.url = hc.url) ∧
    (hc.url = [] → hc.wsKey ≠ [] → ∃ p, C20.atoi ((C20.port hc.address).getD []) = some p ∧
        si.url = httpsPrefix ++ (C20.host hc.address).getD [] ++ 58 :: fmtInt (p + 1)) := by
  obtain ⟨S, priv, pub, svcs, -, -, -, -, -, hurl⟩ := getServerIdentity_ok h
  constructor
  · intro c
    rwa [if_neg fun ⟨hk, hu⟩ => c.elim (fun c => c hu) hk] at hurl
  · intro hu hk
    rwa [if_pos ⟨hk, hu⟩] at hurl

private theorem readAllFrom_eq : ∀ (chunks : List Str) (buf : Str), readAllFrom chunks buf = buf ++ chunks.flatten
  | [], buf => by simp [readAllFrom]
  | c :: cs, buf => by simp [readAllFrom, readAllFrom_eq cs, List.append_assoc]

/-- Reading a group definition is a function of the text alone — however the
reader cuts it into chunks (one byte per `Read`, half reads, a pipe written table by table, everything at once),
the result is that of the whole text; two deliveries of the same text give the same identities and roster
identifier.  Falsified by a reader loop that stops early: one `Read` into a fixed buffer, a loop that ends at the
first short read. -/
theorem c18_reader_chunking_irrelevant (suites : List Suite) (reg : List (Str × Suite)) (bad : List Str)
    (chunks chunks' : List Str) (text : Str) (h : chunks.flatten = text) (h' : chunks'.flatten = text) :
    readGroupReader suites reg bad chunks = readGroupFile suites reg bad text ∧
    readGroupReader suites reg bad chunks = readGroupReader suites reg bad chunks' := by
  have e : ∀ c : List Str, readAll c = c.flatten := fun c => by simp [readAll, readAllFrom_eq]
  simp only [readGroupReader, e, h, h', and_self]

/-- a reader that takes the first chunk for the whole text loses the rest whenever there is a rest -/
theorem c18_single_read_loses_text (a b : Str) (hb : b ≠ []) : readOnce [a, b] ≠ readAll [a, b] :=
  fun h => hb (List.self_eq_append_right.mp (h : a = a ++ b))

/-- … and what it reads may still be a well-formed group definition — with fewer servers (another roster
identifier, no error): two `[[servers]]` tables delivered table by table -/
example :
    let t1 : Str := [91, 91, 115, 101, 114, 118, 101, 114, 115, 93, 93, 10, 80, 117, 98, 108, 105, 99, 32, 61, 32, 34, 97, 34, 10]
    let t2 : Str := [91, 91, 115, 101, 114, 118, 101, 114, 115, 93, 93, 10, 80, 117, 98, 108, 105, 99, 32, 61, 32, 34, 98, 34, 10]
    Toml.readGroupText (readOnce [t1, t2]) =
      .ok [{ address := [], suite := [], pub := [97], description := [], url := [], services := none }] ∧
    Toml.readGroupText (readAll [t1, t2]) =
      .ok [{ address := [], suite := [], pub := [97], description := [], url := [], services := none },
           { address := [], suite := [], pub := [98], description := [], url := [], services := none }] := by
  decide +kernel

/-! ### the accessors of `ServerIdentity` that look a service up by name (network/struct.go:213-258) -/

/-- In an identity whose service entries have distinct names — any number of entries, in
any order — asking for the name of an entry gives exactly that entry's keys, and both `Has…` functions say yes.
Falsified by a look-up that compares something else than the exact name (folded case, a prefix, the suite), that
returns the server's own key for the last entry (loop bound), or that returns the neighbour's key. -/
theorem c18_accessor_entry (si : ServerId) (hn : (si.services.map (·.name)).Nodup) (s : SvcId) (hs : s ∈ si.services) :
    si.servicePublic s.name = s.pub ∧ si.servicePrivate s.name = some s.priv ∧
    si.hasServicePublic s.name = true ∧ si.hasServiceKeyPair s.name = true := by
  have ha : si.services.any (fun x => x.name == s.name) = true := List.any_eq_true.mpr ⟨s, hs, beq_self_eq_true _⟩
  simp only [ServerId.servicePublic, ServerId.servicePrivate, ServerId.hasServicePublic, ServerId.hasServiceKeyPair,
    List.find?_of_nodup_map hn hs, ha, and_self]

/-- A name that is not the name of an entry gets the server's own keys (its private key
where one is known), and both `Has…` functions say no — in particular for names that differ from an entry's name
only in letter case or are a prefix of it. -/
theorem c18_accessor_absent (si : ServerId) (name : Str) (h : ∀ s ∈ si.services, s.name ≠ name) :
    si.servicePublic name = si.pub ∧ si.servicePrivate name = si.priv ∧
    si.hasServicePublic name = false ∧ si.hasServiceKeyPair name = false := by
  have h' : ∀ s ∈ si.services, ¬ (s.name == name) = true := fun s hs => by rw [beq_iff_eq]; exact h s hs
  simp only [ServerId.servicePublic, ServerId.servicePrivate, ServerId.hasServicePublic, ServerId.hasServiceKeyPair,
    List.find?_eq_none.mpr h', List.any_eq_false.mpr h', and_self]

/-- What the accessors answer does not depend on the order of the entries
(distinct names): two identities that differ only in that order answer every question alike.  (This is why the
map-order defect changed roster identifiers but never a key handed to a service.) -/
theorem c18_accessor_order_independent (si si' : ServerId) (hp : si.services.Perm si'.services)
    (hn : (si.services.map (·.name)).Nodup) (hpub : si.pub = si'.pub) (hpriv : si.priv = si'.priv) (name : Str) :
    si.servicePublic name = si'.servicePublic name ∧ si.servicePrivate name = si'.servicePrivate name ∧
    si.hasServicePublic name = si'.hasServicePublic name ∧ si.hasServiceKeyPair name = si'.hasServiceKeyPair name := by
  have hn' : (si'.services.map (·.name)).Nodup := (hp.map _).nodup_iff.mp hn
  by_cases hex : ∃ s ∈ si.services, s.name = name
  · obtain ⟨s, hs, rfl⟩ := hex
    have h1 := c18_accessor_entry si hn s hs
    have h2 := c18_accessor_entry si' hn' s (hp.subset hs)
    simp only [h1, h2, and_self]
  · have ha : ∀ s ∈ si.services, s.name ≠ name := fun s hs e => hex ⟨s, hs, e⟩
    have ha' : ∀ s ∈ si'.services, s.name ≠ name := fun s hs e => hex ⟨s, hp.symm.subset hs, e⟩
    have h1 := c18_accessor_absent si name ha
    have h2 := c18_accessor_absent si' name ha'
    simp only [h1, h2, hpub, hpriv, and_self]

/-- Group files and private configurations alike: when the `Services` tables of a
server (distinct table names — they are map keys) yield the identity's service entries, then for every table `c`
that is accepted (`parseServiceIdentity` = the registered suite, a decodable key pair) `ServicePublic(c.name)` /
`ServicePrivate(c.name)` are the keys that table carries, and a name no accepted table has gets the server's own
keys — whatever the iteration order of the map was, however many tables there are. -/
theorem c18_service_keys_from_file (reg : List (Str × Suite)) (entries : List SvcCfg) (si : ServerId)
    (hd : DistinctNames entries) (h : parseServices reg entries = some si.services) :
    (∀ c ∈ entries, ∀ sid, parseServiceIdentity reg c = .ok sid →
        si.servicePublic c.name = sid.pub ∧ si.servicePrivate c.name = some sid.priv ∧ si.hasServiceKeyPair c.name = true) ∧
    (∀ name, (∀ c ∈ entries, c.name = name → ∀ sid, parseServiceIdentity reg c ≠ .ok sid) →
        si.servicePublic name = si.pub ∧ si.servicePrivate name = si.priv ∧ si.hasServicePublic name = false) := by
  obtain ⟨hn, hm⟩ := parseServices_nodup_mem (distinctNames_iff.mp hd) h
  constructor
  · intro c hc sid hok
    have hs : sid ∈ si.services := (hm sid).mpr ⟨c, hc, hok⟩
    have hname : sid.name = c.name := okOf_name (okOf_eq_some.mpr hok)
    have := c18_accessor_entry si hn sid hs
    rw [hname] at this
    exact ⟨this.1, this.2.1, this.2.2.2⟩
  · intro name hno
    have ha : ∀ s ∈ si.services, s.name ≠ name := by
      intro s hs e
      obtain ⟨c, hc, hok⟩ := (hm s).mp hs
      have hname : s.name = c.name := okOf_name (okOf_eq_some.mpr hok)
      exact hno c hc (by rw [← hname, e]) s hok
    have := c18_accessor_absent si name ha
    exact ⟨this.1, this.2.1, this.2.2.1⟩

/-- the premise of `c18_service_keys_from_file` holds for what the two readers return -/
theorem c18_readers_services (suites : List Suite) (reg : List (Str × Suite)) :
    (∀ (s : ServerToml) (si : ServerId), toServerIdentity suites reg s = .ok si → parseServices reg s.services = some si.services) ∧
    (∀ (hc : PrivCfg) (si : ServerId), getServerIdentity suites reg hc = .ok si → parseServices reg hc.services = some si.services) := by
  constructor
  · intro s si h
    obtain ⟨S, svcs, _, _, hp, hsi⟩ := toServerIdentity_ok h
    rw [hsi]; exact hp
  · intro hc si h
    obtain ⟨S, priv, pub, svcs, -, -, -, hp, hsi, -⟩ := getServerIdentity_ok h
    rw [hsi]; exact hp

/-- non-vacuity and the premise: with two entries of one name (not a map) the second is invisible -/
example :
    let a : SvcId := { name := [97], suite := [], pub := [1], priv := [2] }
    let b : SvcId := { name := [98], suite := [], pub := [3], priv := [4] }
    let a2 : SvcId := { name := [97], suite := [], pub := [5], priv := [6] }
    let si : ServerId := { pub := [9], ptype := 0, services := [a, b], address := [], description := [], url := [], priv := none }
    si.servicePublic [98] = [3] ∧ si.servicePublic [66] = [9] ∧ si.servicePrivate [66] = none ∧ si.hasServiceKeyPair [98] = true ∧
    ({ si with services := [a, b, a2] } : ServerId).servicePublic [97] = [1] := by
  decide +kernel

/-! ### what was read stays what was read: rosters made from parts of a group's list

`Model/C18Slices.lean`: slices over a heap of arrays, `onet.NewRoster` (copies its argument into a fresh array) and
`Roster.Concat` (appends to a roster made by `NewRoster`). -/

/-- **whatever a consumer does with rosters made from (parts of) the lists of existing rosters — any number of
`NewRoster(list[lo:hi])` and `Concat(…)` calls, on the group's roster or on rosters made before, in any order —
every slice that existed before shows what it showed before.**  In particular the group returned by the reader
keeps the identities of the file, and so its roster identifier. -/
theorem c18_uses_leave_group {α : Type} [DecidableEq α] (pad : α) (st : Sl.St α) (us : List (Sl.Use α)) (s : Sl.Slice)
    (hs : s.arr < st.heap.length) :
    Sl.read (Sl.runWith Sl.newRoster pad st us).heap s = Sl.read st.heap s :=
  Sl.read_below (Sl.run_below pad us st) s hs

/-- … for a group as the reader leaves it -/
theorem c18_group_list_kept {α : Type} [DecidableEq α] (pad : α) (l : List α) (us : List (Sl.Use α)) :
    Sl.read (Sl.runWith Sl.newRoster pad (Sl.ofList l) us).heap { arr := 0, off := 0, len := l.length, cap := l.length } = l := by
  rw [c18_uses_leave_group pad (Sl.ofList l) us _ (by simp [Sl.ofList])]
  simp [Sl.read, Sl.ofList]

/-- what the driver answers to `uses` is the group itself -/
theorem c18_after_uses (g : List ServerId) (k : Nat) : Drv.afterUses g k = g :=
  c18_group_list_kept _ g _

/-- **the copy in `NewRoster` is what this rests on**: with a `NewRoster` that keeps the caller's slice
(`&Roster{List: ids[:]}`), a roster made from the first two of four servers and extended by one server overwrites
the third server of the group. -/
theorem c18_shared_list_witness :
    Sl.read (Sl.runWith Sl.newRosterShared 0 (Sl.ofList [1, 2, 3, 4]) [.part 0 0 2, .concat 1 [9]]).heap
        { arr := 0, off := 0, len := 4, cap := 4 } = [1, 2, 9, 4] ∧
    Sl.read (Sl.runWith Sl.newRoster 0 (Sl.ofList [1, 2, 3, 4]) [.part 0 0 2, .concat 1 [9]]).heap
        { arr := 0, off := 0, len := 4, cap := 4 } = [1, 2, 3, 4] := by
  constructor <;> decide +kernel

/-- the uses are not empty and do append in place somewhere: the roster `Concat` returns holds the added server -/
example :
    let st := Sl.runWith Sl.newRoster 0 (Sl.ofList [1, 2, 3, 4]) [.part 0 0 2, .concat 1 [9, 2, 8]]
    st.rosters.map (Sl.read st.heap) = [[1, 2, 3, 4], [1, 2], [1, 2, 9, 8]] := by decide +kernel

/-! ### the code regions the model stands for
Regenerated from /repo's source on every run (`harness/cmd/astfacts` → `OnetVerif/Shapes.lean`): the
calls that matter for synchronisation and data flow, the lock regions and (for decision logic) the
conditions, in source order.  A re-ordering, a dropped call or a changed condition breaks these
obligations even when no sampled input or schedule shows a difference; the check then searches for
a failing input. -/
theorem c18_shape_config_parseServiceConfig :
    Shapes.app_config_parseServiceConfig =
   ["parseServiceIdentity", "network.ServiceIdentities", "sort.Sort"] := rfl

theorem c18_shape_config_parseServerServiceConfig :
    Shapes.app_config_parseServerServiceConfig =
   ["parseServiceIdentity", "network.ServiceIdentities", "sort.Sort"] := rfl

theorem c18_shape_config_parseServiceIdentity :
    Shapes.app_config_parseServiceIdentity =
   ["ServiceFactory.Suite", "suite.String", "suite.Scalar", "encoding.StringHexToScalar",
     "encoding.StringHexToPoint", "network.NewServiceIdentity"] := rfl

theorem c18_shape_config_LoadCothority :
    Shapes.app_config_LoadCothority =
   ["toml.DecodeFile", "ambiguousKeys"] := rfl

theorem c18_shape_config_CothorityConfig_Save :
    Shapes.app_config_CothorityConfig_Save =
   ["os.OpenFile", "defer:fd.Close", "fd.WriteString", "fd.WriteString", "toml.NewEncoder",
     "NewEncoder().Encode"] := rfl

theorem c18_shape_config_CothorityConfig_GetServerIdentity :
    Shapes.app_config_CothorityConfig_GetServerIdentity =
   ["suites.Find", "encoding.StringHexToScalar", "encoding.StringHexToPoint",
     "network.NewServerIdentity", "si.SetPrivate", "parseServiceConfig", "Address.Port",
     "strconv.Atoi"] := rfl

theorem c18_shape_config_ReadGroupDescToml :
    Shapes.app_config_ReadGroupDescToml =
   ["toml.DecodeReader", "ambiguousKeys", "s.ToServerIdentity", "onet.NewRoster"] := rfl

theorem c18_shape_config_Group_Toml :
    Shapes.app_config_Group_Toml =
   ["encoding.PointToStringHex", "ServiceFactory.Suite", "encoding.PointToStringHex",
     "suite.String", "suite.String"] := rfl

theorem c18_shape_NewRoster :
    Shapes.tree_NewRoster =
   ["if:((len(ids)<1)||(ids[].Public==nil))", "return:nil", "sha256.New", "Public.MarshalTo",
     "if:(err!=nil)", "Public.MarshalTo", "if:(err!=nil)", "h.Sum", "hex.EncodeToString",
     "uuid.NewSHA1", "RosterID", "if:(len(ids)!=0)", "if:(e.Public==nil)", "if:(agg==nil)",
     "Public.Clone", "else", "agg.Add", "return:r"] := rfl

theorem c18_shape_config_ambiguousKeys :
    Shapes.app_config_ambiguousKeys =
   ["md.Keys", "if:(i==mapLevel)", "else", "if:((n==len(key))&&(md.Type(key)==\"\"))",
     "if:strings.HasPrefix(k,(f+\"\"))", "if:(ok&&(prev!=exact))",
     "return:xerrors.Errorf(\"\",strings.Replace(prev,\"\",\"\",-1),strings.Replace(exact,\"\",\"\",-1))",
     "return:nil"] := rfl

theorem c18_shape_config_GroupToml_String :
    Shapes.app_config_GroupToml_String =
   ["if:(s.Description==\"\")", "toml.NewEncoder", "enc.Encode", "if:(err!=nil)",
     "return:(\"\"+err.Error())", "return:buff.String()"] := rfl

theorem c18_shape_config_GroupToml_Save :
    Shapes.app_config_GroupToml_Save =
   ["os.Create", "defer:file.Close", "gt.String", "file.WriteString"] := rfl

theorem c18_shape_config_Group_Save :
    Shapes.app_config_Group_Save =
   ["g.Toml", "gt.Save"] := rfl

theorem c18_shape_config_ServerToml_ToServerIdentity :
    Shapes.app_config_ServerToml_ToServerIdentity =
   ["suites.Find", "encoding.ReadHexPoint", "network.NewServerIdentity",
     "parseServerServiceConfig"] := rfl

theorem c18_shape_config_NewServerToml :
    Shapes.app_config_NewServerToml =
   ["encoding.WriteHexPoint", "suite.String", "buff.String"] := rfl

theorem c18_shape_config_ServerToml_String :
    Shapes.app_config_ServerToml_String =
   ["if:(s.Description==\"\")", "toml.NewEncoder", "enc.Encode", "if:(err!=nil)",
     "return:(\"\"+err.Error())", "return:buff.String()"] := rfl

theorem c18_shape_struct_ServerIdentity_Toml :
    Shapes.network_struct_ServerIdentity_Toml =
   ["encoding.WriteHexPoint", "buf.String"] := rfl

theorem c18_shape_struct_ServerIdentityToml_ServerIdentity :
    Shapes.network_struct_ServerIdentityToml_ServerIdentity =
   ["encoding.ReadHexPoint"] := rfl

theorem c18_shape_Roster_Toml :
    Shapes.tree_Roster_Toml =
   ["List[].Toml"] := rfl

theorem c18_shape_RosterToml_Roster :
    Shapes.tree_RosterToml_Roster =
   ["List[].ServerIdentity"] := rfl

theorem c18_shape_config_parseServiceConfig_c18 :
    Shapes.app_config_parseServiceConfig_c18 =
   ["assign:si:=conv{}", "range:name,sc:=configs{", "parseServiceIdentity",
     "assign:sid,err:=parseServiceIdentity(name,sc.Suite,sc.Public,sc.Private)", "if:(err!=nil)",
     "else", "assign:si=append(si,sid)", "}", "network.ServiceIdentities", "sort.Sort",
     "return:si"] := rfl

theorem c18_shape_config_parseServerServiceConfig_c18 :
    Shapes.app_config_parseServerServiceConfig_c18 =
   ["assign:si:=conv{}", "range:name,sc:=configs{", "parseServiceIdentity",
     "assign:sid,err:=parseServiceIdentity(name,sc.Suite,sc.Public,\"\")", "if:(err!=nil)",
     "else", "assign:si=append(si,sid)", "}", "network.ServiceIdentities", "sort.Sort",
     "return:si"] := rfl

theorem c18_shape_config_parseServiceIdentity_c18 :
    Shapes.app_config_parseServiceIdentity_c18 =
   ["ServiceFactory.Suite", "assign:suite:=onet.ServiceFactory.Suite(name)", "if:(suite==nil)",
     "return:srvid,xerrors.Errorf(\"\",name)", "else", "if:(suite.String()!=suiteName)",
     "suite.Scalar", "assign:private:=suite.Scalar()", "if:(priv!=\"\")",
     "encoding.StringHexToScalar", "assign:private,err=encoding.StringHexToScalar(suite,priv)",
     "if:(err!=nil)", "return:srvid,xerrors.Errorf(\"\",name,err.Error())",
     "encoding.StringHexToPoint", "assign:public,err:=encoding.StringHexToPoint(suite,pub)",
     "if:(err!=nil)", "return:srvid,xerrors.Errorf(\"\",name,err.Error())",
     "network.NewServiceIdentity",
     "assign:si:=network.NewServiceIdentity(name,suite,public,private)", "return:si,nil"] := rfl

theorem c18_shape_config_CothorityConfig_GetServerIdentity_c18 :
    Shapes.app_config_CothorityConfig_GetServerIdentity_c18 =
   ["suites.Find", "assign:suite,err:=suites.Find(hc.Suite)", "if:(err!=nil)",
     "return:nil,xerrors.Errorf(\"\",err)", "encoding.StringHexToScalar",
     "assign:private,err:=encoding.StringHexToScalar(suite,hc.Private)", "if:(err!=nil)",
     "return:nil,xerrors.Errorf(\"\",err)", "encoding.StringHexToPoint",
     "assign:point,err:=encoding.StringHexToPoint(suite,hc.Public)", "if:(err!=nil)",
     "return:nil,xerrors.Errorf(\"\",err)", "network.NewServerIdentity",
     "assign:si:=network.NewServerIdentity(point,hc.Address)", "si.SetPrivate",
     "assign:si.Description=hc.Description", "parseServiceConfig",
     "assign:si.ServiceIdentities=parseServiceConfig(hc.Services)",
     "if:(hc.WebSocketTLSCertificateKey!=\"\")", "if:(hc.URL!=\"\")",
     "assign:si.URL=strings.Replace(hc.URL,\"\",\"\",0)", "else", "Address.Port", "strconv.Atoi",
     "assign:p,err:=strconv.Atoi(si.Address.Port())", "if:(err!=nil)",
     "return:nil,xerrors.Errorf(\"\")",
     "assign:si.URL=fmt.Sprintf(\"\",si.Address.Host(),(p+1))", "else", "assign:si.URL=hc.URL",
     "return:si,nil"] := rfl

theorem c18_shape_config_ServerToml_ToServerIdentity_c18 :
    Shapes.app_config_ServerToml_ToServerIdentity_c18 =
   ["suites.Find", "assign:suite,err:=suites.Find(s.Suite)", "if:(err!=nil)",
     "return:nil,xerrors.Errorf(\"\",err)", "assign:pubR:=strings.NewReader(s.Public)",
     "encoding.ReadHexPoint", "assign:public,err:=encoding.ReadHexPoint(suite,pubR)",
     "if:(err!=nil)", "return:nil,xerrors.Errorf(\"\",err)", "network.NewServerIdentity",
     "assign:si:=network.NewServerIdentity(public,s.Address)", "assign:si.URL=s.URL",
     "assign:si.Description=s.Description", "parseServerServiceConfig",
     "assign:si.ServiceIdentities=parseServerServiceConfig(s.Services)", "return:si,err"] := rfl

theorem c18_shape_config_Group_Toml_c18 :
    Shapes.app_config_Group_Toml_c18 =
   ["assign:servers:=make(conv,len(g.Roster.List))", "range:i,si:=g.Roster.List{",
     "encoding.PointToStringHex", "assign:pub,err:=encoding.PointToStringHex(suite,si.Public)",
     "if:(err!=nil)", "return:nil,xerrors.Errorf(\"\",err)", "assign:services:=make(conv)",
     "range:_,sid:=si.ServiceIdentities{", "ServiceFactory.Suite",
     "assign:suite:=onet.ServiceFactory.Suite(sid.Name)", "encoding.PointToStringHex",
     "assign:pub,err:=encoding.PointToStringHex(suite,sid.Public)", "if:(err!=nil)",
     "return:nil,xerrors.Errorf(\"\",err)", "suite.String",
     "assign:services[sid.Name]=ServerServiceConfig{Public:pub,Suite:suite.String()}", "}",
     "suite.String",
     "assign:servers[i]=&ServerToml{Address:si.Address,Suite:suite.String(),Public:pub,Description:si.Description,Services:services,URL:si.URL}",
     "}", "return:&GroupToml{Servers:servers},nil"] := rfl

theorem c18_shape_config_ReadGroupDescToml_c18 :
    Shapes.app_config_ReadGroupDescToml_c18 =
   ["assign:group:=&GroupToml{}", "toml.DecodeReader",
     "assign:md,err:=toml.DecodeReader(f,group)", "if:(err!=nil)",
     "return:nil,xerrors.Errorf(\"\",err)", "ambiguousKeys", "assign:err:=ambiguousKeys(md,2)",
     "if:(err!=nil)", "return:nil,xerrors.Errorf(\"\",err)", "range:i,s:=group.Servers{",
     "if:(s.Suite==\"\")", "assign:s.Suite=\"\"", "s.ToServerIdentity",
     "assign:en,err:=s.ToServerIdentity()", "if:(err!=nil)",
     "return:nil,xerrors.Errorf(\"\",err)", "assign:entities[i]=en",
     "assign:descs[en]=s.Description", "}", "onet.NewRoster",
     "assign:el:=onet.NewRoster(entities)", "return:&Group{el,descs},nil"] := rfl

theorem c18_shape_struct_ServiceIdentities_Less_c18 :
    Shapes.network_struct_ServiceIdentities_Less_c18 =
   ["return:(strings.Compare(srvids[i].Name,srvids[j].Name)==-1)"] := rfl

theorem c18_shape_struct_ServiceIdentities_Swap_c18 :
    Shapes.network_struct_ServiceIdentities_Swap_c18 =
   ["assign:srvids[i],srvids[j]=srvids[j],srvids[i]"] := rfl

end C18

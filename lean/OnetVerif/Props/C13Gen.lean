import OnetVerif.Model.C13
import OnetVerif.Gen.C13
import OnetVerif.Gen.C13K
import OnetVerif.Props.C13
import OnetVerif.Proofs.C13SvcGen
import OnetVerif.Proofs.C13VisitGen
/-! Property C13 — the definitions regenerated from the Go source (`Gen/C13.lean`, `Gen/C13K.lean`, `Gen/C13Svc.lean`, written by `harness/cmd/go2lean`
on every check run) equal the hand-written pre-images and registries of `Model/C13.lean`.  `Gen.C13.Token` is the Go struct field by field (every id a
`uuid.UUID`, modelled by its 16 bytes); `Token.ofGen` reads it as the model's `Token`.  Nothing imports this file. -/
namespace C13

/-- the translated struct read as the model's -/
def Token.ofGen (t : Gen.C13.Token) : Token :=
  { roster := t.RosterID, tree := t.TreeID, proto := t.ProtoID, service := t.ServiceID, round := t.RoundID,
    node := t.TreeNodeID }

/-- `network.NamespaceURL` as read from the source is the model's `ns` -/
theorem c13_gen_consts : Gen.C13.NamespaceURL = ns := by decide +kernel

private theorem ascii_token : ascii "token/" = [116, 111, 107, 101, 110, 47] := by decide +kernel
private theorem ascii_protocolname :
    ascii "protocolname/" = [112, 114, 111, 116, 111, 99, 111, 108, 110, 97, 109, 101, 47] := by decide +kernel
private theorem ascii_tree : ascii "tree/" = [116, 114, 101, 101, 47] := by decide +kernel
private theorem ascii_id : ascii "id/" = [105, 100, 47] := by decide +kernel

/-- **`Token.ID` as translated is the model's token id**: the SHA-1 UUID of `NamespaceURL`, `"token/"` and the
text forms of roster, round, service, protocol, tree and node id in that order -/
theorem c13_gen_Token_ID_eq (H : HashFns) (t : Gen.C13.Token) :
    Gen.C13.Token_ID H t = tokenId H (Token.ofGen t) := by
  rw [Gen.C13.Token_ID, tokenId, tokenPre, ← c13_gen_consts, ascii_token]
  simp only [List.append_assoc]
  rfl

/-- **`ProtocolNameToID` as translated is the model's protocol id** (MD5 UUID of `NamespaceURL`,
`"protocolname/"` and the name) -/
theorem c13_gen_ProtocolNameToID_eq (H : HashFns) (name : Bytes) :
    Gen.C13.ProtocolNameToID H name = protoId H name := by
  rw [protoId, protoPre, ← c13_gen_consts, ascii_protocolname]; rfl

/-- **the `Equal` methods of the seven identifier types as translated are the model's `idEqual`** (Go's `==` on
the 16-byte arrays; the operator is mapped to `idEqual` by `meta/go2lean.json`, what is checked here is that
each method compares its receiver with its argument and nothing else), and `ServiceID.IsNil` is `idIsNil` -/
theorem c13_gen_id_Equal_eq (H : HashFns) (a b : Bytes) :
    Gen.C13.TreeID_Equal H a b = idEqual a b ∧ Gen.C13.RosterID_Equal H a b = idEqual a b ∧
    Gen.C13.TreeNodeID_Equal H a b = idEqual a b ∧ Gen.C13.TokenID_Equal H a b = idEqual a b ∧
    Gen.C13.RoundID_Equal H a b = idEqual a b ∧ Gen.C13.ProtocolID_Equal H a b = idEqual a b ∧
    Gen.C13.ServiceID_Equal H a b = idEqual a b ∧ Gen.C13.ServiceID_IsNil H a = idIsNil a :=
  ⟨rfl, rfl, rfl, rfl, rfl, rfl, rfl, rfl⟩
/-- **the `IsNil` methods of the six other identifier types as translated are the model's `idIsNil`**: each compares its
receiver with the nil UUID through the type's own `Equal` -/
theorem c13_gen_id_IsNil_eq (H : HashFns) (a : Bytes) :
    Gen.C13.TreeID_IsNil H a = idIsNil a ∧ Gen.C13.RosterID_IsNil H a = idIsNil a ∧
    Gen.C13.TreeNodeID_IsNil H a = idIsNil a ∧ Gen.C13.TokenID_IsNil H a = idIsNil a ∧
    Gen.C13.RoundID_IsNil H a = idIsNil a ∧ Gen.C13.ProtocolID_IsNil H a = idIsNil a :=
  ⟨rfl, rfl, rfl, rfl, rfl, rfl⟩

/-! The identifier derivations that sit inside functions the translator cannot take as a whole
(`NewTree`, `NewRoster`, `NewTreeNode`, `serviceFactory.Register`: loops over a hash writer, closures, registration
under a lock).  What is lifted from the source is the *value assigned* to the identifier (kind `assign` of
`"extract"`): the expression over the hash object `h` (its content = what was written to it), the roster, the
name, the identity.  The theorems say that the model's `…IdOfPre` functions are exactly these expressions. -/

/-- **`NewRoster`'s `ID:` field as read from the source is the model's roster id of the bytes fed to `h`**:
the SHA-1 UUID of the hex text of the SHA-256 digest.  Falsified by: another digest, the raw digest instead of
its hex text, another UUID version. -/
theorem c13_gen_NewRoster_ID_eq (H : HashFns) (h : Bytes) :
    Gen.C13.NewRoster_ID H h = rosterIdOfPre H h := rfl

/-- hence, when the loops have fed `h` with the model's roster pre-image, the field is the model's roster id -/
theorem c13_gen_NewRoster_ID_roster (H : HashFns) (ro : List Member) :
    Gen.C13.NewRoster_ID H (rosterPre ro) = rosterId H ro := rfl

/-- **`NewTree`'s `url` and `ID:` as read from the source are the model's outer pre-image and tree id**:
`NamespaceURL + "tree/" + roster.ID.String() + hex(h.Sum(nil))`, SHA-1 UUID of it.  Falsified by: dropping the
roster id, the roster id's bytes instead of its text form, another prefix, another order. -/
theorem c13_gen_NewTree_url_eq (H : HashFns) (ro : Gen.C13.Roster) (h : Bytes) :
    Gen.C13.NewTree_url H ro h = treeOuterPre ro.ID (H.sha256 h) := by
  rw [treeOuterPre, ← c13_gen_consts, ascii_tree, ← List.append_assoc]; rfl

theorem c13_gen_NewTree_ID_eq (H : HashFns) (ro : Gen.C13.Roster) (h : Bytes) :
    Gen.C13.NewTree_ID H (Gen.C13.NewTree_url H ro h) = treeIdOfPre H ro.ID h := by
  rw [c13_gen_NewTree_url_eq]; rfl

/-- hence, when `Visit` has fed `h` with the model's depth-first pre-image, the field is the model's tree id -/
theorem c13_gen_NewTree_ID_tree (H : HashFns) (ro : Gen.C13.Roster) (f : Forest) :
    Gen.C13.NewTree_ID H (Gen.C13.NewTree_url H ro (dfs f)) = treeId H ro.ID f :=
  c13_gen_NewTree_ID_eq H ro (dfs f)

/-- **`NewTreeNode`'s `ID:` as read from the source is the model's node id of the key's text form** (the
text form `Public.String()` is a parameter: `keyText` of the model for the three suites); it reads the key and
nothing else of the identity.  Falsified by: an id from the address, from the roster index, from the deprecated
`ID` field, with a prefix. -/
theorem c13_gen_NewTreeNode_ID_eq (H : HashFns) (ni : Gen.C13.ServerIdentity) (text : Bytes → Bytes) :
    Gen.C13.NewTreeNode_ID H ni text = nodeIdStr H (text ni.Public) := rfl

theorem c13_gen_NewTreeNode_ID_ed25519 (H : HashFns) (ni : Gen.C13.ServerIdentity) :
    Gen.C13.NewTreeNode_ID H ni hexAscii = nodeId H ni.Public := rfl

/-- **the service id `serviceFactory.Register` assigns, as read from the source, is the model's**: the SHA-1
UUID of the name alone — no suite, no prefix, no registration state (the seeded change C13r4-A hashed
`name + suite`). -/
theorem c13_gen_Register_id_eq (H : HashFns) (name : Bytes) :
    Gen.C13.serviceFactory_Register_id H name = serviceId H name := rfl

/-- **`ServerIdentity.GetID` as translated (whole function; the key is an option in `Gen.C13K`)**: never panics;
without a key the nil UUID; with a key the model's server id of its text form. -/
theorem c13_gen_ServerIdentity_GetID_eq (H : HashFns) (text : Bytes → Bytes) :
    (∀ key, Gen.C13K.ServerIdentity_GetID H ⟨some key⟩ text = some (serverIdStr H (text key))) ∧
    Gen.C13K.ServerIdentity_GetID H ⟨none⟩ text = some nilUuid := by
  refine ⟨fun key => ?_, rfl⟩
  rw [serverIdStr, serverPreStr, ← c13_gen_consts, ascii_id]; rfl

/-- in one equation: the translated function is the model's `serverIdOpt` (what the driver answers the op `nokey` with) -/
theorem c13_gen_ServerIdentity_GetID_opt (H : HashFns) (text : Bytes → Bytes) (si : Gen.C13K.ServerIdentity) :
    Gen.C13K.ServerIdentity_GetID H si text = some (serverIdOpt H (si.Public.map text)) := by
  obtain ⟨pub⟩ := si
  cases pub with
  | none => exact (c13_gen_ServerIdentity_GetID_eq H text).2
  | some k => exact (c13_gen_ServerIdentity_GetID_eq H text).1 k

theorem c13_gen_ServerIdentity_GetID_ed25519 (H : HashFns) (key : Bytes) :
    Gen.C13K.ServerIdentity_GetID H ⟨some key⟩ hexAscii = some (serverId H key) :=
  (c13_gen_ServerIdentity_GetID_eq H hexAscii).1 key

/-- **`Context.NewPeerSetID` as translated is the model's peer-set id**: SHA-256 over the service id followed by
the data, cut / padded to 32 bytes by `network.NewPeerSetID`; the slice `c.serviceID[:]` never panics. -/
theorem c13_gen_Context_NewPeerSetID_eq (H : HashFns) (c : Gen.C13.Context) (data : Bytes) :
    Gen.C13.Context_NewPeerSetID H c data = some (peerSetId H c.serviceID data) := by
  simp only [Gen.C13.Context_NewPeerSetID, Gen.Rt.slice_full, peerSetId, peerSetPre, List.nil_append]

/-! The hash feeds themselves (loops over a hash writer, translated by `go2lean` with the
hash object as an accumulating byte list: `Gen.Rt.loop`) -/

/-- the translated identity read as the model's roster member: its key, then its service keys in order -/
def memOfGen (id : Gen.C13.ServerIdentity) : Member :=
  { key := id.Public, svcs := id.ServiceIdentities.map (·.Public) }

private theorem loop_next {α σ ρ : Type} (f : σ → α → σ) (body : σ → α → Gen.Rt.Step ρ σ)
    (hb : ∀ s x, body s x = .next (f s x)) : ∀ (xs : List α) (s : σ), Gen.Rt.loop xs s body = Sum.inr (xs.foldl f s) :=
  fun xs s => Gen.Rt.loop_next f body xs s fun s x _ => hb s x

private theorem svc_loop {ρ : Type} (id : Gen.C13.ServerIdentity) (h : Bytes) :
    Gen.Rt.loop (ρ := ρ) id.ServiceIdentities (h ++ id.Public) (fun h srvid => Gen.Rt.Step.next (h ++ srvid.Public)) =
      Sum.inr (h ++ (memberKeys (memOfGen id)).flatten) := by
  rw [loop_next (fun h (s : Gen.C13.ServiceIdentity) => h ++ s.Public) _ fun _ _ => rfl, List.foldl_append_eq_append,
    List.append_assoc]
  rfl

private theorem member_loop {ρ : Type} (body : Bytes → Gen.C13.ServerIdentity → Gen.Rt.Step ρ Bytes)
    (hb : ∀ h id, body h id = .next (h ++ (memberKeys (memOfGen id)).flatten)) (ids : List Gen.C13.ServerIdentity) (h : Bytes) :
    Gen.Rt.loop ids h body = Sum.inr (h ++ rosterPre (ids.map memOfGen)) := by
  rw [loop_next _ _ hb, List.foldl_append_eq_append, rosterPre, rosterKeys_eq_flatMap, List.flatMap_def,
    List.flatten_flatten, List.map_map, List.map_map]
  rfl

/-- **the bytes `NewRoster`'s loops feed to the hash, as translated from the source, are the model's roster
pre-image** (appended to whatever the hash held): every member's key followed by its service keys, members in list
order.  Falsified by: skipping the service keys (mutant `C13_roster_ignores_service_keys`), feeding them before the
server key, a separator, feeding only the first member. -/
theorem c13_gen_NewRoster_h_eq (H : HashFns) (ids : List Gen.C13.ServerIdentity) (h : Bytes) :
    Gen.C13.NewRoster_h H ids h = h ++ rosterPre (ids.map memOfGen) := by
  rw [Gen.C13.NewRoster_h, member_loop _ (fun h id => by simp only [svc_loop])]

/-- **`NewRoster`'s id as assembled from the two translated pieces (hash feed, `ID:` expression) is the model's
roster id** -/
theorem c13_gen_NewRoster_id (H : HashFns) (ids : List Gen.C13.ServerIdentity) :
    Gen.C13.NewRoster_ID H (Gen.C13.NewRoster_h H ids []) = rosterId H (ids.map memOfGen) := by
  rw [c13_gen_NewRoster_h_eq]; rfl

/-- **`Roster.GetID` as translated (the whole function) is the model's roster id of the list**: it never fails, and it
is the id `NewRoster` gives the same list — the two derivations agree for every roster -/
theorem c13_gen_Roster_GetID_eq (H : HashFns) (ro : Gen.C13.Roster) :
    Gen.C13.Roster_GetID H ro = some (rosterId H (ro.List.map memOfGen)) ∧
    Gen.C13.Roster_GetID H ro = some (Gen.C13.NewRoster_ID H (Gen.C13.NewRoster_h H ro.List [])) := by
  -- `NewRoster`'s id is the model's too, so both parts say the same
  rw [c13_gen_NewRoster_id, and_self, Gen.C13.Roster_GetID]
  dsimp only
  rw [member_loop _ (fun h id => by simp only [svc_loop])]
  rfl

/-! #### the tree: the closure `NewTree` hands to `Visit`, folded over the pre-order walk, is the model's `dfs` -/

mutual
/-- the translated pointer tree (`Children` slices) as the model's first-child / next-sibling forest -/
def forestOfNode : Gen.C13.TreeNode → Forest → Forest
  | ⟨si, ch⟩, sib => .node si.Public (forestOfList ch) sib
def forestOfList : List Gen.C13.TreeNode → Forest
  | [] => .nil
  | c :: r => forestOfNode c (forestOfList r)
end

mutual
/-- `TreeNode.Visit` (tree.go: `fn(depth, t)`, then every child in order): the nodes in the order the closure sees them -/
def visitNode : Gen.C13.TreeNode → List Gen.C13.TreeNode
  | ⟨si, ch⟩ => ⟨si, ch⟩ :: visitList ch
def visitList : List Gen.C13.TreeNode → List Gen.C13.TreeNode
  | [] => []
  | c :: r => visitNode c ++ visitList r
end

theorem walkList_snd (d : Int) (ts : List Gen.C13.TreeNode) : (VisitGen.walkList d ts).map (·.2) = visitList ts := by
  induction ts using VisitGen.treeList_induct generalizing d with
  | nil => rfl
  | cons si ch r ihc ihr =>
    rw [VisitGen.walkList, VisitGen.walkNode, visitList, visitNode, List.cons_append, List.map_cons, List.map_append, ihc, ihr,
      List.cons_append]

private theorem visit_one (H : HashFns) (h : Bytes) (d : Int) (tn : Gen.C13.TreeNode) :
    Gen.C13.NewTree_visit H h d tn = h ++ (tn.ServerIdentity.Public ++ leafMark (forestOfList tn.Children)) := by
  obtain ⟨si, _ | ⟨⟨si', ch'⟩, r⟩⟩ := tn
  · exact List.append_assoc ..
  · exact congrArg (h ++ ·) (List.append_nil _).symm

private theorem visit_fold_list (H : HashFns) (d : Int) : ∀ (ts : List Gen.C13.TreeNode) (h : Bytes),
    (visitList ts).foldl (fun h tn => Gen.C13.NewTree_visit H h d tn) h = h ++ dfs (forestOfList ts) := by
  intro ts
  induction ts using VisitGen.treeList_induct with
  | nil => exact fun h => (List.append_nil h).symm
  | cons si ch r ihc ihr =>
    intro h
    rw [visitList, visitNode, List.cons_append, List.foldl_cons, List.foldl_append, visit_one, ihc, ihr, forestOfList,
      forestOfNode, dfs]
    simp only [List.append_assoc]

/-- **the closure `NewTree` hands to `Visit`, as translated from the source, folded over the pre-order walk of the
pointer tree, feeds the hash with the model's depth-first pre-image `dfs`**: every node's key, the byte `1` after a
leaf, whatever depth the walk reports.  Falsified by: no leaf marker (mutant `C13_tree_no_leaf_marker`), the marker
before the key or after inner nodes, the depth or the roster index fed to the hash (seed C13r3-A). -/
theorem c13_gen_NewTree_visit_dfs (H : HashFns) (d : Int) (root : Gen.C13.TreeNode) (h : Bytes) :
    (visitNode root).foldl (fun h tn => Gen.C13.NewTree_visit H h d tn) h = h ++ dfs (forestOfNode root .nil) := by
  have := visit_fold_list H d [root] h
  rwa [visitList, visitList, List.append_nil] at this

/-- **`NewTree`'s id as assembled from the translated pieces (closure over the walk, `url`, `ID:`) is the model's tree id** -/
theorem c13_gen_NewTree_id (H : HashFns) (d : Int) (ro : Gen.C13.Roster) (root : Gen.C13.TreeNode) :
    Gen.C13.NewTree_ID H (Gen.C13.NewTree_url H ro ((visitNode root).foldl (fun h tn => Gen.C13.NewTree_visit H h d tn) [])) =
      treeId H ro.ID (forestOfNode root .nil) := by
  rw [c13_gen_NewTree_visit_dfs, List.nil_append]
  exact c13_gen_NewTree_ID_tree H ro _

/-- non-vacuity: the two colliding witnesses of the known finding are pointer trees of the translation -/
example : let n (k : Nat) (ch : List Gen.C13.TreeNode) : Gen.C13.TreeNode := ⟨⟨[k], []⟩, ch⟩
    forestOfNode (n 10 [n 11 [n 12 [], n 13 []]]) .nil = wT1 ∧ forestOfNode (n 10 [n 11 [n 12 []], n 13 []]) .nil = wT2 := by
  constructor <;> rfl

/-- `TreeNode.Visit` as regenerated = the callback folded over the pre-order walk (node, then every child in order, depth + 1) -/
theorem c13_gen_Visit_eq (H : HashFns) {σ : Type} (fn : σ → Int → Gen.C13.TreeNode → σ) (fuel : Nat) (t : Gen.C13.TreeNode)
    (d : Int) (st : σ) (h : VisitGen.heightNode t ≤ fuel) :
    Gen.C13.TreeNode_Visit H fuel t d fn st = some ((VisitGen.walkNode d t).foldl (fun s p => fn s p.1 p.2) st) :=
  VisitGen.Visit_eq H fn fuel t d st h

private theorem walk_list {σ : Type} (g : σ → Int → Gen.C13.TreeNode → σ) (hg : ∀ s d d' n, g s d n = g s d' n) (d d0 : Int) :
    ∀ (ts : List Gen.C13.TreeNode) (st : σ), (VisitGen.walkList d ts).foldl (fun s p => g s p.1 p.2) st = (visitList ts).foldl (fun s n => g s d0 n) st := by
  intro ts st
  rw [← walkList_snd d ts, List.foldl_map]
  exact congrArg (fun f => List.foldl f st _) (funext fun s => funext fun p => hg s p.1 d0 p.2)

/-- **`NewTree`'s walk as the code runs it — the regenerated `Visit` driving the regenerated closure from depth 0 — feeds the hash
with `dfs`** -/
theorem c13_gen_NewTree_walk (H : HashFns) (fuel : Nat) (root : Gen.C13.TreeNode) (hf : VisitGen.heightNode root ≤ fuel) :
    Gen.C13.TreeNode_Visit H fuel root 0 (fun h d tn => Gen.C13.NewTree_visit H h d tn) [] = some (dfs (forestOfNode root .nil)) := by
  -- the closure does not look at the depth, so from depth 0 it feeds the hash what it does over `visitList [root]`
  have h := walk_list (fun h d tn => Gen.C13.NewTree_visit H h d tn) (fun _ _ _ _ => rfl) 0 0 [root] []
  rw [visit_fold_list, VisitGen.walkList, VisitGen.walkList, List.append_nil, List.nil_append] at h
  rw [VisitGen.Visit_eq H _ fuel root 0 [] hf, h]
  rfl

/-- **`NewTree`'s identifier with every piece regenerated from the source** — the walk (`TreeNode.Visit`), the closure it drives,
the `url` and the `ID:` expression: for fuel ≥ the height of the pointer tree the walk returns, and the id assembled from
what it returns is the model's tree id of the forest the pointer tree stands for.  No hand-written step is left between
`tree.go` and `treeId`; the pre-image theorems of Props/C13.lean (`c13_tree_collision_iff`, `c13_tree_full_nary_injective`, the
two tree collisions) speak about this function. -/
theorem c13_gen_NewTree_whole (H : HashFns) (ro : Gen.C13.Roster) (root : Gen.C13.TreeNode) (fuel : Nat)
    (hf : VisitGen.heightNode root ≤ fuel) :
    (Gen.C13.TreeNode_Visit H fuel root 0 (fun h d tn => Gen.C13.NewTree_visit H h d tn) []).map
      (fun h => Gen.C13.NewTree_ID H (Gen.C13.NewTree_url H ro h)) = some (treeId H ro.ID (forestOfNode root .nil)) := by
  rw [c13_gen_NewTree_walk H fuel root hf]
  exact congrArg some (c13_gen_NewTree_ID_tree H ro _)

/-- non-vacuity: on the pointer tree of the witness r(a(b,c)) the walk returns with fuel 3 -/
example (H : HashFns) : let n (k : Nat) (ch : List Gen.C13.TreeNode) : Gen.C13.TreeNode := ⟨⟨[k], []⟩, ch⟩
    Gen.C13.TreeNode_Visit H 3 (n 10 [n 11 [n 12 [], n 13 []]]) 0 (fun h d tn => Gen.C13.NewTree_visit H h d tn) [] = some (dfs wT1) :=
  c13_gen_NewTree_walk H 3 _ (by decide)

/-! `Gen/C13Svc.lean`: `serviceFactory.ServiceID`, `Name`, `Suite`, `SuiteByID`, `RegisteredServiceNames`, `registeredServiceIDs` whole;
`Unregister` as its three pieces (the search loop with `break`, the not-found test, the removal by two slices and `append`).
Proofs: `Proofs/C13SvcGen.lean` (`SvcGen.regOf` reads the translated factory as the model's registry; `Suite` is `SvcGen.Suite_eq` there). -/

/-- `serviceFactory.ServiceID` as regenerated = `svcLookupId` (the id of the first entry with that name, else the nil id) -/
theorem c13_gen_svc_ServiceID_eq (s : Gen.C13Svc.serviceFactory) (name : Bytes) :
    Gen.C13Svc.serviceFactory_ServiceID s name = svcLookupId (SvcGen.regOf s) name := SvcGen.ServiceID_eq s name

/-- `serviceFactory.Name` as regenerated = `svcLookupName` -/
theorem c13_gen_svc_Name_eq (s : Gen.C13Svc.serviceFactory) (id : Bytes) :
    Gen.C13Svc.serviceFactory_Name s id = svcLookupName (SvcGen.regOf s) id := SvcGen.Name_eq s id

/-- `serviceFactory.SuiteByID` as regenerated = `svcLookupSuite` (Go's nil for "no entry" and for "default suite" alike) -/
theorem c13_gen_svc_SuiteByID_eq (s : Gen.C13Svc.serviceFactory) (id : Bytes) :
    Gen.C13Svc.serviceFactory_SuiteByID s id = (svcLookupSuite (SvcGen.regOf s) id).getD none := SvcGen.SuiteByID_eq s id

/-- `RegisteredServiceNames` / `registeredServiceIDs` as regenerated: names / ids in registration order -/
theorem c13_gen_svc_names_ids_eq (s : Gen.C13Svc.serviceFactory) :
    Gen.C13Svc.serviceFactory_RegisteredServiceNames s = (SvcGen.regOf s).map (·.name) ∧
    Gen.C13Svc.serviceFactory_registeredServiceIDs s = (SvcGen.regOf s).map (·.id) := SvcGen.names_ids_eq s

/-- **`serviceFactory.Unregister` as its three regenerated pieces = `svcUnregister`**: an error exactly when no entry has the name,
otherwise the FIRST such entry is removed (the `break`), never a slice panic.  Falsified by: no `break` (last match:
mutant `C13_unregister_last_match`), `index+1` dropped, `index <= 0`. -/
theorem c13_gen_svc_Unregister_eq (s : Gen.C13Svc.serviceFactory) (name : Bytes) :
    (let i := Gen.C13Svc.Unregister_index s name (-1)
     if Gen.C13Svc.Unregister_notFound i then some none
     else (Gen.C13Svc.Unregister_rest s i).map fun l => some (l.map SvcGen.entryOf)) =
    some (svcUnregister (SvcGen.regOf s) name) := SvcGen.Unregister_eq s name

end C13

import OnetVerif.Model.C12
import OnetVerif.Proofs.C12Big
import OnetVerif.Proofs.C12Nary
import OnetVerif.Shapes
/-! Property C12 — generated trees are well-formed and have the documented shape: the n-ary generator builds the closed
form `naryClosed` (Proofs/C12Nary.lean); the general theorems about the big generator are `genBig_run` (Proofs/C12Big.lean,
where `LevelsOK`, `levelSizesPow`, `membersOf` of the statements are defined) at the invariant `StOK`, for the uniform host
layouts at `StOK` with "servers in roster order"; the known finding is two test vectors.  Core Lean only. -/
namespace C12

/-! ### the n-ary generator equals the complete tree in breadth-first order -/

/-- **the n-ary generator builds the complete N-ary tree in breadth-first order**: for every
branching factor `N ≥ 1`, roster size `n ≥ 1` and root position, the node created `i`-th hosts
roster member `(i + root) mod n` and hangs below the node created `(i − 1)/N`-th. -/
theorem c12_nary_is_complete (N n rootIdx : Nat) (hN : 1 ≤ N) (hn : 1 ≤ n) (hr : rootIdx < n) :
    genNary N (some rootIdx) n = .tree (naryClosed N rootIdx n) := by
  have h0 : NaryInv N rootIdx n 0 { nodes := [(rootIdx, 0)], parents := [0], children := [] } :=
    ⟨by simp [closedPrefix, Nat.mod_eq_of_lt hr], List.cons_ne_nil _ _, by rw [Nat.zero_sub, Nat.zero_div]; rfl⟩
  obtain ⟨s, hs, hinv, _⟩ := naryLoop_inv hN rootIdx n (n - 1) 0 _ h0
  rw [Nat.zero_add, Nat.sub_add_cancel hn] at hinv
  rw [genNary, hs]
  exact congrArg Outcome.tree hinv

/-- asking for a root that is not in the roster yields no tree -/
theorem c12_unknown_root_none (N n : Nat) : genNary N none n = .noTree := rfl

/-- the closed form: size, root, roster positions, parent links -/
theorem c12_nary_shape (N n rootIdx : Nat) (hn : 1 ≤ n) (hr : rootIdx < n) :
    (naryClosed N rootIdx n).length = n ∧
    (naryClosed N rootIdx n)[0]? = some (rootIdx, 0) ∧
    (∀ i, i < n → (naryClosed N rootIdx n)[i]? = some ((i + rootIdx) % n, (i - 1) / N)) ∧
    (∀ i m p, 1 ≤ i → (naryClosed N rootIdx n)[i]? = some (m, p) → p < i) := by
  have hlen := naryClosed_length N rootIdx n
  have h3 : ∀ i, i < n → (naryClosed N rootIdx n)[i]? = some ((i + rootIdx) % n, (i - 1) / N) := by
    intro i hi
    simp only [naryClosed, List.getElem?_map, List.getElem?_range hi, Option.map_some]
  refine ⟨hlen, ?_, h3, ?_⟩
  · rw [h3 0 hn, Nat.zero_add, Nat.mod_eq_of_lt hr, Nat.zero_sub, Nat.zero_div]
  · intro i m p hi h
    have hin : i < n := hlen ▸ (List.getElem?_eq_some_iff.mp h).1
    rw [h3 i hin, Option.some.injEq, Prod.mk.injEq] at h
    rw [← h.2]
    exact Nat.lt_of_le_of_lt (Nat.div_le_self _ _) (Nat.sub_one_lt (Nat.ne_of_gt hi))

/-- **levels are filled breadth-first, at most `N` children per node**: the children of the node
at position `p` are exactly the positions `N·p+1 … N·p+N` (as far as they exist) -/
theorem c12_nary_children_block (N : Nat) (hN : 1 ≤ N) (i p : Nat) (hi : 1 ≤ i) :
    (i - 1) / N = p ↔ N * p + 1 ≤ i ∧ i ≤ N * p + N := by
  rw [div_eq_block hN, Nat.le_sub_one_iff_lt hi, Nat.sub_lt_iff_lt_add hi, Nat.lt_succ_iff]
  exact Iff.rfl

theorem c12_nary_branching (N n rootIdx : Nat) (hN : 1 ≤ N) (p : Nat) :
    (((naryClosed N rootIdx n).drop 1).map (·.2)).count p ≤ N := by
  rw [naryClosed_parents, count_closedParents hN]
  exact Nat.min_le_left _ _

/-- **exactly one node per roster member** (hence pairwise distinct node identifiers when the
servers' keys are pairwise distinct): the positions ↦ members map is a bijection of `0 … n−1` -/
theorem c12_nary_one_node_per_member (n rootIdx : Nat) (hr : rootIdx < n) :
    (∀ i j, i < n → j < n → (i + rootIdx) % n = (j + rootIdx) % n → i = j) ∧
    (∀ m, m < n → ∃ i, i < n ∧ (i + rootIdx) % n = m) := by
  have hle : rootIdx ≤ n := Nat.le_of_lt hr
  constructor
  · intro i j hi hj h
    have := congrArg (fun x => (x + (n - rootIdx)) % n) h
    simp only [rot_cancel hle, Nat.mod_eq_of_lt hi, Nat.mod_eq_of_lt hj] at this
    exact this
  · intro m hm
    refine ⟨(m + (n - rootIdx)) % n, Nat.mod_lt _ (Nat.zero_lt_of_lt hr), ?_⟩
    have := rot_cancel (Nat.sub_le n rootIdx) m
    rwa [Nat.sub_sub_self hle, Nat.mod_eq_of_lt hm] at this

/-- **binary and star are the special cases** `N = 2` and `N = n − 1` with the first server as root;
the star is the root with every other server as its child, in roster order -/
theorem c12_binary_star_special (n : Nat) (hn : 1 ≤ n) :
    genBinary n = .tree (naryClosed 2 0 n) ∧
    genStar n = .tree ((List.range n).map fun i => (i, 0)) := by
  constructor
  · exact c12_nary_is_complete 2 n 0 (Nat.le_succ 1) hn hn
  · by_cases h1 : n = 1
    · subst h1; rfl
    · have h2 : 1 ≤ n - 1 := Nat.le_sub_one_of_lt (Nat.lt_of_le_of_ne hn (Ne.symm h1))
      rw [genStar, genNaryFirst, c12_nary_is_complete (n - 1) n 0 h2 hn hn, naryClosed]
      refine congrArg Outcome.tree (List.map_congr_left fun i hi => ?_)
      -- every position but the root's is within the first block of `n − 1`
      have hi' : i ≤ n - 1 := Nat.le_sub_one_of_lt (List.mem_range.mp hi)
      rw [Nat.add_zero, Nat.mod_eq_of_lt (List.mem_range.mp hi), Nat.div_eq_of_lt
        (Nat.lt_of_le_of_lt (Nat.sub_le_sub_right hi' 1) (Nat.sub_one_lt (Nat.ne_of_gt h2)))]

/-- non-vacuity / sanity: seven servers, binary, root 3 -/
example : genNary 2 (some 3) 7 = .tree [(3, 0), (4, 0), (5, 0), (6, 1), (0, 1), (1, 2), (2, 2)] := by decide +kernel

/-- outside the domain of the statements above: a branching factor 0 with more than one server
makes the loop index an empty slice -/
example : genNary 0 (some 0) 3 = .panic := by decide +kernel

/-! ### members, root lookup, node identifiers and levels of the n-ary tree -/

/-- **one node per roster member, on the generated tree itself**: the servers on the nodes of the
complete tree are pairwise distinct, there are `n` of them, and every roster position occurs -/
theorem c12_nary_members (N n rootIdx : Nat) (hr : rootIdx < n) :
    ((naryClosed N rootIdx n).map (·.1)).Nodup ∧ ((naryClosed N rootIdx n).map (·.1)).length = n ∧
    (∀ m, m ∈ (naryClosed N rootIdx n).map (·.1) ↔ m < n) := by
  have hb := c12_nary_one_node_per_member n rootIdx hr
  have hm : (naryClosed N rootIdx n).map (·.1) = (List.range n).map fun i => (i + rootIdx) % n := by
    rw [naryClosed, List.map_map]; rfl
  rw [hm]
  refine ⟨?_, by rw [List.length_map, List.length_range], ?_⟩
  · apply List.nodup_map_inj_on _ _ List.nodup_range
    intro a ha b hb' h
    exact hb.1 a b (List.mem_range.mp ha) (List.mem_range.mp hb') h
  · intro m
    constructor
    · intro h
      obtain ⟨i, _, rfl⟩ := List.mem_map.mp h
      exact Nat.mod_lt _ (Nat.zero_lt_of_lt hr)
    · intro h
      obtain ⟨i, hi, he⟩ := hb.2 m h
      exact List.mem_map.mpr ⟨i, List.mem_range.mpr hi, he⟩

/-- **the requested root, or no tree**: a root that is not a member of the roster yields no tree; a
root that is one yields the complete tree rooted at its (first) position in the roster; no root
given means the first server.  For every branching factor `N ≥ 1` and every roster. -/
theorem c12_root_lookup (N : Nat) (keys : List Nat) (k : Nat) (hN : 1 ≤ N) :
    (k ∉ keys → genNaryKeys N keys (some k) = .noTree) ∧
    (k ∈ keys → ∃ r, r < keys.length ∧ keys.getD r 0 = k ∧ (∀ j, j < r → keys.getD j 0 ≠ k) ∧
        genNaryKeys N keys (some k) = .tree (naryClosed N r keys.length)) ∧
    (keys ≠ [] → genNaryKeys N keys none = .tree (naryClosed N 0 keys.length)) := by
  refine ⟨?_, ?_, ?_⟩
  · intro h
    simp [genNaryKeys, search_none h, genNary]
  · intro h
    obtain ⟨r, hs, hr, hk, hb⟩ := search_some h
    refine ⟨r, hr, hk, hb, ?_⟩
    simp only [genNaryKeys, hs]
    exact c12_nary_is_complete N keys.length r hN (Nat.zero_lt_of_lt hr) hr
  · intro h
    have : 1 ≤ keys.length := List.length_pos_iff.mpr h
    simp only [genNaryKeys, h, if_false]
    exact c12_nary_is_complete N keys.length 0 hN this this

/-- **the root is looked up in the roster as it is at the time of the call**: after two entries of the
list were exchanged in place (same length, same members) a root that moved is found at its new
position — the tree is rooted there, and rooted at the old position only if the same server is still
(first) there.  (`c12_root_lookup` is for every list; this is its instance for a changed one.) -/
theorem c12_root_lookup_after_swap (N : Nat) (keys : List Nat) (i j k : Nat) (hN : 1 ≤ N)
    (hk : k ∈ swapAt keys i j) :
    (swapAt keys i j).length = keys.length ∧
    ∃ r, r < keys.length ∧ (swapAt keys i j).getD r 0 = k ∧ (∀ q, q < r → (swapAt keys i j).getD q 0 ≠ k) ∧
      genNaryKeys N (swapAt keys i j) (some k) = .tree (naryClosed N r keys.length) := by
  have hl := length_swapAt keys i j
  refine ⟨hl, ?_⟩
  obtain ⟨r, h1, h2, h3, h4⟩ := (c12_root_lookup N (swapAt keys i j) k hN).2.1 hk
  rw [hl] at h1 h4
  exact ⟨r, h1, h2, h3, h4⟩

/-- non-vacuity: the root 7 moves from position 0 to position 2 -/
example : genNaryKeys 2 (swapAt [7, 8, 9] 0 2) (some 7) = .tree (naryClosed 2 2 3) ∧
    genNaryKeys 2 [7, 8, 9] (some 7) = .tree (naryClosed 2 0 3) := by decide +kernel

/-- **`ro.NewRosterWithRoot(root)` followed by `GenerateNaryTree(N)`** (the documented way to a tree whose root is the
roster's first entry): a root outside the roster yields no roster and no tree; a member root yields the list with the
entries 0 and `r` (the root's first position) exchanged — same length, the root first, the old first entry at `r`,
every other entry in place — and the complete `N`-ary tree over it rooted at its first entry.  Falsified by: a guard
that lets a non-member through (seed C12r7-A: the old order, a tree rooted at the old first member), a rotation instead
of the exchange, an exchange with the last match. -/
theorem c12_withroot_tree (N : Nat) (keys : List Nat) (k : Nat) (hN : 1 ≤ N) :
    (k ∉ keys → withRootKeys keys k = none ∧ genWithRootRoster N keys k = .noTree) ∧
    (k ∈ keys → ∃ r keys', r < keys.length ∧ keys.getD r 0 = k ∧ (∀ j, j < r → keys.getD j 0 ≠ k) ∧
        withRootKeys keys k = some keys' ∧ keys'.length = keys.length ∧ keys'.getD 0 0 = k ∧
        keys'.getD r 0 = keys.getD 0 0 ∧ (∀ p, p ≠ 0 → p ≠ r → keys'.getD p 0 = keys.getD p 0) ∧
        genWithRootRoster N keys k = .tree (naryClosed N 0 keys.length)) := by
  constructor
  · intro h
    simp [withRootKeys, genWithRootRoster, search_none h]
  · intro h
    obtain ⟨r, hs, hr, hk, hb⟩ := search_some h
    have h0 : 0 < keys.length := Nat.zero_lt_of_lt hr
    have hsw := getD_swapAt keys h0 hr
    have l1 := length_swapAt keys 0 r
    refine ⟨r, swapAt keys 0 r, hr, hk, hb, by rw [withRootKeys, hs], l1, ?_, by rw [hsw r, if_pos rfl],
      fun p hp0 hpr => by rw [hsw p, if_neg hpr, if_neg hp0], ?_⟩
    · rw [hsw 0]
      split
      · next h => rw [← h] at hk; exact hk
      · exact hk
    · have hne : swapAt keys 0 r ≠ [] := List.ne_nil_of_length_pos (l1 ▸ h0)
      simp only [genWithRootRoster, withRootKeys, hs, (c12_root_lookup N (swapAt keys 0 r) 0 hN).2.2 hne, l1]

/-- non-vacuity, and the negation witness for the seeded variant: servers 5, 6, 7 with root 7 give the list 7, 6, 5;
with the stranger 9 there is no roster — not the old list -/
example : withRootKeys [5, 6, 7] 7 = some [7, 6, 5] ∧ withRootKeys [5, 6, 7] 9 = none ∧
    withRootKeys [5, 6, 7] 9 ≠ some [5, 6, 7] ∧ genWithRootRoster 2 [5, 6, 7] 9 = .noTree := by decide +kernel

/-- **pairwise distinct node identifiers**: over a roster of pairwise distinct servers the nodes of
the generated tree carry pairwise distinct ids, and the ids are exactly the servers' (every server
hosts one node) -/
theorem c12_nary_distinct_ids (N : Nat) (keys : List Nat) (r : Nat) (hnd : keys.Nodup) (hr : r < keys.length) :
    (nodeIds keys (naryClosed N r keys.length)).Nodup ∧
    (nodeIds keys (naryClosed N r keys.length)).length = keys.length ∧
    (∀ k, k ∈ nodeIds keys (naryClosed N r keys.length) ↔ k ∈ keys) := by
  obtain ⟨m1, _, m3⟩ := c12_nary_members N keys.length r hr
  -- the servers on the nodes are a permutation of the roster positions, so the ids are a permutation of the keys
  have hp := ((List.perm_ext_iff_of_nodup m1 List.nodup_range).mpr fun m => (m3 m).trans List.mem_range.symm).map
    fun i => keys.getD i 0
  have hk : (List.range keys.length).map (fun i => keys.getD i 0) = keys :=
    List.ext_getElem (by simp) fun i h1 h2 => by simp [List.getD_eq_getElem?_getD, List.getElem?_eq_getElem h2]
  rw [List.map_map, hk] at hp
  exact ⟨hp.nodup_iff.mpr hnd, hp.length_eq, fun k => hp.mem_iff⟩

/-- outside the domain (a roster that lists a server twice): two nodes with the same id -/
example : genNaryKeys 2 [7, 8, 7] (some 7) = .tree [(0, 0), (1, 0), (2, 0)] ∧
    ¬ (nodeIds [7, 8, 7] [(0, 0), (1, 0), (2, 0)]).Nodup := by decide +kernel

/-- position of the first node of depth `k` in the complete `N`-ary tree: 0, 1, N+1, N²+N+1, … -/
def levelStart (N : Nat) : Nat → Nat
  | 0 => 0
  | k + 1 => N * levelStart N k + 1

/-- depth of the node at position `i` of the generated tree (walk up the parent links `(i−1)/N`) -/
def depthOf (N : Nat) : (fuel i : Nat) → Nat
  | 0, _ => 0
  | fuel + 1, i => if i = 0 then 0 else depthOf N fuel ((i - 1) / N) + 1

theorem levelStart_succ (N k : Nat) : levelStart N (k + 1) = levelStart N k + N ^ k := by
  induction k with
  | zero => rfl
  | succ k ih =>
    show N * levelStart N (k + 1) + 1 = levelStart N (k + 1) + N ^ (k + 1)
    conv => lhs; rw [ih, Nat.mul_add, Nat.add_right_comm, ← Nat.pow_succ']
    rfl

/-- the parent of a node of level `k+1` lies in level `k`, and only those do -/
theorem c12_nary_level_parent (N : Nat) (hN : 1 ≤ N) (i k : Nat) (hi : 1 ≤ i) :
    (levelStart N (k + 1) ≤ i ∧ i < levelStart N (k + 2)) ↔
      (levelStart N k ≤ (i - 1) / N ∧ (i - 1) / N < levelStart N (k + 1)) := by
  rw [Nat.le_div_iff_mul_le hN, Nat.div_lt_iff_lt_mul hN, Nat.le_sub_one_iff_lt hi, Nat.sub_lt_iff_lt_add hi,
    Nat.mul_comm _ N, Nat.mul_comm _ N]
  exact Iff.rfl

/-- **levels are filled breadth-first**: the nodes of depth `k` of the generated tree are exactly
the positions `levelStart k … levelStart (k+1) − 1` (as far as they exist) — a level is begun only
when all levels above it are full — … -/
theorem c12_nary_depth_block (N : Nat) (hN : 1 ≤ N) : ∀ (fuel i : Nat), i ≤ fuel →
    levelStart N (depthOf N fuel i) ≤ i ∧ i < levelStart N (depthOf N fuel i + 1) := by
  intro fuel
  induction fuel with
  | zero => intro i hi; obtain rfl := Nat.le_zero.mp hi; exact ⟨Nat.le_refl 0, Nat.succ_pos _⟩
  | succ f ih =>
    intro i hi
    by_cases h0 : i = 0
    · subst h0; exact ⟨Nat.le_refl 0, Nat.succ_pos _⟩
    · rw [depthOf, if_neg h0]
      have hp : (i - 1) / N ≤ f := Nat.le_trans (Nat.div_le_self _ _) (Nat.sub_le_of_le_add hi)
      exact (c12_nary_level_parent N hN i _ (Nat.pos_of_ne_zero h0)).mpr (ih _ hp)

/-- … and level `k` therefore holds `min (N^k) (what is left after the levels above)` nodes of a
tree with `n` nodes -/
theorem c12_nary_level_sizes (N n k : Nat) :
    min (levelStart N (k + 1)) n - min (levelStart N k) n = min (N ^ k) (n - levelStart N k) := by
  rw [levelStart_succ]
  generalize N ^ k = p
  generalize levelStart N k = s
  rcases Nat.le_total n s with h | h
  · rw [Nat.min_eq_right h, Nat.min_eq_right (Nat.le_trans h (Nat.le_add_right s p)), Nat.sub_self,
      Nat.sub_eq_zero_of_le h, Nat.min_zero]
  · obtain ⟨d, rfl⟩ := Nat.exists_eq_add_of_le h
    rw [Nat.add_min_add_left, Nat.min_eq_left h, Nat.add_sub_cancel_left, Nat.add_sub_cancel_left]

/-! ### onet's own predicates on the generated n-ary tree

`Tree.IsNary` / `IsBinary` / `Size` / `UsesList` and `len(Children)` (tree.go:232-278) are the predicates
onet's tests and users judge a tree by.  On the trees the generators return they are closed forms of
`(N, n)`: node `p` has `min N (n − 1 − N·p)` children, the tree passes `IsNary(N)` exactly when
`N ∣ n − 1` (a binary tree exactly for odd `n`), `Size` is `n`, every member is used. -/

/-- **arity of every node** of the generated n-ary tree: position `p` has `min N (n − 1 − N·p)`
children — `N` while the remaining nodes last, then the rest, then none -/
theorem c12_nary_arity (N n r : Nat) (hN : 1 ≤ N) (hn : 1 ≤ n) (p : Nat) :
    arity (naryClosed N r n) p = min N (n - 1 - N * p) := by
  unfold arity
  rw [naryClosed_parents, count_closedParents hN]

/-- **`IsNary(N)` of the generated tree** holds exactly when the last parent is full: `N ∣ n − 1` -/
theorem c12_nary_isNary_iff (N n r : Nat) (hN : 1 ≤ N) (hn : 1 ≤ n) :
    isNary (naryClosed N r n) N = true ↔ (n - 1) % N = 0 := by
  unfold isNary
  rw [naryClosed_length, List.all_eq_true]
  simp only [c12_nary_arity N n r hN hn, Bool.or_eq_true, beq_iff_eq, List.mem_range]
  constructor
  · -- the last parent, `(n − 1) / N`, has `(n − 1) % N < N` children
    intro h
    have hp := h ((n - 1) / N) (Nat.lt_of_le_of_lt (Nat.div_le_self _ _) (Nat.sub_one_lt (Nat.ne_of_gt hn)))
    rw [← Nat.mod_def, Nat.min_eq_right (Nat.le_of_lt (Nat.mod_lt _ hN))] at hp
    exact hp.resolve_left (Nat.ne_of_lt (Nat.mod_lt _ hN))
  · -- `n − 1 = N·q`: position `p` has `min N (N·(q − p))` children
    intro h p _
    obtain ⟨q, hq⟩ : ∃ q, n - 1 = N * q := ⟨_, (Nat.mul_div_cancel' (Nat.dvd_of_mod_eq_zero h)).symm⟩
    rw [hq, ← Nat.mul_sub]
    rcases Nat.eq_zero_or_pos (q - p) with h0 | h0
    · right; rw [h0, Nat.mul_zero, Nat.min_zero]
    · left; exact Nat.min_eq_left (Nat.le_mul_of_pos_right N h0)

/-- the binary generator returns a tree that passes `IsBinary` exactly for an odd number of servers -/
theorem c12_binary_isBinary_iff (n : Nat) (hn : 1 ≤ n) :
    genBinary n = .tree (naryClosed 2 0 n) ∧ (isBinary (naryClosed 2 0 n) = true ↔ n % 2 = 1) := by
  refine ⟨(c12_binary_star_special n hn).1, ?_⟩
  unfold isBinary
  rw [c12_nary_isNary_iff 2 n 0 (Nat.le_succ 1) hn]
  obtain ⟨m, rfl⟩ := Nat.exists_eq_add_of_le' hn
  rw [Nat.add_sub_cancel, Nat.add_mod]
  rcases Nat.mod_two_eq_zero_or_one m with h | h <;> rw [h] <;> decide

/-- the star generator: the root has all other servers as children and the tree passes `IsNary(n − 1)` -/
theorem c12_star_isNary (n : Nat) (hn : 2 ≤ n) :
    genStar n = .tree (naryClosed (n - 1) 0 n) ∧ isNary (naryClosed (n - 1) 0 n) (n - 1) = true ∧
      arity (naryClosed (n - 1) 0 n) 0 = n - 1 := by
  have h1 : 1 ≤ n - 1 := Nat.le_sub_one_of_lt hn
  have hn1 : 1 ≤ n := Nat.le_of_succ_le hn
  refine ⟨c12_nary_is_complete (n - 1) n 0 h1 hn1 hn1, ?_, ?_⟩
  · rw [c12_nary_isNary_iff (n - 1) n 0 h1 hn1]; exact Nat.mod_self _
  · rw [c12_nary_arity (n - 1) n 0 h1 hn1, Nat.mul_zero, Nat.sub_zero, Nat.min_self]

/-- **`Size()` of the generated n-ary tree is the roster size** (computed as the code does, by the walk
from the root) -/
theorem c12_nary_size (N n r : Nat) (hn : 1 ≤ n) : size (naryClosed N r n) = n := by
  rw [size_eq_length, naryClosed_length]
  · exact fun h0 => Nat.ne_of_gt hn (naryClosed_length N r n ▸ congrArg List.length h0)
  · rw [naryClosed_parents]
    exact fun i q => closedParents_lt

/-- **`UsesList()` of the generated n-ary tree is true**: every roster member is on a node -/
theorem c12_nary_usesList (N n r : Nat) (hr : r < n) : usesList (naryClosed N r n) n = true :=
  usesList_of_members fun m => ((c12_nary_members N n r hr).2.2 m).mpr

/-- **number of leaves** of the generated n-ary tree: all nodes but the `⌈(n−1)/N⌉` parents -/
theorem c12_nary_leaves (N n r : Nat) (hN : 1 ≤ N) (hn : 1 ≤ n) :
    leaves (naryClosed N r n) = n - (n - 1 + N - 1) / N := by
  unfold leaves
  rw [naryClosed_length, ← filter_ge_length ((n - 1 + N - 1) / N) n]
  congr 1
  apply List.filter_congr
  intro p _
  -- no children: `n − 1 ≤ N·p`, that is `⌈(n−1)/N⌉ ≤ p`
  rw [c12_nary_arity N n r hN hn, Bool.eq_iff_iff, beq_iff_eq, decide_eq_true_iff, Nat.min_eq_zero_iff,
    Nat.sub_eq_zero_iff_le, Nat.div_le_iff_le_mul_add_pred hN, Nat.add_sub_assoc hN, Nat.add_le_add_iff_right]
  exact or_iff_right (Nat.ne_of_gt hN)

/-- non-vacuity: 7 servers / binary passes `IsBinary`, 6 servers does not; a star of 5 -/
example : isBinary (naryClosed 2 3 7) = true ∧ isBinary (naryClosed 2 0 6) = false ∧
    size (naryClosed 2 3 7) = 7 ∧ usesList (naryClosed 2 3 7) 7 = true ∧ leaves (naryClosed 2 3 7) = 4 ∧
    isNary (naryClosed 4 0 5) 4 = true := by decide +kernel

/-! ### the big generator: shape -/

private theorem genBig_ok (c : BigCfg) (hN : 1 ≤ c.N) (hnodes : 1 ≤ c.nodes) (lv : List Level)
    (h : genBig c = .tree lv) :
    ∃ more st', lv = [(0, 0)] :: more ∧ more.map List.length = levelSizesPow c.N c.nodes 1 (c.nodes - 1) ∧
      LevelsOK c.N [(0, 0)] more ∧ 1 + (more.map List.length).sum = c.nodes ∧
      StOK c st' (membersOf lv) ∧ st'.total = c.nodes := by
  have hil : 0 < c.ilLen := Nat.pos_of_ne_zero fun h0 => by rw [genBig, if_pos h0] at h; cases h
  obtain ⟨more, st', ho, rest⟩ := genBig_run (stOK_pickInv c) hN hil hnodes (stOK_init c hil)
  rw [ho] at h
  cases h
  exact ⟨more, st', rfl, rest⟩

/-- **shape of the big tree, whatever the hosts**: if `GenerateBigNaryTree(N, nodes)` returns
(`N ≥ 1`, `nodes ≥ 1`) then the result is the root — the first server — followed by levels whose
sizes are `min (N^k) remaining`, `nodes` nodes in all, every node's parent index lies in the
previous level and no parent index occurs more than `N` times. -/
theorem c12_big_shape (c : BigCfg) (hN : 1 ≤ c.N) (hnodes : 1 ≤ c.nodes) (lv : List Level)
    (h : genBig c = .tree lv) :
    ∃ more, lv = [(0, 0)] :: more ∧
      more.map List.length = levelSizesPow c.N c.nodes 1 (c.nodes - 1) ∧
      LevelsOK c.N [(0, 0)] more ∧ 1 + (more.map List.length).sum = c.nodes := by
  obtain ⟨more, _, h1, hs, hok, hsum, _⟩ := genBig_ok c hN hnodes lv h
  exact ⟨more, h1, hs, hok, hsum⟩

/-- exactly `nodes` nodes -/
theorem c12_big_size (c : BigCfg) (hN : 1 ≤ c.N) (hnodes : 1 ≤ c.nodes) (lv : List Level)
    (h : genBig c = .tree lv) : (lv.map List.length).sum = c.nodes := by
  obtain ⟨more, rfl, _, _, h4⟩ := c12_big_shape c hN hnodes lv h
  simpa using h4

/-- the root is the first server of the roster -/
theorem c12_big_root (c : BigCfg) (hN : 1 ≤ c.N) (hnodes : 1 ≤ c.nodes) (lv : List Level)
    (h : genBig c = .tree lv) : lv.head? = some [(0, 0)] := by
  obtain ⟨more, rfl, _, _, _⟩ := c12_big_shape c hN hnodes lv h
  rfl

/-- at most `N` children per node, and every parent link points into the previous level -/
theorem c12_big_branching (c : BigCfg) (hN : 1 ≤ c.N) (hnodes : 1 ≤ c.nodes) (lv : List Level)
    (h : genBig c = .tree lv) : ∃ more, lv = [(0, 0)] :: more ∧ LevelsOK c.N [(0, 0)] more := by
  obtain ⟨more, h1, _, h3, _⟩ := c12_big_shape c hN hnodes lv h
  exact ⟨more, h1, h3⟩

/-- level `k` holds `min (N^k) remaining` nodes -/
theorem c12_big_levels (c : BigCfg) (hN : 1 ≤ c.N) (hnodes : 1 ≤ c.nodes) (lv : List Level)
    (h : genBig c = .tree lv) : lv.map List.length = 1 :: levelSizesPow c.N c.nodes 1 (c.nodes - 1) := by
  obtain ⟨more, rfl, h2, _, _⟩ := c12_big_shape c hN hnodes lv h
  simp [h2]

/-! ### the host-avoidance / use-all loop always ends; use-all uses every server once -/

/-- **the big generator always returns**: for `N ≥ 1` and a non-empty roster neither the
host-avoidance loop nor the level loop can run for ever (and nothing indexes out of range) -/
theorem c12_big_terminates (c : BigCfg) (hN : 1 ≤ c.N) (hn : 1 ≤ c.hosts.length) (hnodes : 1 ≤ c.nodes) :
    ∃ lv, genBig c = .tree lv := by
  obtain ⟨more, _, ho, _⟩ := genBig_run (stOK_pickInv c) hN hn hnodes (stOK_init c hn)
  exact ⟨_, ho⟩

/-- **use-all**: when the requested number of nodes equals the roster size, every roster member is
placed on exactly one node (whatever the hosts — use-all has preference over host avoidance) -/
theorem c12_big_use_all (c : BigCfg) (hN : 1 ≤ c.N) (hall : c.nodes = c.hosts.length) (hnodes : 1 ≤ c.nodes)
    (lv : List Level) (h : genBig c = .tree lv) :
    (membersOf lv).Nodup ∧ (membersOf lv).length = c.hosts.length ∧ ∀ m, m < c.hosts.length → m ∈ membersOf lv := by
  have hU : c.useAll = true := by rw [BigCfg.useAll, BigCfg.ilLen, hall]; exact beq_self_eq_true _
  obtain ⟨more, st', rfl, _, _, hsum, hso, hto⟩ := genBig_ok c hN hnodes lv h
  have s1 := hso.usedLen
  obtain ⟨a1, a2, a3⟩ := hso.useAll hU
  refine ⟨a2, ?_, ?_⟩
  · rw [membersOf, List.length_map, List.length_flatten, ← hall, ← hsum]; rfl
  · -- all entries of `used` are true: their number equals the length
    intro m hm
    have hfull := List.count_eq_length.mp (a1.trans (hto.trans (hall.trans s1.symm)))
    have hm' : m < st'.used.length := s1 ▸ hm
    refine (a3 m).mpr ?_
    rw [List.getD_eq_getElem?_getD, List.getElem?_eq_getElem hm', Option.getD_some]
    exact (hfull _ (List.getElem_mem hm')).symm

/-- **consistent roster positions**: every node of the big tree sits on a roster position that exists -/
theorem c12_big_members_in_range (c : BigCfg) (hN : 1 ≤ c.N) (hn : 1 ≤ c.hosts.length) (hnodes : 1 ≤ c.nodes)
    (lv : List Level) (h : genBig c = .tree lv) : ∀ m ∈ membersOf lv, m < c.hosts.length := by
  obtain ⟨_, _, _, _, _, _, hso, _⟩ := genBig_ok c hN hnodes lv h
  exact hso.inRange

/-- **every clause at once, for every roster, branching factor, node count and host layout**: on a
non-empty roster, with `N ≥ 1` and `nodes ≥ 1`, `GenerateBigNaryTree(N, nodes)` returns a tree — the
first server as root, exactly `nodes` nodes, level `k` holding `min (N^k) remaining` of them, every
parent link pointing into the previous level, no node with more than `N` children, every node on an
existing roster position — and when `nodes` equals the roster size every server hosts exactly one node -/
theorem c12_big_wellformed (c : BigCfg) (hN : 1 ≤ c.N) (hn : 1 ≤ c.hosts.length) (hnodes : 1 ≤ c.nodes) :
    ∃ more, genBig c = .tree ([(0, 0)] :: more) ∧
      (([(0, 0)] :: more).map List.length).sum = c.nodes ∧
      ([(0, 0)] :: more).map List.length = 1 :: levelSizesPow c.N c.nodes 1 (c.nodes - 1) ∧
      LevelsOK c.N [(0, 0)] more ∧
      (∀ m ∈ membersOf ([(0, 0)] :: more), m < c.hosts.length) ∧
      (c.nodes = c.hosts.length →
        (membersOf ([(0, 0)] :: more)).Nodup ∧ ∀ m, m < c.hosts.length → m ∈ membersOf ([(0, 0)] :: more)) := by
  obtain ⟨lv, h⟩ := c12_big_terminates c hN hn hnodes
  obtain ⟨more, rfl, _, h3, _⟩ := c12_big_shape c hN hnodes lv h
  refine ⟨more, h, c12_big_size c hN hnodes _ h, c12_big_levels c hN hnodes _ h, h3,
    c12_big_members_in_range c hN hn hnodes _ h, ?_⟩
  intro hall
  obtain ⟨u1, _, u3⟩ := c12_big_use_all c hN hall hnodes _ h
  exact ⟨u1, u3⟩

/-! ### the known finding: the big generator places one server on several nodes -/

/-- the node-identifier clause for the big generator.  A node id is a hash of its server's public
key alone (`tree.go:893-903`, `C13.nodePre`), so the nodes of a tree have pairwise distinct ids
exactly when no server hosts two of them.  With more nodes than servers that is impossible (and
documented); the clause is stated for the case where it could hold. -/
def C12_big_full : Prop :=
  ∀ c : BigCfg, 1 ≤ c.N → 1 ≤ c.nodes → c.nodes ≤ c.hosts.length →
    ∀ lv, genBig c = .tree lv → (membersOf lv).Nodup

/-- **it fails**: five servers on two alternating hosts, `N = 3`, four nodes — host avoidance skips
servers without the use-all bookkeeping, server 1 is placed twice, server 2 and 4 never.
Replayed against `GenerateBigNaryTree` by the harness (`witness`). -/
theorem c12_big_full_fails : ¬ C12_big_full := by
  intro h
  have := h { N := 3, nodes := 4, hosts := [0, 1, 0, 1, 0] } (by decide) (by decide) (by decide)
    [[(0, 0)], [(1, 0), (3, 0), (1, 0)]] (by decide +kernel)
  exact absurd this (by decide +kernel)

/-- the three-server witness: three servers, `N = 2`, seven nodes — three distinct node ids -/
theorem c12_big_repeats_servers :
    genBig { N := 2, nodes := 7, hosts := [0, 0, 0] } =
      .tree [[(0, 0)], [(1, 0), (2, 0)], [(0, 0), (1, 0), (2, 1), (0, 1)]] := by decide +kernel

/-- what holds instead (`_partial`): distinct node ids when the tree has exactly one node per
server (`c12_big_use_all`), for every host layout -/
theorem c12_big_distinct_partial (c : BigCfg) (hN : 1 ≤ c.N) (hall : c.nodes = c.hosts.length) (hnodes : 1 ≤ c.nodes)
    (lv : List Level) (h : genBig c = .tree lv) : (membersOf lv).Nodup :=
  (c12_big_use_all c hN hall hnodes lv h).1

/-- non-vacuity of the big-generator theorems: the hypotheses are satisfiable and the call returns -/
example : ∃ lv, genBig { N := 3, nodes := 13, hosts := [0, 1, 2, 0, 1] } = .tree lv :=
  c12_big_terminates _ (by decide) (by decide) (by decide)
/-! ### when the node-id clause does hold for the big generator: uniform host layouts -/

/-- **the node-id clause holds for the two uniform host layouts** (`_partial`, second part): when
the tree is to have at most as many nodes as there are servers and the servers are all on one host
or all on hosts of their own, no server hosts two nodes — below the roster size the servers are
simply taken in roster order.  Only a mixed layout (some servers sharing a host, others not) can
make the generator repeat a server while others are left out: that is the known finding. -/
theorem c12_big_distinct_uniform_partial (c : BigCfg) (hN : 1 ≤ c.N) (hnodes : 1 ≤ c.nodes)
    (hle : c.nodes ≤ c.hosts.length)
    (hu : (∀ i j, i < c.hosts.length → j < c.hosts.length → c.hosts.getD i 0 = c.hosts.getD j 0) ∨ c.hosts.Nodup)
    (lv : List Level) (h : genBig c = .tree lv) :
    (membersOf lv).Nodup ∧ (c.nodes < c.hosts.length → membersOf lv = List.range c.nodes) := by
  by_cases hall : c.nodes = c.hosts.length
  · exact ⟨(c12_big_use_all c hN hall hnodes lv h).1, fun hlt => absurd hall (Nat.ne_of_lt hlt)⟩
  · have hlt : c.nodes < c.ilLen := Nat.lt_of_le_of_ne hle hall
    have hil : 0 < c.ilLen := Nat.zero_lt_of_lt hlt
    have hU : c.useAll = false := beq_false_of_ne fun e => hall e.symm
    have hP : PickSeq c := hu.elim (pickSeq_one_host c hU) (pickSeq_distinct_hosts c hU)
    obtain ⟨more, st', ho, _, _, _, ⟨_, _, hm⟩, hto⟩ := genBig_run (seq_pickInv hP hlt) hN hil hnodes
      ⟨stOK_init c hil, Nat.mod_eq_of_lt (Nat.lt_of_le_of_lt hnodes hlt), rfl⟩
    rw [ho] at h
    cases h
    rw [hm, hto]
    exact ⟨List.nodup_range, fun _ => rfl⟩

/-- non-vacuity: both layouts occur, with fewer nodes than servers -/
example : genBig { N := 2, nodes := 4, hosts := [0, 0, 0, 0, 0, 0] } = .tree [[(0, 0)], [(1, 0), (2, 0)], [(3, 1)]] ∧
    genBig { N := 2, nodes := 4, hosts := [0, 1, 2, 3, 4, 5] } = .tree [[(0, 0)], [(1, 0), (2, 0)], [(3, 1)]] := by decide +kernel

private theorem flatten_go_members : ∀ (ls : List Level) (a b : Nat),
    (Drv.flatten.go ls a b).map (·.1) = ls.flatten.map (·.1) := by
  intro ls
  induction ls with
  | nil => intro a b; simp [Drv.flatten.go]
  | cons l rest ih =>
    intro a b
    simp only [Drv.flatten.go, List.map_append, List.map_map, List.flatten_cons, ih]
    congr 1

/-- the big generator with as many nodes as servers returns a tree that passes `UsesList()`
(stated on the creation-order form the driver prints) -/
theorem c12_big_usesList (c : BigCfg) (hN : 1 ≤ c.N) (hall : c.nodes = c.hosts.length) (hnodes : 1 ≤ c.nodes)
    (lv : List Level) (h : genBig c = .tree lv) : usesList (Drv.flatten lv) c.hosts.length = true := by
  have hf : (Drv.flatten lv).map (·.1) = membersOf lv := flatten_go_members lv 0 0
  exact usesList_of_members (hf ▸ (c12_big_use_all c hN hall hnodes lv h).2.2)

/-- **how the big generator spreads an incomplete last level over its parents** has no closed form worth the
name: parent `i` of `L` gets `min N ((rest so far)·(i+1)/L)` children, where "rest so far" already shrinks
inside the level.  Twelve nodes with `N = 4`: the four parents of the last level get 1, 3, 2 and 1 children —
neither packed to the left (as the n-ary generator does) nor balanced.  What *is* proved for every
configuration: the level sizes (`c12_big_levels`), at most `N` per parent (`c12_big_branching`), nothing lost
(`c12_big_size`). -/
example : genBig { N := 4, nodes := 12, hosts := List.replicate 12 0 } =
    .tree [[(0, 0)], [(1, 0), (2, 0), (3, 0), (4, 0)],
           [(5, 0), (6, 1), (7, 1), (8, 1), (9, 2), (10, 2), (11, 3)]] := by decide +kernel

/-! ### simulations: `CreateRoster` + `CreateTree` -/

theorem simHosts_length (hosts nbrAddr : Nat) : (simHosts hosts nbrAddr).length = hosts := by
  simp [simHosts]

/-- **the tree of a simulation** (`SimulationBFTree.CreateRoster` then `CreateTree`, for every
branching factor `BF ≥ 1`, number of hosts `Hosts ≥ 1` and number of host names): a well-formed big
tree of exactly `Hosts` nodes in which every server just created hosts exactly one node — so its
node ids are pairwise distinct — whatever servers share a host name -/
theorem c12_sim_tree (bf hosts nbrAddr : Nat) (hbf : 1 ≤ bf) (hh : 1 ≤ hosts) :
    ∃ more, genSim bf hosts nbrAddr = .tree ([(0, 0)] :: more) ∧
      (([(0, 0)] :: more).map List.length).sum = hosts ∧
      ([(0, 0)] :: more).map List.length = 1 :: levelSizesPow bf hosts 1 (hosts - 1) ∧
      LevelsOK bf [(0, 0)] more ∧
      (membersOf ([(0, 0)] :: more)).Nodup ∧
      (∀ m, m ∈ membersOf ([(0, 0)] :: more) ↔ m < hosts) := by
  -- a simulation asks for as many nodes as it has just created servers: the use-all clause of `c12_big_wellformed` applies
  have hl : (simHosts hosts nbrAddr).length = hosts := simHosts_length hosts nbrAddr
  obtain ⟨more, w1, w2, w3, w4, w5, w6⟩ :=
    c12_big_wellformed { N := bf, nodes := hosts, hosts := simHosts hosts nbrAddr } hbf (hl.symm ▸ hh) hh
  obtain ⟨u1, u2⟩ := w6 hl.symm
  simp only [hl] at w5 u2
  exact ⟨more, w1, w2, w3, w4, u1, fun m => ⟨w5 m, u2 m⟩⟩

/-- the host of server `c` is `c mod nbrAddr`, its port offset `2·(c / nbrAddr)`: two servers of a
simulation never share an address -/
theorem c12_sim_addresses_distinct (nbrAddr a b : Nat)
    (hh : a % nbrAddr = b % nbrAddr) (hp : simPort nbrAddr a = simPort nbrAddr b) : a = b := by
  rw [← Nat.div_add_mod a nbrAddr, ← Nat.div_add_mod b nbrAddr, hh, Nat.eq_of_mul_eq_mul_right (Nat.succ_pos 1) hp]

/-! ### the code regions the model stands for
Regenerated from /repo's source on every run (`harness/cmd/astfacts` → `OnetVerif/Shapes.lean`): the
calls that matter for synchronisation and data flow, the lock regions and (for decision logic) the
conditions, in source order.  A re-ordering, a dropped call or a changed condition breaks these
obligations even when no sampled input or schedule shows a difference; the check then searches for
a failing input. -/
theorem c12_shape_Roster_GenerateBigNaryTree :
    Shapes.tree_Roster_GenerateBigNaryTree =
   ["if:(len(ro.List)==0)", "assign:used:=make(conv,len(ro.List))", "assign:ilLen:=len(ro.List)",
     "assign:useAll:=(ilLen==nodes)", "NewTreeNode", "assign:root:=NewTreeNode(0,ro.List[0])",
     "assign:used[0]=true", "assign:levelNodes:=conv{root}", "assign:totalNodes:=1",
     "assign:roIndex:=(1%ilLen)", "for:(totalNodes<nodes){",
     "assign:newLevelNodes:=make(conv,(len(levelNodes)*N))", "assign:newLevelNodesCounter:=0",
     "range:i,parent:=levelNodes{",
     "assign:children:=(((nodes-totalNodes)*(i+1))/len(levelNodes))", "if:(children>N)",
     "assign:children=N", "assign:parent.Children=make(conv,children)", "Address.Host",
     "assign:parentHost:=parent.ServerIdentity.Address.Host()", "assign:n:=0",
     "for:(n<children){", "Address.Host", "assign:childHost:=ro.List[].Address.Host()",
     "assign:roIndexFirst:=roIndex", "assign:notSameHost:=true",
     "for:(((notSameHost&&(childHost==parentHost))&&(ilLen>1))||(useAll&&used[roIndex])){",
     "assign:roIndex=((roIndex+1)%ilLen)", "if:(useAll&&used[roIndex])",
     "if:(roIndex==roIndexFirst)", "assign:notSameHost=false", "continue",
     "if:(roIndex==roIndexFirst)", "break", "Address.Host",
     "assign:childHost=ro.List[].Address.Host()", "}", "NewTreeNode",
     "assign:child:=NewTreeNode(roIndex,ro.List[roIndex])", "assign:used[roIndex]=true",
     "assign:roIndex=((roIndex+1)%ilLen)", "assign:totalNodes++",
     "assign:parent.Children[n]=child", "assign:child.Parent=parent",
     "assign:newLevelNodes[newLevelNodesCounter]=child", "assign:newLevelNodesCounter++",
     "assign:n++", "}", "}", "assign:levelNodes=newLevelNodes[:newLevelNodesCounter]", "}",
     "return:NewTree(ro,root)"] := rfl

theorem c12_shape_Roster_GenerateNaryTreeWithRoot :
    Shapes.tree_Roster_GenerateNaryTreeWithRoot =
   ["assign:rootIndex:=0", "if:(root!=nil)", "root.GetID", "ro.searchByKey",
     "assign:rootIndex,_=ro.searchByKey(root.GetID())", "if:(rootIndex<0)", "return:nil", "else",
     "assign:root=ro.List[0]", "NewTreeNode", "assign:rootNode:=NewTreeNode(rootIndex,root)",
     "assign:parents:=conv{rootNode}", "assign:children:=conv{}", "assign:i:=1",
     "for:(i<len(ro.List)){", "assign:index:=((i+rootIndex)%len(ro.List))",
     "if:(parents[].SubtreeCount()==N)", "assign:parents=parents[1:]", "if:(len(parents)==0)",
     "assign:parents=children", "assign:children=conv{}", "NewTreeNode",
     "assign:newChild:=NewTreeNode(index,ro.List[index])",
     "assign:children=append(children,newChild)", "parents[].AddChild", "assign:i++", "}",
     "return:NewTree(ro,rootNode)"] := rfl

theorem c12_shape_Roster_GenerateNaryTree :
    Shapes.tree_Roster_GenerateNaryTree =
   ["return:ro.GenerateNaryTreeWithRoot(N,nil)"] := rfl

theorem c12_shape_Roster_GenerateBinaryTree :
    Shapes.tree_Roster_GenerateBinaryTree =
   ["return:ro.GenerateNaryTree(2)"] := rfl

theorem c12_shape_Roster_GenerateStar :
    Shapes.tree_Roster_GenerateStar =
   ["return:ro.GenerateNaryTree((len(ro.List)-1))"] := rfl

theorem c12_shape_NewTreeNode :
    Shapes.tree_NewTreeNode =
   ["Public.String", "uuid.NewSHA1", "TreeNodeID",
     "assign:tn:=&TreeNode{ServerIdentity:ni,RosterIndex:entityIdx,Parent:nil,Children:make(conv,0),ID:TreeNodeID(uuid.NewSHA1(uuid.NameSpaceURL,conv(ni.Public.String())))}",
     "return:tn"] := rfl

theorem c12_shape_LocalTest_GenTree :
    Shapes.local_LocalTest_GenTree =
   ["l.panicClosed", "l.GenServers", "assign:servers:=l.GenServers(n)", "l.GenRosterFromHost",
     "assign:list:=l.GenRosterFromHost(servers)", "list.GenerateBinaryTree",
     "assign:tree:=list.GenerateBinaryTree()", "assign:l.Trees[tree.ID]=tree", "if:register",
     "overlay.RegisterTree", "return:servers,list,tree"] := rfl

theorem c12_shape_LocalTest_GenBigTree :
    Shapes.local_LocalTest_GenBigTree =
   ["l.panicClosed", "l.GenServers", "assign:servers:=l.GenServers(nbrServers)",
     "l.GenRosterFromHost", "assign:list:=l.GenRosterFromHost(servers)",
     "list.GenerateBigNaryTree", "assign:tree:=list.GenerateBigNaryTree(bf,nbrTreeNodes)",
     "assign:l.Trees[tree.ID]=tree", "if:register", "overlay.RegisterTree",
     "return:servers,list,tree"] := rfl

theorem c12_shape_LocalTest_GenRosterFromHost :
    Shapes.local_LocalTest_GenRosterFromHost =
   ["l.panicClosed", "NewRoster"] := rfl

theorem c12_shape_SimulationBFTree_CreateTree :
    Shapes.simulation_SimulationBFTree_CreateTree =
   ["time.Now", "assign:start:=time.Now()", "if:(sc.Roster==nil)", "return:xerrors.New(\"\")",
     "Roster.GenerateBigNaryTree", "assign:sc.Tree=sc.Roster.GenerateBigNaryTree(s.BF,s.Hosts)",
     "return:nil"] := rfl

theorem c12_shape_Roster_Search :
    Shapes.tree_Roster_Search =
   ["range:i,e:=ro.List{", "if:e.ID.Equal(eID)", "return:i,e", "}", "return:-1,nil"] := rfl

theorem c12_shape_TreeNode_AddChild :
    Shapes.tree_TreeNode_AddChild =
   ["assign:t.Children=append(t.Children,c)", "assign:c.Parent=t"] := rfl

theorem c12_shape_TreeNode_SubtreeCount :
    Shapes.tree_TreeNode_SubtreeCount =
   ["assign:ret:=-1", "assign:ret++", "t.Visit", "return:ret"] := rfl

end C12

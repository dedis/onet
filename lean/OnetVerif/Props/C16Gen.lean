import OnetVerif.Model.C16Core
import OnetVerif.Model.C16Dir
import OnetVerif.Gen.C16
import OnetVerif.Proofs.C16
/-! Property C16 — the definitions regenerated from the Go source (`Gen/C16.lean`, written by `harness/cmd/go2lean` on
every check run from `service.go`): `serviceManager.dbFileNameOld` and `serviceManager.dbFileName`, the names of a
server's database file.  The public key is read through `s.server.ServerIdentity.Public` (`ServerIdentity` is a
promoted field of the embedded `*network.Router`) and modelled by its binary encoding (`MarshalBinary` ↦ the bytes);
the hash object is used linearly (`sha256.New()` ↦ the empty input, `h.Write(x)` ↦ the input grows, `h.Sum(nil)` ↦
the hash of the input, the hash function a parameter); `fmt.Sprintf("%x.db", b)` ↦ `hexOf b ++ ".db"`;
`path.Join` is a parameter (the model keeps directory and file name apart).  From `context.go`, lifted out of
functions that open database transactions: the bucket names, the `LoadVersion` test, the `SaveVersion` argument.
Nothing imports this file. -/
namespace C16

/-- the public key of the server a service manager belongs to -/
def pubOf (s : Gen.C16.serviceManager) : Bytes := s.server.Router.ServerIdentity.Public

/-- **`dbFileNameOld` as translated**: the data directory joined with the model's `oldName` of the key -/
theorem c16_gen_dbFileNameOld_eq (s : Gen.C16.serviceManager) (join : Bytes → Bytes → Bytes) :
    Gen.C16.serviceManager_dbFileNameOld s join = join s.dbPath (oldName (pubOf s)) := rfl

/-- **`dbFileName` as translated**: the data directory joined with the model's `newName` of the key — the hex form of
the hash of exactly the key's encoding (nothing else is written into the hash object), then `.db` -/
theorem c16_gen_dbFileName_eq (s : Gen.C16.serviceManager) (h : Bytes → Bytes) (join : Bytes → Bytes → Bytes) :
    Gen.C16.serviceManager_dbFileName s h join = join s.dbPath (newName h (pubOf s)) := rfl

/-- **the bucket names as read from the source** (`newContext`, `GetAdditionalBucket`; the values are lifted out of
functions that otherwise open database transactions): the main bucket is the service's name, the version bucket
the name followed by `"version"`, an additional bucket the main name, `'_'` and the caller's name — the model's
`mainName`, `versionName`, `extraName` -/
theorem c16_gen_bucket_names (svcName : Bytes → Bytes) (servID bucket name : Bytes) :
    Gen.C16.newContext_bucketName servID svcName = mainName (svcName servID) ∧
    Gen.C16.newContext_bucketVersionName servID svcName = versionName (svcName servID) ∧
    Gen.C16.GetAdditionalBucket_fullName bucket name = extraName bucket name := ⟨rfl, rfl, rfl⟩
/-- **the decision of `LoadVersion` after the read, as translated** (`len(buf) == 0`, lifted out of a function that
opens a database transaction): with a version cell that holds `b`, the model's `loadVersion` answers 0 exactly when
the translated condition holds, and otherwise what `binary.Read` makes of the first four bytes (an error for fewer
than four).  Falsified by `buf == nil` in place of `len(buf) == 0`, by a default other than 0. -/
theorem c16_gen_loadVersion_decision (known : List Bytes) (db : Db) (svc b : Bytes)
    (h : getFrom db (versionName svc) dbVersionKey = some (some b)) :
    (step known db svc .loadVersion).2 =
      if Gen.C16.LoadVersion_empty b then .ver 0
      else match decodeVersion b with
        | some v => .ver v
        | none => .errVersion := by
  dsimp only [step]
  rw [h]
  cases b with
  | nil => rfl
  | cons x r =>
    have : Gen.C16.LoadVersion_empty (x :: r) = false :=
      if_neg fun e => Nat.succ_ne_zero _ (Int.ofNat.inj (beq_iff_eq.mp e))
    rw [this, if_neg Bool.false_ne_true]
    dsimp only
    cases decodeVersion (x :: r) <;> rfl
/-- **what `SaveVersion` writes, as translated** (argument 2 of `binary.Write`: `int32(version)`, the conversion with
its two's complement wrap-around): the four bytes the model stores (`encodeVersion`) are the little-endian bytes of
exactly that number — `wrap32` is its residue modulo 2^32.  Falsified by `int64(version)` / `uint16(version)` or a
version written without the conversion. -/
theorem c16_gen_saveVersion_written (v : Int) :
    wrap32 v = (Gen.C16.SaveVersion_arg v % 4294967296).toNat := by
  show wrap32 v = (toInt32 v % 4294967296).toNat
  rw [wrap32, toInt32, Int.emod_sub_emod, Int.add_sub_cancel]
end C16

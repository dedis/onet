import OnetVerif.Proofs.C07
import OnetVerif.Proofs.C07Locks
import OnetVerif.Proofs.C07Walk
import OnetVerif.Shapes

/-! Property C07 — no peer input can crash, wedge or silence a server. -/
namespace C07

/-- **no panic**: in every server state, no envelope — whatever its type and field values —
makes the overlay or the instance it is handed to panic. -/
theorem c07_no_panic (s : Srv) (e : Env) : (process s e).1 ≠ .panic := by
  exact match e with
  | .proto _ _ _ =>
    ne_panic_ite nofun (ne_panic_ite nofun (ne_panic_ite (deliver_not_panic _ _ _ _) (ne_panic_ite nofun nofun)))
  | .reqTree _ _ => ne_panic_ite nofun nofun
  | .respTree tm ro => sendTree_not_panic s tm ro
  | .treeMarshal _ => ne_panic_ite nofun (ne_panic_ite nofun (ne_panic_ite (sendTree_not_panic _ _ _) nofun))
  | .reqRoster _ => nofun
  | .sendRoster _ => ne_panic_ite nofun nofun
  | .config _ _ => ne_panic_ite nofun (ne_panic_ite nofun nofun)

/-- no step of any finite sequence panics -/
theorem c07_no_panic_run (s : Srv) (pre : List Env) (e : Env) : (process (runEnvs s pre) e).1 ≠ .panic :=
  c07_no_panic _ e

theorem stable_lock : Stable (fun s => s.treeLock = 0) where
  hand s t frm b h := by rw [handOver_snd]; exact h
  crea s to h := by rw [created_only_armed_cfgHas]; exact h
  cln s t h := by rw [clean_only_armed]; exact h
  listK _ h _ := ⟨h, h⟩
  listT _ _ h _ := h
  mark _ h := ⟨fun _ => h, h⟩
  refresh _ _ h := h
  park _ _ _ h _ _ := ⟨h, fun _ => h⟩
  store _ _ _ h _ := h
  reply _ h := h
  ptm _ _ h := h
  ptmDrop _ _ _ := rfl
  cfg _ _ h := ⟨h, h⟩
  take _ _ h := h

/-- **no lock left held**: after every envelope the pending-tree lock is free again. -/
theorem c07_locks_released (s : Srv) (e : Env) (h : s.treeLock = 0) : (process s e).2.treeLock = 0 :=
  stable_lock.process s e h

theorem c07_locks_released_run (es : List Env) (s : Srv) (h : s.treeLock = 0) :
    (runEnvs s es).treeLock = 0 := stable_lock.run es s h

theorem stable_present (x : TRef) : Stable (fun s => s.slot x = .present) :=
  Stable.at_tree x (Q := fun v _ => v = .present) (fun _ _ _ h hs _ => absurd h hs) fun _ _ _ => rfl

/-- **a known tree cannot be taken away or replaced** by any envelope -/
theorem c07_present_stays (s : Srv) (e : Env) (x : TRef) (h : s.slot x = .present) :
    (process s e).2.slot x = .present := (stable_present x).process s e h

theorem c07_present_stays_run (es : List Env) (s : Srv) (x : TRef) (h : s.slot x = .present) :
    (runEnvs s es).slot x = .present := (stable_present x).run es s h

def ListedSafe (s : Srv) : Prop := ∀ t, listedOn s t = true → s.armed t = false

theorem stable_listed : Stable ListedSafe where
  hand s t frm b h := by rw [handOver_snd]; exact h
  crea s to h := by rw [created_only_armed_cfgHas]; exact fun t ht => upd_eq_of (h t ht)
  cln s t h := by
    unfold clean
    split
    · exact h
    · intro x hx
      have hxt : x ≠ t := fun e => ‹¬ listedOn s t = true› (e ▸ hx)
      exact (upd_other hxt).trans (h x hx)
  listK s h hk :=
    have other : ∀ X : Srv, X.fresh = s.fresh → X.armed = s.armed → ListedSafe X := fun X hf ha t ht => by
      rw [ha]
      cases t
      · exact hk
      all_goals exact h _ ((congrFun hf _).symm.trans ht)
    ⟨other _ rfl rfl, other _ rfl rfl⟩
  listT s t h ha x hx := by
    by_cases e : x = t
    · exact e ▸ ha
    · refine h x ?_
      cases x <;> simpa only [listedOn, upd_other e] using hx
  mark _ h := ⟨fun _ => h, h⟩
  refresh s t h x hx := upd_eq_of (h x hx)
  park s t y h _ _ := ⟨fun x hx => upd_eq_of (h x hx), fun _ x hx => upd_eq_of (h x hx)⟩
  store s t r h _ x hx := upd_eq_of (h x hx)
  reply _ h := h
  ptm _ _ h := h
  ptmDrop _ _ h := h
  cfg _ _ h := ⟨h, h⟩
  take s t h x hx := upd_eq_of (h x hx)

/-- **no peer input schedules the removal of a tree an instance is using**: in every state reached by any
sequence of envelopes, a tree with a listed instance has no removal scheduled (messages for protocols the
server does not have, for finished tokens, … schedule it only for trees nobody uses). -/
theorem c07_used_tree_not_scheduled (es : List Env) (s : Srv) (h : ListedSafe s) : ListedSafe (runEnvs s es) :=
  stable_listed.run es s h

theorem listedSafe_init : ListedSafe {} := by intro t _; rfl

def ParkedClean (s : Srv) : Prop := ∀ t, s.slot t = .present → s.parked t = []

theorem stable_parkedClean (t : TRef) : Stable (fun s => s.slot t = .present → s.parked t = []) :=
  Stable.at_tree t (Q := fun v l => v = .present → l = []) (fun _ _ _ _ hs _ => ⟨fun hp => absurd hp hs, fun _ => nofun⟩)
    fun _ _ _ _ => rfl

theorem stable_kept (x : Tok × Frm × Body) (t : TRef) : Stable (fun s => x ∈ s.parked t ∨ s.slot t = .present) :=
  Stable.at_tree t (Q := fun v l => x ∈ l ∨ v = .present)
    (fun _ _ y h hs _ =>
      have k := List.mem_append_left [y] (h.resolve_right hs)
      ⟨.inl k, fun _ => .inl k⟩)
    fun _ _ _ => .inr rfl

/-- **a parked message is not lost**: whatever envelopes follow, a protocol message parked for a tree
stays parked until that tree is stored (and the parked messages flushed). -/
theorem c07_parked_kept (es : List Env) (s : Srv) (x : Tok × Frm × Body) (t : TRef) (h : x ∈ s.parked t) :
    x ∈ (runEnvs s es).parked t ∨ (runEnvs s es).slot t = .present :=
  (stable_kept x t).run es s (.inl h)

/-- every parked message is parked under the tree its token names (`pendingMsg` is ONE list in the code, looked
through by tree id: `parked t` is its part for `t`) -/
def Tagged (s : Srv) : Prop := ∀ t x, x ∈ s.parked t → treeOf x.1 = t

theorem stable_tagged (t : TRef) : Stable (fun s => ∀ x ∈ s.parked t, treeOf x.1 = t) :=
  Stable.at_tree t (Q := fun _ l => ∀ x ∈ l, treeOf x.1 = t)
    (fun _ l y h _ hy =>
      have k : ∀ x ∈ l ++ [y], treeOf x.1 = t := fun x hx =>
        (List.mem_append.mp hx).elim (h x) fun e => List.mem_singleton.mp e ▸ hy
      ⟨k, fun _ => k⟩)
    fun _ _ _ _ h => nomatch h

theorem tagged_init : Tagged {} := by
  intro t x hx
  cases t <;> simp at hx
  subst hx; rfl

def legitKinds : List Body := [.m3, .m4, .m1, .m2]

/-- the legitimate tree response for the requested tree R -/
def legitResp : Env := .respTree (some ⟨.R, .roR, .good⟩) (some ⟨.roR, true, true⟩)

theorem legit_reader : ∀ b ∈ legitKinds, reader .K .member b = true ∧ b ≠ .garbage := by decide

theorem serves_K (s : Srv) (to : Tok) (hto : to = .run ∨ to = .fresh .K) (hp : s.slot .K = .present)
    (hpk : s.parked .K = []) (b : Body) (hb : b ∈ legitKinds) :
    (process s (.proto to .member b)).1 = .ok ∧ (process s (.proto to .member b)).2.delivered = s.delivered + 1 := by
  obtain ⟨hr, hg⟩ := legit_reader b hb
  have ok : ∀ X, (handOver X .K .member b).1 = .ok := fun X => (handOver_fst X _ _ _).trans (if_pos hr)
  have hd : dcount s.doneMark (to, .member, b) = 1 := by rcases hto with rfl | rfl <;> exact congrArg b2n hr
  have hs : s.slot (treeOf to) = .present ∧ s.parked (treeOf to) = [] ∧ to ≠ .none := by
    rcases hto with rfl | rfl <;> exact ⟨hp, hpk, nofun⟩
  rw [process_proto_eq_transmitFoundIn s to .member b hg hs.2.2 hs.1 hs.2.1]
  refine ⟨?_, hd ▸ (deliverIn_adds _ to .member b).delivered⟩
  -- for both tokens `deliverIn` is an `if` (is the instance listed?) with a `handOver` on tree K in either branch
  rcases hto with rfl | rfl <;>
    exact ite_ind (P := (· = Out.ok)) Prod.fst (fun _ => ok _) fun _ => ok _

/-- **still serves**: after *any finite sequence* of envelopes of any type with any field values, from
any starting state in which the tree K is known, (1) a legitimate protocol message of a new run on K —
of EVERY kind the protocol registers: plain or aggregated, handler or channel — is handed to its
instance and reaches the protocol, (2) so does a legitimate message for the instance that was
running, (3) a legitimate tree request (current or old version) is answered, (4) a roster request is
answered. -/
theorem c07_still_serves (es : List Env) (s0 : Srv) (hK : s0.slot .K = .present) (hc : ParkedClean s0) :
    let s := runEnvs s0 es
    (∀ b ∈ legitKinds, (process s (.proto (.fresh .K) .member b)).1 = .ok ∧
        (process s (.proto (.fresh .K) .member b)).2.delivered = s.delivered + 1) ∧
    (∀ b ∈ legitKinds, (process s (.proto .run .member b)).1 = .ok ∧
        (process s (.proto .run .member b)).2.delivered = s.delivered + 1) ∧
    (∀ v0, (process s (.reqTree .K v0)).1 = .ok ∧ (process s (.reqTree .K v0)).2.replies = s.replies + 1) ∧
    (∀ r, (process s (.reqRoster r)).1 = .ok ∧ (process s (.reqRoster r)).2.replies = s.replies + 1) := by
  have hp := c07_present_stays_run es s0 .K hK
  have hpk := (stable_parkedClean .K).run es s0 (hc .K) hp
  refine ⟨serves_K _ _ (.inr rfl) hp hpk, serves_K _ _ (.inl rfl) hp hpk, fun v0 => ?_, fun r => ⟨rfl, rfl⟩⟩
  rw [show process _ (.reqTree .K v0) = _ from if_pos hp]
  exact ⟨rfl, rfl⟩

theorem storeAndFlush_tagged (s : Srv) (t : TRef) (r : RoRef) (ht : Tagged s) :
    storeAndFlush s t r =
      flushIn { s with slot := upd s.slot t .present, armed := upd s.armed t false, parked := upd s.parked t [],
                       treeRo := upd s.treeRo t r } (s.parked t) :=
  flush_eq_flushIn _ _ fun x hx => by rw [ht t x hx]; exact ⟨upd_same _ _ _, upd_same _ _ _⟩

/-- **a requested tree is still accepted, and the run waiting for it goes on**: in any state in which the
tree R is requested, the legitimate tree response stores the tree, and EVERY message parked for it is
given to its instance: exactly those of them reach the protocol that would have reached it had the tree
been there (`dcount`), and nothing stays parked. -/
theorem c07_requested_tree_unblocks (s : Srv) (h : s.slot .R = .requested) (ht : Tagged s) :
    let s' := (process s legitResp).2
    s'.slot .R = .present ∧ s'.parked .R = [] ∧
    s'.delivered = s.delivered + ((s.parked .R).map (dcount s.doneMark)).sum := by
  have e : process s legitResp = _ := sendTree_stores s ⟨.R, .roR, .good⟩ ⟨.roR, true, true⟩ nofun h rfl
  rw [e, storeAndFlush_tagged s .R .roR ht]
  have f := flushIn_adds (s.parked .R)
    { s with slot := upd s.slot .R .present, armed := upd s.armed .R false, parked := upd s.parked .R [],
             treeRo := upd s.treeRo .R .roR }
  exact ⟨(congrFun f.slot _).trans (upd_same s.slot .R _), (congrFun f.parked _).trans (upd_same s.parked .R _), f.delivered⟩

theorem stable_known (x : TRef) : Stable (fun s => s.slot x ≠ .absent) :=
  Stable.at_tree x (Q := fun v _ => v ≠ .absent) (fun _ _ _ h _ _ => ⟨h, fun _ => nofun⟩) fun _ _ _ => nofun

/-- … and this after any sequence of envelopes: either R is still requested (then the theorem above
applies), or some envelope of the sequence delivered it, and then nothing is parked for it any more. -/
theorem c07_requested_tree_after_any_sequence (es : List Env) (s0 : Srv) (hc : ParkedClean s0) (ht : Tagged s0)
    (hr : s0.slot .R ≠ .absent) :
    let s := runEnvs s0 es
    let s' := (process s legitResp).2
    s'.slot .R = .present ∧ s'.parked .R = [] := by
  have hpc := (stable_parkedClean .R).run es s0 (hc .R)
  have htg : Tagged _ := fun t => (stable_tagged t).run es s0 (ht t)
  have hne := (stable_known .R).run es s0 hr
  intro s
  cases hs : s.slot .R with
  | absent => exact absurd hs hne
  | requested =>
    have u := c07_requested_tree_unblocks s hs htg
    exact ⟨u.1, u.2.1⟩
  | present =>
    have e : process s legitResp = _ :=
      sendTree_refused s ⟨.R, .roR, .good⟩ ⟨.roR, true, true⟩ (.inl fun h => nomatch hs.symm.trans h)
    rw [e]; exact ⟨hs, hpc hs⟩

/-! ### the storm of the harness (concurrent envelopes that list / unlist instances while the
deprecated tree message looks through the listed instances) changes nothing but the done marks -/

/-- the tree message finds K's roster through the instance listed throughout (`other`) and refuses the empty description -/
theorem storm_round (s : Srv) (hK : s.slot .K = .present) (ho : s.other = true) (hr : s.treeRo .K = .roK)
    (hpk : s.parked .K = []) :
    ∃ a, runEnvs s [.proto (.badProtoNew .K) .member .m3, .treeMarshal ⟨.R, .roK, .emptyChildren⟩]
      = { s with armed := a, junkMarks := s.junkMarks + 1 } := by
  have hl : ∀ X : Srv, X.other = true → listedOn X .K = true := fun X h => by
    show (X.other || _ || _ || _) = true
    rw [h]; rfl
  have e1 : (process s (.proto (.badProtoNew .K) .member .m3)).2
      = { s with armed := upd (upd s.armed .K false) .K false, junkMarks := s.junkMarks + 1 } := by
    rw [process_proto_eq_transmitFoundIn s (.badProtoNew .K) .member .m3 nofun nofun hK hpk]
    exact if_pos (hl _ ho)
  refine ⟨upd (upd s.armed .K false) .K false, ?_⟩
  show (process (process s _).2 _).2 = _
  rw [e1]
  refine treeMarshal_refused _ _ ?_ rfl
  have hi : instanceRoster s (s.treeRo .K) = true := by
    show (decide (_ = _) && listedOn s .K || _ || _ || _) = true
    rw [hl s ho, decide_eq_true rfl]; rfl
  rw [hr] at hi
  exact hi

theorem storm_eq (n : Nat) (s : Srv) (hK : s.slot .K = .present) (ho : s.other = true) (hr : s.treeRo .K = .roK)
    (hpk : s.parked .K = []) :
    ∃ a, runEnvs s (Drv.stormEnvs n) = { s with armed := a, junkMarks := s.junkMarks + n } := by
  induction n generalizing s with
  | zero => exact ⟨s.armed, rfl⟩
  | succ n ih =>
    obtain ⟨a1, e1⟩ := storm_round s hK ho hr hpk
    obtain ⟨a, e⟩ := ih { s with armed := a1, junkMarks := s.junkMarks + 1 } hK ho hr hpk
    refine ⟨a, ?_⟩
    show runEnvs (runEnvs s [_, _]) (Drv.stormEnvs n) = _
    rw [e1, e]
    exact congrArg (fun k => { s with armed := a, junkMarks := k }) (Nat.add_right_comm _ 1 n)

theorem c07_storm_only_marks (n : Nat) (s : Srv) (hK : s.slot .K = .present) (ho : s.other = true)
    (hr : s.treeRo .K = .roK) (hpk : s.parked .K = []) :
    let s' := runEnvs s (Drv.stormEnvs n)
    s'.slot = s.slot ∧ s'.parked = s.parked ∧ s'.handed = s.handed ∧ s'.delivered = s.delivered ∧
    s'.replies = s.replies ∧ s'.asks = s.asks ∧ s'.pendingTM = s.pendingTM ∧ s'.run = s.run ∧
    s'.doneLive = s.doneLive ∧ s'.fresh = s.fresh ∧ s'.junkMarks = s.junkMarks + n := by
  obtain ⟨a, e⟩ := storm_eq n s hK ho hr hpk
  rw [e]
  exact ⟨rfl, rfl, rfl, rfl, rfl, rfl, rfl, rfl, rfl, rfl, rfl⟩

/-! ### the window between a message's tree lookup and the creation of its instance (/repo fafcac0)

A protocol message that has found its tree goes on to `transmitMux` while the tree's removal completes and other
envelopes are handled: messages for the tree are parked and the tree is requested again.  The creation stores the
tree the message holds and flushes what was parked meanwhile. -/

/-- **a creation releases what was parked for its tree**: in ANY state, when `TransmitMsg` creates an instance
(whether or not the protocol's constructor then succeeds), the tree is stored afterwards and nothing is parked
for it any more; the number of parked messages that reach the protocol is exactly that of those that would have
reached it had the tree been there all the time. -/
theorem c07_creation_releases_parked (s : Srv) (to : Tok) (frm : Frm) (b : Body) (hc : creating s to = true) :
    let s' := (deliver s to frm b).2
    s'.slot (treeOf to) = .present ∧ s'.parked (treeOf to) = [] ∧
    s'.delivered = s.delivered + dcount s.doneMark (to, frm, b) + ((s.parked (treeOf to)).map (dcount s.doneMark)).sum := by
  have d := deliverIn_adds (taken s (treeOf to)) to frm b
  have f := d.trans (flushIn_adds (s.parked (treeOf to)) _)
  rw [d.doneMark] at f
  rw [show deliver s to frm b = _ from if_pos hc]
  exact ⟨(congrFun f.slot _).trans (upd_same _ _ _), (congrFun f.parked _).trans (upd_same _ _ _),
    f.delivered.trans (Nat.add_assoc _ _ _).symm⟩

/-- neither the completed removal of a tree nor `Register` makes a tree present or touches what is parked -/
theorem parkedClean_sched (x : TRef) :
    (∀ s t, (s.slot x = .present → s.parked x = []) → listedOn s t = false →
      (upd s.slot t .absent x = .present → s.parked x = [])) ∧
    ∀ s t, (s.slot x = .present → s.parked x = []) → ((registerAsk s t).slot x = .present → s.parked x = []) :=
  ⟨fun s t h _ hp => h (by
      by_cases e : x = t
      · rw [e, upd_same] at hp; cases hp
      · rwa [upd_other e] at hp),
   fun s t h hp => h ((registerAsk_present s t x).mp hp)⟩

/-- **a message is not lost in the window of `requestTree`**: held between `IsRegistered` and `Register` while
any envelopes are handled, the message is afterwards still parked, or its tree has arrived (and the flush took it:
`c07_quiescent_nothing_stuck`) -/
theorem c07_rwindow_parked_not_lost (s : Srv) (to : Tok) (frm : Frm) (b : Body) (es : List Env)
    (hg : b ≠ .garbage) (hn : to ≠ .none) (ha : s.slot (treeOf to) = .absent) :
    let s' := (rwindow s to frm b es).2
    (to, frm, b) ∈ s'.parked (treeOf to) ∨ s'.slot (treeOf to) = .present := by
  have hc : ¬ (b = .garbage ∨ to = .none ∨ s.slot (treeOf to) ≠ .absent) := fun h =>
    h.elim hg fun h => h.elim hn fun h => h ha
  rw [show rwindow s to frm b es = _ from if_neg hc]
  have k := (stable_kept (to, frm, b) (treeOf to)).run es
    { s with armed := upd s.armed (treeOf to) false,
             parked := upd s.parked (treeOf to) (s.parked (treeOf to) ++ [(to, frm, b)]) }
    (.inl (show _ ∈ upd s.parked (treeOf to) _ (treeOf to) by
      rw [upd_same]; exact List.mem_append_right _ (List.mem_singleton_self _)))
  exact k.imp_right (registerAsk_present _ _ _).mpr

/-- **nothing is stuck at quiescence**: after any history of envelopes and windows (every step run to its end:
handler, reader and flush goroutines), no message is parked for a tree the server has — a parked message waits
only for a tree that is absent or requested, and `c07_requested_tree_unblocks` / `c07_creation_releases_parked`
say that the arrival of that tree, by the peer's answer or in the hands of an earlier message, releases it. -/
theorem c07_quiescent_nothing_stuck (evs : List Ev) (s : Srv) (hc : ParkedClean s) : ParkedClean (runEvs s evs) :=
  fun t => (stable_parkedClean t).runEvs (parkedClean_sched t).1 (parkedClean_sched t).2 evs s (hc t)

/-- no step of such a history panics, and the pending-tree lock is free after it -/
theorem c07_windows_no_panic_locks_released (evs : List Ev) (s : Srv) (e : Ev) (h : s.treeLock = 0) :
    (stepEv (runEvs s evs) e).1 ≠ .panic ∧ (runEvs s evs).treeLock = 0 :=
  ⟨match e with
    | .env _ => c07_no_panic _ _
    | .win .. => ne_panic_ite (c07_no_panic _ _) (deliver_not_panic _ _ _ _)
    | .rwin .. => ne_panic_ite (c07_no_panic _ _) nofun,
   stable_lock.runEvs (fun _ _ h _ => h) (fun _ _ h => h) evs s h⟩

/-- a window takes away only a tree that no instance uses: a tree in use stays through any such history -/
theorem c07_window_keeps_used_trees (s : Srv) (to : Tok) (frm : Frm) (b : Body) (es : List Env) (x : TRef)
    (hx : s.slot x = .present) (hu : listedOn s x = true) : (window s to frm b es).2.slot x = .present :=
  (stable_present x).window_at s to frm b es
    (fun hl => Eq.trans (upd_other fun e => Bool.false_ne_true (hl.symm.trans (e ▸ hu))) hx) hx

/-- the code before /repo fafcac0 (`windowOld`: the creation stored the tree without looking at the parked
messages): a message parked in the window stays parked although its tree is there — and the peer's answer to the
new request is refused, the tree not being requested any more; the code from fafcac0 on (`window`) delivers both messages -/
theorem c07_old_creation_left_parked :
    let s0 := runEnvs {} [.proto (.badProto .U) .member .m3, .respTree (some ⟨.U, .roX, .good⟩) (some ⟨.roX, true, true⟩)]
    let old := (windowOld s0 (.fresh .U) .member .m3 [.proto (.fresh .U) .member .m4]).2
    let new := (window s0 (.fresh .U) .member .m3 [.proto (.fresh .U) .member .m4]).2
    s0.slot .U = .present ∧ listedOn s0 .U = false ∧
    old.slot .U = .present ∧ (old.parked .U).length = 1 ∧ old.delivered = 1 ∧
    (process old (.respTree (some ⟨.U, .roX, .good⟩) (some ⟨.roX, true, true⟩))).2.parked .U = old.parked .U ∧
    new.slot .U = .present ∧ new.parked .U = [] ∧ new.delivered = 2 := by
  decide

/-! ### handlers held at the same time: arbitrary schedules of holds, releases, envelopes and removals -/

theorem sstep_not_panic (x : SSt) (e : SEv) : (sstep x e).1 ≠ .panic :=
  match e with
  | .env _ => c07_no_panic _ _
  | .hold _ _ _ => ne_panic_ite (c07_no_panic _ _) (ne_panic_ite nofun nofun)
  | .expire _ => nofun
  | .release i => by
    simp only [sstep]
    cases x.held[i]? with
    | none => nofun
    | some h =>
      simp only [releaseHeld]
      cases h.kind
      · exact deliver_not_panic _ _ _ _
      · nofun

/-- **no crash and no lock left, whatever is held and in whatever order it goes on**: in every schedule — any number
of protocol messages held past their tree lookup or between `IsRegistered` and `Register`, released in any order,
interleaved with any envelopes and with removals of unused trees — no step panics and the pending-tree lock is free
after every step. -/
theorem c07_sched_no_panic_locks_released (es : List SEv) (x : SSt) (e : SEv) (h : x.s.treeLock = 0) :
    (sstep (srun x es) e).1 ≠ .panic ∧ (srun x es).s.treeLock = 0 :=
  ⟨sstep_not_panic _ _, stable_lock.srun (fun _ _ h _ => h) (fun _ _ h => h) es x h⟩

/-- **nothing is stuck, in every state of every schedule** — also while handlers are held: a message is parked only for
a tree the server does not have.  (With `held = []` this is quiescence: `c07_quiescent_nothing_stuck` for three-way
and wider interleavings.) -/
theorem c07_sched_nothing_stuck (es : List SEv) (x : SSt) (hc : ParkedClean x.s) : ParkedClean (srun x es).s :=
  fun t => (stable_parkedClean t).srun (parkedClean_sched t).1 (parkedClean_sched t).2 es x (hc t)

/-- **the one-message windows are schedules**: `window` = hold, the removal, the envelopes, release -/
theorem c07_sched_window_is_schedule (s : Srv) (to : Tok) (frm : Frm) (b : Body) (es : List Env)
    (hg : b ≠ .garbage) (hn : to ≠ .none) (hp : s.slot (treeOf to) = .present) (hl : listedOn s (treeOf to) = false) :
    (srun { s := s } ([.hold to frm b, .expire (treeOf to)] ++ es.map .env ++ [.release 0])).s
      = (window s to frm b es).2 := by
  have hw : ¬ (b = .garbage ∨ to = .none ∨ s.slot (treeOf to) ≠ .present ∨ listedOn s (treeOf to) = true) := by
    simp [hg, hn, hp, hl]
  have hh : ¬ (b = .garbage ∨ to = .none ∨ s.slot (treeOf to) = .requested) := by simp [hg, hn, hp]
  have hl' : listedOn { s with armed := upd s.armed (treeOf to) false } (treeOf to) = false := by
    rw [← hl]; cases treeOf to <;> rfl
  have e : srun { s := s } [.hold to frm b, .expire (treeOf to)] =
      { s := { s with slot := upd s.slot (treeOf to) .absent, armed := upd s.armed (treeOf to) false },
        held := [⟨.found, to, frm, b⟩] } := by
    show (sstep (sstep _ _).2 _).2 = _
    rw [show sstep { s := s } (.hold to frm b) = _ from (if_neg hh).trans (if_pos hp)]
    show SSt.mk (expireTree { s with armed := upd s.armed (treeOf to) false } (treeOf to)) [⟨.found, to, frm, b⟩] = _
    rw [show expireTree { s with armed := upd s.armed (treeOf to) false } (treeOf to) = _ from if_pos ⟨hp, hl'⟩]
    simp only [upd_upd]
  rw [srun_append, srun_append, srun_envs, e, show window s to frm b es = _ from if_neg hw]
  rfl

/-- … and `rwindow` = hold, the envelopes, release -/
theorem c07_sched_rwindow_is_schedule (s : Srv) (to : Tok) (frm : Frm) (b : Body) (es : List Env)
    (hg : b ≠ .garbage) (hn : to ≠ .none) (ha : s.slot (treeOf to) = .absent) :
    (srun { s := s } ([.hold to frm b] ++ es.map .env ++ [.release 0])).s = (rwindow s to frm b es).2 := by
  have hw : ¬ (b = .garbage ∨ to = .none ∨ s.slot (treeOf to) ≠ .absent) := by simp [hg, hn, ha]
  have hh : ¬ (b = .garbage ∨ to = .none ∨ s.slot (treeOf to) = .requested) := by simp [hg, hn, ha]
  have e : srun { s := s } [.hold to frm b] =
      { s := { s with armed := upd s.armed (treeOf to) false,
                      parked := upd s.parked (treeOf to) (s.parked (treeOf to) ++ [(to, frm, b)]) },
        held := [⟨.missed, to, frm, b⟩] } :=
    congrArg Prod.snd ((if_neg hh).trans (if_neg (by rw [ha]; nofun)))
  rw [srun_append, srun_append, srun_envs, e, show rwindow s to frm b es = _ from if_neg hw]
  rfl

/-! non-vacuity: a three-way interleaving no window reaches.  Tree U is stored and unused; A and B both get past the
lookup (held at `tm.found`), the tree is removed, C misses it (parked, held at `rt.unregistered`), a fourth message
for U is handled to its end (parked behind C, the tree is requested); then B goes on FIRST (stores the tree it
holds, creates the instance, takes C's and the fourth message), then C (its `Register` finds the tree set: kept),
then A (the instance exists).  All four reach the instance, nothing is parked, the tree is there. -/
private def s0 : Srv := runEnvs {} [.proto (.badProto .U) .member .m3, .respTree (some ⟨.U, .roX, .good⟩) (some ⟨.roX, true, true⟩)]

private def three : List SEv :=
  [.hold (.fresh .U) .member .m3, .hold (.fresh .U) .member .m4, .expire .U, .hold (.fresh .U) .member .m3,
   .env (.proto (.fresh .U) .member .m4), .release 1, .release 1, .release 0]

example : s0.slot .U = .present ∧ listedOn s0 .U = false := by decide

example : let x := srun { s := s0 } three
    x.held.length = 0 ∧ x.s.slot .U = .present ∧ x.s.parked .U = [] ∧ x.s.handed = 4 ∧ x.s.delivered = 4 := by
  decide

/-- in the middle of it (two handlers held past the lookup, one before `Register`, the tree gone and requested) two
messages are parked — for a tree the server does not have -/
example : let x := srun { s := s0 } (three.take 5)
    x.held.length = 3 ∧ x.s.slot .U = .requested ∧ (x.s.parked .U).length = 2 := by decide

/-- a `Register` that does not look whether the tree has been set meanwhile (the variant treestorage.go's comment
rules out) -/
def registerAskBlind (s : Srv) (t : TRef) : Srv :=
  { s with slot := upd s.slot t (if s.slot t = .present then .requested else .requested), asks := s.asks + 1 }

/-- **negation witness for that variant, reachable only with two handlers held at once**: C's `Register`, running
after B has stored the tree and created the instance, turns the slot of a tree IN USE back into "requested": the
next message for the running instance is parked instead of delivered — the server is silenced on that run (and the
peer's answer to C's request is the only thing that brings it back). -/
theorem c07_sched_blind_register_silences :
    let x := srun { s := s0 } (three.take 6)          -- … B has gone on
    let blind := registerAskBlind x.s .U                -- C goes on with the blind `Register`
    let good := (sstep x (.release 1)).2.s              -- C goes on with the code as it is
    x.s.slot .U = .present ∧ listedOn x.s .U = true ∧
    good.slot .U = .present ∧ (process good (.proto (.fresh .U) .member .m3)).2.delivered = good.delivered + 1 ∧
    blind.slot .U = .requested ∧ (process blind (.proto (.fresh .U) .member .m3)).2.delivered = blind.delivered := by
  decide

/-! ### the pinned code before the repairs: negation witnesses (each replayed on the real code,
`notes/probes/onet_overlay_c07_probe_test.go.txt`, and kept as corpus cases) -/
theorem c07_old_nil_destination : (processOld {} (.proto .none .member .m3)).1 = .panic := rfl

theorem c07_old_nil_sender : (processOld {} (.proto (.fresh .K) .none .m3)).1 = .panic := rfl

theorem c07_old_empty_description :
    (processOld {} (.respTree (some ⟨.R, .roR, .emptyChildren⟩) (some ⟨.roR, true, true⟩))).1 = .panic := rfl

theorem c07_old_roster_member_without_key :
    (processOld {} (.respTree (some ⟨.R, .roR, .good⟩) (some ⟨.roR, true, false⟩))).1 = .panic := rfl

theorem c07_old_roster_request_over_empty_slot : (processOld {} (.reqRoster .roK)).1 = .panic := rfl

theorem c07_old_lock_left_held : (processOld {} (.sendRoster ⟨.roR, true, true⟩)).2.treeLock = 1 := rfl

/-- the server as the harness sets it up meets the hypotheses of the theorems above -/
example : ParkedClean {} ∧ Tagged {} ∧ ListedSafe {} ∧ ({} : Srv).slot .K = .present := by
  refine ⟨fun t ht => ?_, tagged_init, listedSafe_init, rfl⟩
  cases t
  · rfl                  -- K: present, nothing parked
  all_goals cases ht     -- R, U, Z are not present

/-- the deprecated roster-then-tree path stores the requested tree and the parked run goes on -/
example : (runEnvs {} [.treeMarshal ⟨.R, .roR, .good⟩, (.sendRoster ⟨.roR, true, true⟩)]).slot .R = .present ∧
    (runEnvs {} [.treeMarshal ⟨.R, .roR, .good⟩, (.sendRoster ⟨.roR, true, true⟩)]).delivered = 1 := by
  decide

/-- a tree arrives for a message of a protocol the server does not have: no instance is listed, the
removal of the tree is scheduled; a real run on it cancels the removal (`ListedSafe` is not vacuous) -/
example :
    let s := runEnvs {} [.proto (.badProto .U) .member .m3, .respTree (some ⟨.U, .roX, .good⟩) (some ⟨.roX, true, true⟩)]
    s.slot .U = .present ∧ s.armed .U = true ∧ listedOn s .U = false ∧
    (process s (.proto (.fresh .U) .member .m1)).2.armed .U = false ∧
    (process s (.proto (.fresh .U) .member .m1)).2.delivered = 1 := by
  decide

/-- the instance side refuses: no sender, a sender of another server, an unknown sender, a type the
protocol does not handle, an aggregated kind at a leaf from anybody but the parent -/
example : reader .K .none .m3 = false ∧ reader .K .spoof .m3 = false ∧ reader .K .stranger .m4 = false ∧
    reader .K .member .unhandled = false ∧ reader .K .stranger .m1 = false ∧ reader .U .stranger .m1 = false ∧
    reader .U .member .m2 = true ∧ reader .K .member .m1 = true := by decide

/-- **no lock is left held, none is taken twice, and all are taken in one global order**: for every server
state and every envelope the handler goroutine's sequence of lock operations — `transmitMux`, the instance
list's, the pending-tree, pending-message and pending-config locks, the tree store's mutex, an instance's
queue mutex — is well nested, ends with every lock released, and respects `rank`. -/
theorem c07_all_locks_released_and_ordered (s : Srv) (e : Env) : nest [] (lockTrace s e) = some [] :=
  have t := closed_ts [] rfl
  have nil := closed_nil []
  match e with
  | .proto to _ _ =>
    closed_ite nil <| closed_ite nil <| closed_ite (closed_transmit s to) <|
      closed_append (closed_append (closed_append (closed_append t (closed_pm [] rfl)) t) t)
        (closed_ite (closed_append t closed_send) nil)
  | .reqTree _ _ => closed_append t (closed_ite closed_send nil)
  | .respTree tm ro => closed_sendTree s tm ro
  | .treeMarshal _ =>
    closed_ite nil <| closed_ite t <|
      closed_append (closed_append t (closed_within rfl (closed_instLoop _)))
        (closed_ite (closed_sendTree _ _ _) (closed_append closed_send (closed_within rfl (closed_nil _))))
  | .reqRoster _ => closed_append t closed_send
  | .sendRoster ro => closed_ite nil (closed_within rfl (closed_pendingLoop ro _ s))
  | .config _ _ => closed_ite nil (closed_cfg _ rfl)

/-- the same for the flush goroutine that a stored tree starts -/
theorem c07_flush_locks_released_and_ordered (s : Srv) (l : List (Tok × Frm × Body)) :
    nest [] (flushTr s l) = some [] := by
  exact closed_append (closed_pm [] rfl) (closed_flushBody l s)

/-- the pinned code before repair 9b09732 ended a roster message with `pendingTreeLock` held -/
theorem c07_old_locks_not_released :
    nest [] (lockTraceOld {} (.sendRoster ⟨.roR, true, true⟩)) = some [.pendingTree] := by decide

/-- the handler held in the window of `requestTree` releases every lock, whatever happened in the window; a
`Register` with an early return that forgets the store's mutex (seeded change C07r5-A) does not: the store stays
locked and every later message blocks in `getAndRefresh` -/
theorem c07_miss_window_locks : nest [] missTr = some [] ∧ nest [] missTrLeaky = some [.store] := by decide

/-- **no lock is held across a `Send`**: `nest` accepts a `Send` only with nothing held, so
`c07_all_locks_released_and_ordered` says it of every handler; this is the reading of one step -/
theorem c07_send_needs_no_lock (h : List Lock) (es : List LEv) (r : List Lock)
    (hn : nest h (.send :: es) = some r) : h = [] := by
  cases h with
  | nil => rfl
  | cons _ _ => cases hn

/-- **a `Send` may run a whole handler before it returns** (the peer announced the server's own identity: the
router dispatches the message in the calling routine): put any well-nested trace in the place of a `Send` of a
well-nested trace — the result is well nested, ordered, and ends with the same locks held.  With the theorem above:
every handler's trace stays closed however deep the self-addressed exchange goes. -/
theorem c07_reentrant_send_closed (callee : List LEv) (hc : nest [] callee = some []) (tr : List LEv)
    (h r : List Lock) (ht : nest h tr = some r) : nest h (spliceSend callee tr) = some r := by
  induction tr generalizing h with
  | nil => exact ht
  | cons e es ih =>
    have ht' := ht
    rw [← List.singleton_append, nest_append] at ht'
    cases he : nest h [e] with
    | none => rw [he] at ht'; cases ht'
    | some h' =>
      rw [he] at ht'
      cases e with
      | send =>
        cases c07_send_needs_no_lock h es r ht
        cases he
        exact (nest_append [] callee es).trans (hc ▸ ht')
      | acq l => exact (nest_append h [.acq l] _).trans (he ▸ ih h' ht')
      | rel l => exact (nest_append h [.rel l] _).trans (he ▸ ih h' ht')

/-- the seeded change C07r6-B: the roster request goes out under `pendingTreeLock` — rejected; and what the
self-addressed exchange then does inside that `Send` (`checkPendingTreeMarshal`) takes the lock a second time -/
theorem c07_send_under_lock_rejected :
    nest [] (treeMarshalTrLockedSend {}) = none ∧ nest [.pendingTree] (selfRosterRoundTrip []) = none ∧
    nest [] (spliceSend (selfRosterRoundTrip []) (lockTrace {} (.treeMarshal ⟨.R, .roX, .good⟩))) = some [] := by decide

/-- the order is not vacuous: taking the instance list's lock while holding the store's mutex (the inverse of
`cleanTreeStorage`'s nesting) is rejected, and so is taking a lock twice -/
example : nest [] [.acq .store, .acq .instances, .rel .instances, .rel .store] = none ∧
    nest [] [.acq .transmitMux, .acq .transmitMux] = none ∧
    nest [] (lockTrace {} (.proto (.badProto .K) .member .m3)) = some [] := by decide

/-! ### the code regions the model stands for
Regenerated from /repo's source on every run (`harness/cmd/astfacts` → `OnetVerif/Shapes.lean`): the
calls that matter for synchronisation and data flow, the lock regions and (for decision logic) the
conditions, in source order.  A re-ordering, a dropped call or a changed condition breaks these
obligations even when no sampled input or schedule shows a difference; the check then searches for
a failing input. -/
theorem c07_shape_Overlay_Process :
    Shapes.overlay_Overlay_Process =
   ["MsgType.Equal", "o.handleConfigMessage", "protoIO.getByPacketType", "io.Unwrap",
     "o.handleRequestTree", "o.handleSendTree", "o.handleSendTreeMarshal",
     "o.handleRequestRoster", "o.handleSendRoster", "network.MessageType", "o.TransmitMsg"] := rfl

theorem c07_shape_Overlay_TransmitMsg :
    Shapes.overlay_Overlay_TransmitMsg =
   ["treeStorage.getAndRefresh", "verifPoint:tm.miss", "o.requestTree", "verifPoint:tm.found",
     "transmitMux.Lock", "defer:transmitMux.Unlock", "instancesLock.Lock", "To.ID", "To.ID",
     "o.cleanTreeStorage", "instancesLock.Unlock", "o.TreeNodeFromTree",
     "instancesLock.Lock", "o.cleanTreeStorage", "instancesLock.Unlock",
     "o.newTreeNodeInstanceFromToken", "treeStorage.Set", "o.hasPendingMsg",
     "o.checkPendingMessages", "To.ID", "o.getConfig", "serviceManager.newProtocol",
     "instancesLock.Lock", "o.nodeDelete", "instancesLock.Unlock",
     "instancesLock.Lock", "o.nodeDelete", "instancesLock.Unlock", "go{", "defer{", "tni.Token",
     "ServiceFactory.Name", "}", "pi.Dispatch", "tni.Token", "ServiceFactory.Name", "}",
     "o.RegisterProtocolInstance", "pi.ProcessProtocolMsg"] := rfl

theorem c07_shape_Overlay_requestTree :
    Shapes.overlay_Overlay_requestTree =
   ["o.savePendingMsg", "verifPoint:rt.parked", "treeStorage.Get", "if:(tree!=nil)",
     "o.checkPendingMessages", "return:nil", "verifPoint:rt.recheck-miss", "io.Wrap",
     "if:(err!=nil)", "return:xerrors.Errorf(\"\",err)",
     "if:o.treeStorage.IsRegistered(onetMsg.To.TreeID)", "return:nil",
     "verifPoint:rt.unregistered", "treeStorage.Register", "verifPoint:rt.registered",
     "server.Send", "if:(err!=nil)", "treeStorage.Unregister", "return:xerrors.Errorf(\"\",err)",
     "return:nil"] := rfl

theorem c07_shape_Overlay_checkPendingMessages :
    Shapes.overlay_Overlay_checkPendingMessages =
   ["go{", "verifPoint:cpm.start", "pendingMsgLock.Lock", "ID.Equal", "pendingMsgLock.Unlock",
     "o.TransmitMsg", "verifPoint:cpm.done", "}"] := rfl

theorem c07_shape_Overlay_handleSendTree :
    Shapes.overlay_Overlay_handleSendTree =
   ["if:((rt.TreeMarshal==nil)||rt.TreeMarshal.TreeID.IsNil())", "return:",
     "if:(rt.Roster==nil)", "return:", "if:!o.treeStorage.IsRequested(rt.TreeMarshal.TreeID)",
     "return:", "TreeMarshal.MakeTree", "if:(err!=nil)", "return:", "treeStorage.setIfMissing",
     "if:!stored", "return:", "o.checkPendingMessages"] := rfl

theorem c07_shape_Overlay_handleSendTreeMarshal :
    Shapes.overlay_Overlay_handleSendTreeMarshal =
   ["if:tm.TreeID.IsNil()", "return:", "if:!o.treeStorage.IsRequested(tm.TreeID)", "return:",
     "instancesLock.Lock", "treeStorage.Get",
     "if:(((tree!=nil)&&(tree.Roster!=nil))&&tree.Roster.ID.Equal(tm.RosterID))",
     "instancesLock.Unlock", "if:(ro==nil)", "io.Wrap", "if:(err!=nil)", "server.Send",
     "if:(err!=nil)", "o.addPendingTreeMarshal", "return:", "o.handleSendTree"] := rfl

theorem c07_shape_Overlay_handleRequestTree :
    Shapes.overlay_Overlay_handleRequestTree =
   ["treeStorage.Get", "tree.MakeTreeMarshal", "o.handleRequestTreeDeprecated", "io.Wrap",
     "server.Send"] := rfl

theorem c07_shape_Overlay_handleRequestRoster :
    Shapes.overlay_Overlay_handleRequestRoster =
   ["treeStorage.GetRoster", "io.Wrap", "server.Send"] := rfl

theorem c07_shape_Overlay_handleSendRoster :
    Shapes.overlay_Overlay_handleSendRoster =
   ["ID.IsNil", "o.checkPendingTreeMarshal"] := rfl

theorem c07_shape_Overlay_checkPendingTreeMarshal :
    Shapes.overlay_Overlay_checkPendingTreeMarshal =
   ["pendingTreeLock.Lock", "if:!ok", "pendingTreeLock.Unlock", "return:",
     "if:(o.treeStorage.Get(tm.TreeID)!=nil)", "tm.MakeTree", "if:(err!=nil)",
     "treeStorage.setIfMissing", "if:stored", "o.checkPendingMessages", "pendingTreeLock.Unlock"] := rfl

theorem c07_shape_Overlay_nodeDelete :
    Shapes.overlay_Overlay_nodeDelete =
   ["token.ID", "tni.closeDispatch", "o.cleanTreeStorage"] := rfl

theorem c07_shape_Overlay_cleanTreeStorage :
    Shapes.overlay_Overlay_cleanTreeStorage =
   ["if:inst.token.TreeID.Equal(token.TreeID)", "if:notUsed", "treeStorage.Remove"] := rfl

theorem c07_shape_TreeMarshal_MakeTree :
    Shapes.tree_TreeMarshal_MakeTree =
   ["if:(ro==nil)", "return:nil,xerrors.New(\"\")", "if:!ro.ID.Equal(tm.RosterID)",
     "return:nil,xerrors.New(\"\")", "if:((len(tm.Children)!=1)||(tm.Children[]==nil))",
     "return:nil,xerrors.New(\"\")", "Children[].MakeTreeFromList", "if:(err!=nil)",
     "return:nil,xerrors.Errorf(\"\",err)", "tree.computeSubtreeAggregate", "return:tree,nil"] := rfl

theorem c07_shape_TreeMarshal_MakeTreeFromList :
    Shapes.tree_TreeMarshal_MakeTreeFromList =
   ["ro.searchByKey", "if:(idx<0)", "return:nil,xerrors.New(\"\")", "if:(ent.Public==nil)",
     "return:nil,xerrors.New(\"\")", "c.MakeTreeFromList", "if:(err!=nil)",
     "return:nil,xerrors.Errorf(\"\",err)", "return:tn,nil"] := rfl

theorem c07_shape_treeStorage_GetRoster :
    Shapes.treestorage_treeStorage_GetRoster =
   ["ts.Lock", "defer:ts.Unlock",
     "if:(((tree!=nil)&&(tree.Roster!=nil))&&tree.Roster.ID.Equal(id))", "return:tree.Roster",
     "return:nil"] := rfl

theorem c07_shape_treeStorage_IsRequested :
    Shapes.treestorage_treeStorage_IsRequested =
   ["ts.Lock", "defer:ts.Unlock", "return:(ok&&(tree==nil))"] := rfl

theorem c07_shape_TreeNodeInstance_dispatchMsgToProtocol :
    Shapes.treenode_TreeNodeInstance_dispatchMsgToProtocol =
   ["rx.add", "n.aggregate", "n.dispatchChannel", "n.dispatchHandler"] := rfl

theorem c07_shape_TreeNodeInstance_aggregate :
    Shapes.treenode_TreeNodeInstance_aggregate =
   ["n.IsRoot", "n.Parent", "TreeNodeID.Equal",
     "if:(fromParent||!n.hasFlag(mt,AggregateMessages))", "return:mt,?,true", "if:!ok",
     "if:(len(msgs)==len(n.Children()))", "return:mt,msgs,true", "return:mt,nil,false"] := rfl

theorem c07_shape_TreeNodeInstance_dispatchHandler :
    Shapes.treenode_TreeNodeInstance_dispatchHandler =
   ["n.hasFlag", "to.Elem", "n.createValueAndVerify", "msgs.Index", "Index().Set", "f.Call",
     "errV.IsValid", "errV.IsNil", "n.createValueAndVerify", "f.Call", "errV.IsNil"] := rfl

theorem c07_shape_TreeNodeInstance_dispatchChannel :
    Shapes.treenode_TreeNodeInstance_dispatchChannel =
   ["defer{", "}", "n.hasFlag", "to.Elem", "to.Elem", "n.createValueAndVerify", "out.Index",
     "Index().Set", "to.Elem", "n.createValueAndVerify", "out.Len", "out.Cap",
     "msgDispatchQueueMutex.Lock", "msgDispatchQueueMutex.Unlock", "out.Send"] := rfl

theorem c07_shape_TreeNodeInstance_createValueAndVerify :
    Shapes.treenode_TreeNodeInstance_createValueAndVerify =
   ["n.Tree", "if:(t!=nil)", "tr.Search", "if:(tn==nil)", "return:m,xerrors.New(\"\")",
     "m.Field", "Field().Set", "m.Field", "Field().Set",
     "if:(((msg.ServerIdentity!=nil)&&(tn!=nil))&&!tn.ServerIdentity.Equal(msg.ServerIdentity))",
     "return:m,xerrors.Errorf(\"\",tn.ServerIdentity,msg.ServerIdentity)", "return:m,nil"] := rfl

theorem c07_shape_Overlay_newTreeNodeInstanceFromToken :
    Shapes.overlay_Overlay_newTreeNodeInstanceFromToken =
   ["newTreeNodeInstance", "instancesLock.Lock", "defer:instancesLock.Unlock", "if:o.closed",
     "tni.closeDispatch", "return:tni", "tok.ID", "return:tni"] := rfl

theorem c07_shape_Overlay_RegisterProtocolInstance :
    Shapes.overlay_Overlay_RegisterProtocolInstance =
   ["instancesLock.Lock", "defer:instancesLock.Unlock", "pi.Token", "tok.ID", "tni.isBound",
     "tni.bind", "tok.ID"] := rfl

theorem c07_shape_Overlay_savePendingMsg :
    Shapes.overlay_Overlay_savePendingMsg =
   ["pendingMsgLock.Lock", "pendingMsgLock.Unlock"] := rfl

theorem c07_shape_TreeNodeInstance_closeDispatch :
    Shapes.treenode_TreeNodeInstance_closeDispatch =
   ["defer{", "}", "msgDispatchQueueMutex.Lock", "close:msgDispatchQueueWait",
     "msgDispatchQueueMutex.Unlock", "n.ProtocolInstance", "pni.Shutdown"] := rfl

theorem c07_shape_TreeNodeInstance_ProcessProtocolMsg :
    Shapes.treenode_TreeNodeInstance_ProcessProtocolMsg =
   ["msgDispatchQueueMutex.Lock", "defer:msgDispatchQueueMutex.Unlock", "if:n.closing",
     "return:", "n.notifyDispatch"] := rfl

theorem c07_shape_Overlay_hasPendingMsg_b2 :
    Shapes.overlay_Overlay_hasPendingMsg_b2 =
   ["pendingMsgLock.Lock", "defer:pendingMsgLock.Unlock", "range:_,msg:=o.pendingMsg{",
     "if:((msg.To!=nil)&&id.Equal(msg.To.TreeID))", "return:true", "}", "return:false"] := rfl

theorem c07_shape_Overlay_checkPendingMessages_b2 :
    Shapes.overlay_Overlay_checkPendingMessages_b2 =
   ["go{", "verifPoint:cpm.start", "pendingMsgLock.Lock", "range:_,msg:=o.pendingMsg{",
     "if:t.ID.Equal(msg.To.TreeID)", "assign:remaining=append(remaining,msg)", "else",
     "assign:newPending=append(newPending,msg)", "}", "assign:o.pendingMsg=newPending",
     "pendingMsgLock.Unlock", "range:_,msg:=remaining{", "o.TransmitMsg",
     "assign:err:=o.TransmitMsg(msg.ProtocolMsg,msg.MessageProxy)", "if:(err!=nil)", "continue",
     "}", "verifPoint:cpm.done", "}"] := rfl

theorem c07_shape_Overlay_savePendingMsg_b2 :
    Shapes.overlay_Overlay_savePendingMsg_b2 =
   ["pendingMsgLock.Lock",
     "assign:o.pendingMsg=append(o.pendingMsg,pendingMsg{ProtocolMsg:onetMsg,MessageProxy:io})",
     "pendingMsgLock.Unlock"] := rfl

theorem c07_shape_Overlay_RegisterTree_b2 :
    Shapes.overlay_Overlay_RegisterTree_b2 =
   ["treeStorage.Set", "o.checkPendingMessages"] := rfl

theorem c07_shape_Overlay_TreeNodeFromTree_b2 :
    Shapes.overlay_Overlay_TreeNodeFromTree_b2 =
   ["tree.Search", "assign:tn:=tree.Search(id)", "if:(tn==nil)", "return:nil,xerrors.New(\"\")",
     "return:tn,nil"] := rfl

theorem c07_shape_Overlay_handleConfigMessage_b2 :
    Shapes.overlay_Overlay_handleConfigMessage_b2 =
   ["assign:config,ok:=env.Msg.(ConfigMsg)", "if:!ok", "return:", "pendingConfigsMut.Lock",
     "defer:pendingConfigsMut.Unlock", "assign:o.pendingConfigs[config.Dest]=&config.Config"] := rfl

theorem c07_shape_Overlay_getConfig_b2 :
    Shapes.overlay_Overlay_getConfig_b2 =
   ["pendingConfigsMut.Lock", "defer:pendingConfigsMut.Unlock", "assign:c:=o.pendingConfigs[id]",
     "return:c"] := rfl

theorem c07_shape_treeStorage_getAndRefresh_b2 :
    Shapes.treestorage_treeStorage_getAndRefresh_b2 =
   ["ts.Lock", "defer:ts.Unlock", "ts.cancelDeletion", "return:ts.trees[id]"] := rfl

theorem c07_shape_treeStorage_Remove_b2 :
    Shapes.treestorage_treeStorage_Remove_b2 =
   ["ts.Lock", "defer:ts.Unlock", "if:ts.closed", "return:", "assign:_,ok:=ts.cancellations[id]",
     "if:ok", "return:", "wg.Add", "assign:c:=make(conv)", "assign:ts.cancellations[id]=c",
     "go{", "defer:wg.Done", "time.NewTimer", "assign:timer:=time.NewTimer(ts.timeout)",
     "recv:C", "verifPoint:ts.fired", "ts.Lock", "if:(ts.cancellations[id]==c)", "ts.Unlock",
     "recv:c", "timer.Stop", "return:", "}"] := rfl

/-- `treeStorage.Register` writes the empty slot only when the id has no entry ("never drop a tree that has been set in
the meantime"): the `registerAsk` of the schedule model; its blind variant is `c07_sched_blind_register_silences` -/
theorem c07_shape_treeStorage_Register_full :
    Shapes.treestorage_treeStorage_Register_full =
      ["ts.Lock", "assign:_,ok:=ts.trees[id]", "if:!ok", "assign:ts.trees[id]=nil", "ts.Unlock"] := rfl

/-- `nodeDone`: the whole of `nodeDelete` (the protocol's `Shutdown` included) runs inside the instance-list region — the
window op `lockrace` widens -/
theorem c07_shape_Overlay_nodeDone :
    Shapes.overlay_Overlay_nodeDone = ["instancesLock.Lock", "o.nodeDelete", "instancesLock.Unlock"] := rfl

namespace LockOrder

/-- **the acquisition graph of the source**: over every handler `Overlay.Process` dispatches to, the flush, the end of an
instance — following calls into the overlay, the tree store and the instance — these are ALL the pairs (lock held, lock
taken).  They are the nestings `Model/C07Locks.lean` transcribes by hand. -/
theorem c07_lock_graph_of_source :
    edges = [(.transmitMux, .instances), (.instances, .store), (.transmitMux, .store), (.instances, .queue),
             (.transmitMux, .queue), (.transmitMux, .pendingMsg), (.transmitMux, .pendingCfg), (.pendingTree, .store)] := by
  -- a finite table, evaluated by the kernel: the walk under `keyed`
  rw [edges, walk_eq_walkC]
  decide +kernel

/-- **the order is a strict one**: every acquisition in the source goes up in `rank` — so no cycle of handlers waiting for
each other's locks exists, and no lock is taken while it is held -/
theorem c07_lock_order_of_source : ∀ e ∈ edges, rank e.1 < rank e.2 := by
  rw [c07_lock_graph_of_source]; decide

/-- **negation witness** (seeded C07r7-A): a `handleConfigMessage` that looks at the instance list while it holds the
config list, and a `getConfig` called inside the instance-list region of `TransmitMsg`, give the two opposite edges —
the second against the order -/
theorem c07_lock_order_inversion_detected :
    walk 3 [] ["pendingConfigsMut.Lock", "defer:pendingConfigsMut.Unlock", "instancesLock.Lock", "instancesLock.Unlock"]
      = [(.pendingCfg, .instances)] ∧
    walk 3 [] ["transmitMux.Lock", "defer:transmitMux.Unlock", "instancesLock.Lock", "o.cleanTreeStorage", "o.getConfig", "instancesLock.Unlock"]
      = [(.transmitMux, .instances), (.instances, .store), (.transmitMux, .store), (.instances, .pendingCfg), (.transmitMux, .pendingCfg)] ∧
    ¬ rank Lock.pendingCfg < rank Lock.instances := by
  rw [walk_eq_walkC]
  decide +kernel

end LockOrder

end C07


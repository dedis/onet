import OnetVerif.Model.C04
import OnetVerif.Gen.C04
import OnetVerif.Proofs.GenRt
/-! Property C04 — the definitions regenerated from the Go source (`Gen/C04.lean`, written by `harness/cmd/go2lean`
on every check run from `treenode.go`): the constant `AggregateMessages`, the field `messageTypeFlags` of
`TreeNodeInstance` (a Go map from message type to `uint32`: `Gen.Rt.Map`) and `hasFlag`.  The model keeps the
flag table as `Reg.flags : Nat → Bool` ("is `AggregateMessages` set for this message type").  `flagsOf` reads
the translated table that way; the theorems say that the translated `hasFlag(mt, AggregateMessages)` *is* that
reading, and that the two writes the registration functions perform (`flags := uint32(0)`, `flags +=
AggregateMessages` for the slice form, `messageTypeFlags[typ] = flags`) change it exactly as `registerHandler` /
`registerChanValue` change `Reg.flags`; and that the translated `aggregate` is the model's. -/
namespace C04

/-- the translated flag table read as the model's -/
def flagsOf (m : Gen.Rt.Map Nat Nat) : Nat → Bool := fun t => Nat.land (Gen.Rt.Map.get m t 0) 1 != 0

/-- the constant as read from the source -/
theorem c04_gen_AggregateMessages : Gen.C04.AggregateMessages = 1 := rfl

/-- **`hasFlag(mt, AggregateMessages)` as translated is the model's flag of `mt`** -/
theorem c04_gen_hasFlag_eq (n : Gen.C04.TreeNodeInstance) (mt : Nat) :
    Gen.C04.TreeNodeInstance_hasFlag n mt (Int.toNat Gen.C04.AggregateMessages) = flagsOf n.messageTypeFlags mt := rfl

/-- `hasFlag` for any flag word: the bit-wise "and" of the stored word (0 for a message type never registered)
with the flag is not zero -/
theorem c04_gen_hasFlag_spec (n : Gen.C04.TreeNodeInstance) (mt f : Nat) :
    Gen.C04.TreeNodeInstance_hasFlag n mt f = (Nat.land ((Gen.Rt.Map.find n.messageTypeFlags mt).getD 0) f != 0) := rfl

/-- the word the registration functions store: `flags := uint32(0)`, plus `AggregateMessages` for the slice form -/
def flagWord (f : Form) : Nat := if f == .slice then 0 + Int.toNat Gen.C04.AggregateMessages else 0

/-- **the write `messageTypeFlags[typ] = flags` as the model's update of `Reg.flags`**: after storing the word of
form `f` under `mt` (in a table that is not the nil map — `newTreeNodeInstance` makes it), `hasFlag` answers
"slice form" for `mt` and what it answered before for every other message type — the update `registerHandler`
and `registerChanValue` apply to `Reg.flags` -/
theorem c04_gen_flag_write (m : Gen.Rt.Map Nat Nat) (hm : m.isSome) (mt : Nat) (f : Form) :
    ∃ m', Gen.Rt.Map.insert? m mt (flagWord f) = some m' ∧
      flagsOf m' = fun t => if t = mt then f == .slice else flagsOf m t := by
  refine ⟨_, Gen.Rt.Map.insert?_eq m hm .., funext fun t => ?_⟩
  simp only [flagsOf, Gen.Rt.Map.get_put]
  by_cases h : t = mt
  · rw [if_pos h, if_pos h]; cases f <;> rfl
  · rw [if_neg h, if_neg h]

/-- a table nobody wrote to answers "not aggregated" everywhere, like `Reg.empty` -/
theorem c04_gen_flags_empty : flagsOf (some []) = Reg.empty.flags := by
  funext t; simp [flagsOf, Gen.Rt.Map.get, Gen.Rt.Map.find, Reg.empty]

/-! ### `aggregate` -/

/-- a translated message read as the model's: its type, its sender (`none` = the node's parent `pid`), and — the
translated struct keeps no payload — the sender id again as the payload tag -/
def msgOf (pid : Nat) (pm : Gen.C04.ProtocolMsg) : Msg :=
  { ty := pm.MsgType, src := if pm.From.TreeNodeID == pid then none else some pm.From.TreeNodeID,
    val := pm.From.TreeNodeID }

/-- the translated queues read as the model's (an absent entry is the empty queue) -/
def queuesOf (pid : Nat) (q : Gen.Rt.Map Nat (List Gen.C04.ProtocolMsg)) : Queues :=
  fun t => (Gen.Rt.Map.get q t []).map (msgOf pid)

/-- what the instance knows, read off the translated instance and the three accessors -/
def cfgOf (n : Gen.C04.TreeNodeInstance) (root : Bool) (kids : List Gen.C04.TreeNode) : Cfg :=
  { isRoot := root, nChildren := kids.length, agg := flagsOf n.messageTypeFlags }

section
open Gen.Rt
variable (n : Gen.C04.TreeNodeInstance) (pm : Gen.C04.ProtocolMsg) (root : Bool) (par : Gen.C04.TreeNode)
  (kids : List Gen.C04.TreeNode)

theorem bypass_gen : bypass (cfgOf n root kids) (msgOf par.ID pm) =
    ((!root && (pm.From.TreeNodeID == par.ID)) || !Gen.C04.TreeNodeInstance_hasFlag n pm.MsgType 1) := by
  simp only [bypass, fromParent, cfgOf, msgOf]
  cases pm.From.TreeNodeID == par.ID <;> rfl

theorem queuesOf_put (pid : Nat) (q : Map Nat (List Gen.C04.ProtocolMsg)) (k : Nat) (v : List Gen.C04.ProtocolMsg) :
    queuesOf pid (Map.put q k v) = fun t => if t = k then v.map (msgOf pid) else queuesOf pid q t := by
  funext t
  simp only [queuesOf, Map.get_put]
  split <;> rfl

theorem queuesOf_erase (pid : Nat) (q : Map Nat (List Gen.C04.ProtocolMsg)) (k : Nat) :
    queuesOf pid (Map.erase q k) = fun t => if t = k then [] else queuesOf pid q t := by
  funext t
  simp only [queuesOf, Map.get_erase]
  split <;> rfl

/-- `q1`: the table after `n.msgQueue[mt] = make(…)` for a type without entry; it reads as `n.msgQueue` does -/
theorem gen_aggregate_queued (hq : n.msgQueue.isSome) (hb : bypass (cfgOf n root kids) (msgOf par.ID pm) = false) :
    ∃ q1, queuesOf par.ID q1 = queuesOf par.ID n.msgQueue ∧
      Gen.C04.TreeNodeInstance_aggregate n pm (fun _ => root) (fun _ => par) (fun _ => kids) =
        if (Map.get q1 pm.MsgType [] ++ [pm]).length = kids.length then
          some (pm.MsgType, Map.get q1 pm.MsgType [] ++ [pm], true,
            { n with msgQueue := Map.erase (Map.put q1 pm.MsgType (Map.get q1 pm.MsgType [] ++ [pm])) pm.MsgType })
        else some (pm.MsgType, [], false, { n with msgQueue := Map.put q1 pm.MsgType (Map.get q1 pm.MsgType [] ++ [pm]) }) := by
  rw [bypass_gen] at hb
  cases hf : Map.find n.msgQueue pm.MsgType with
  | none =>
    refine ⟨Map.put n.msgQueue pm.MsgType [], ?_, ?_⟩
    · rw [queuesOf_put]
      funext t
      split
      · next ht => rw [ht, queuesOf, Map.get, hf]; rfl
      · rfl
    · simp only [Gen.C04.TreeNodeInstance_aggregate, hb, hf, Map.insert?_eq _ hq,
        Map.insert?_eq (Map.put n.msgQueue pm.MsgType []) rfl, Option.isSome_none, Bool.not_false, if_true,
        Bool.false_eq_true, if_false, len_beq, decide_eq_true_eq]
  | some v =>
    refine ⟨n.msgQueue, rfl, ?_⟩
    simp only [Gen.C04.TreeNodeInstance_aggregate, hb, hf, Map.insert?_eq _ hq, Option.isSome_some, Bool.not_true,
      Bool.false_eq_true, if_false, len_beq, decide_eq_true_eq]

end

/-- **`aggregate` as translated is the model's `aggregate`.**  For an instance whose queue table is not the nil map
(`newTreeNodeInstance` makes it), whatever `IsRoot()`, `Parent()` and `Children()` answer (they do not look at the
queues): the call does not panic; it returns the message's type; the flag says whether a batch is due and the batch,
read as model messages, is the model's; the queues afterwards, read as the model's, are the model's. -/
theorem c04_gen_aggregate_eq (n : Gen.C04.TreeNodeInstance) (hq : n.msgQueue.isSome) (pm : Gen.C04.ProtocolMsg)
    (root : Bool) (par : Gen.C04.TreeNode) (kids : List Gen.C04.TreeNode) :
    ∃ msgs due n', Gen.C04.TreeNodeInstance_aggregate n pm (fun _ => root) (fun _ => par) (fun _ => kids) =
        some (pm.MsgType, msgs, due, n') ∧
      n'.messageTypeFlags = n.messageTypeFlags ∧
      queuesOf par.ID n'.msgQueue = (aggregate (cfgOf n root kids) (queuesOf par.ID n.msgQueue) (msgOf par.ID pm)).1 ∧
      (if due then some (msgs.map (msgOf par.ID)) else none) =
        (aggregate (cfgOf n root kids) (queuesOf par.ID n.msgQueue) (msgOf par.ID pm)).2 := by
  cases hb : bypass (cfgOf n root kids) (msgOf par.ID pm) with
  | true =>
    refine ⟨[pm], true, n, ?_, rfl, ?_, ?_⟩
    · rw [bypass_gen] at hb
      simp only [Gen.C04.TreeNodeInstance_aggregate, hb, if_true]
    · rw [aggregate, if_pos hb]
    · rw [aggregate, if_pos hb]; rfl
  | false =>
    obtain ⟨q1, h1, hG⟩ := gen_aggregate_queued n pm root par kids hq hb
    have hm : queuesOf par.ID n.msgQueue (msgOf par.ID pm).ty ++ [msgOf par.ID pm] =
        (Gen.Rt.Map.get q1 pm.MsgType [] ++ [pm]).map (msgOf par.ID) := by
      rw [← h1, List.map_append]; rfl
    rw [aggregate, if_neg (by rw [hb]; exact Bool.false_ne_true), hG]
    simp only [hm, List.length_map, cfgOf]
    by_cases hd : (Gen.Rt.Map.get q1 pm.MsgType [] ++ [pm]).length = kids.length
    · rw [if_pos hd, if_pos hd]
      refine ⟨_, true, _, rfl, rfl, ?_, rfl⟩
      rw [queuesOf_erase, queuesOf_put, h1]
      funext t
      show _ = if t = pm.MsgType then _ else _
      by_cases ht : t = pm.MsgType <;> simp only [ht, if_true, if_false]
    · rw [if_neg hd, if_neg hd]
      refine ⟨_, false, _, rfl, rfl, ?_, rfl⟩
      rw [queuesOf_put, h1]
      rfl
end C04

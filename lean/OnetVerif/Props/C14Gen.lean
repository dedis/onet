import OnetVerif.Model.C14
import OnetVerif.Gen.C14
import OnetVerif.Proofs.GenRt
/-! Property C14 — the decisions regenerated from the Go source (`Gen/C14.lean`, written by `harness/cmd/go2lean` on every
check run from `websocket_client.go` and `processor.go`).  `ParallelOptions.Quit` is translated as a whole.
`ParallelOptions.GetList` (a channel, `rand.Perm`), `SendProtobufParallelWithDecoder` (goroutines), `RegisterRESTHandler`
(reflection, a closure), `callInterfaceFunc` (reflection) and `ProcessClientRequest` cannot be translated as functions;
their **decisions** are lifted out (`"extract"` in `meta/go2lean.json`) and the theorems below say that the model
takes exactly these decisions.  Nothing imports this file. -/
namespace C14

/-- the model's options as the generated structure (`IgnoreNodes` is left out by the translator) -/
def ParOpts.toGen (o : ParOpts) : Gen.C14.ParOpts :=
  { Parallel := o.parallel, AskNodes := o.askNodes, StartNode := o.startNode, QuitError := o.quitError,
    DontShuffle := o.dontShuffle }

/-- **`Quit` as translated is the model's `quit`**, for every options value, nil included; it never panics -/
theorem c14_gen_quit_eq (po : Option ParOpts) :
    Gen.C14.ParallelOptions_Quit (po.map ParOpts.toGen) = some (ParOpts.quit po) := by
  cases po <;> rfl

/-- the conditions as read from the source -/
theorem c14_gen_conditions (nodes : List Nat) (a p n v mn mx : Int) (b : Bool) :
    Gen.C14.GetList_askNodes0 nodes = (nodes.length : Int) ∧
    Gen.C14.GetList_fewerAsked a p = decide (a < p) ∧
    Gen.C14.Parallel_nobody n = (n == 0) ∧
    Gen.C14.RegisterREST_minAboveMax mn mx = decide (mn > mx) ∧
    Gen.C14.RegisterREST_tooEarly mn = decide (mn < 3) ∧
    Gen.C14.RegisterREST_nextVersion v mx = decide (v ≤ mx) ∧
    Gen.C14.callInterfaceFunc_streaming b = b ∧
    Gen.C14.ProcessClientRequest_unregistered b = !b := ⟨rfl, rfl, rfl, rfl, rfl, rfl, rfl, rfl⟩

/-- **the numbers of `GetList` are computed with the translated decisions**: the default number of nodes asked is the
translated `len(nodes)`, and the final cut `parallel = askNodes` happens exactly when the translated test
`askNodes < parallel` says so (a test `<=` or the cut in the other direction breaks this) -/
theorem c14_gen_getlist_numbers (nodes : List Nat) (o : ParOpts) :
    getListParams nodes.length (some o) =
      (let len := Gen.C14.GetList_askNodes0 nodes
       let parallel0 : Int := (len + 1) / 2
       let parallel := if o.parallel > 0 ∧ o.parallel < parallel0 then o.parallel else parallel0
       let startNode := if o.startNode > 0 ∧ o.startNode < len then o.startNode else 0
       let askNodes := if o.askNodes > 0 ∧ o.askNodes < len then o.askNodes else len - startNode
       (⟨if Gen.C14.GetList_fewerAsked askNodes parallel then askNodes else parallel, askNodes, startNode⟩ : ListParams)) ∧
    getListParams nodes.length none =
      (⟨(Gen.C14.GetList_askNodes0 nodes + 1) / 2, Gen.C14.GetList_askNodes0 nodes, 0⟩ : ListParams) := by
  simp [getListParams, Gen.C14.GetList_askNodes0, Gen.C14.GetList_fewerAsked, Gen.Rt.len]

/-- **nobody to ask**: the model ends the call with an error exactly when the translated test `nodesNbr == 0` on the
number of nodes in the channel says so -/
theorem c14_gen_nobody (asked : List Nat) :
    nobodyToAsk true asked = if Gen.C14.Parallel_nobody (asked.length : Int) then some .error else none := by
  unfold nobodyToAsk Gen.C14.Parallel_nobody
  simp

/-- a method name as the translator reads Go strings: the list of its character codes (for the names the code compares
with — GET, POST, PUT — these are its bytes; any injective reading that agrees on the three literals gives the same
decisions) -/
def codesOf (s : String) : List Nat := s.toList.map Char.toNat

theorem codesOf_inj {a b : String} : codesOf a = codesOf b ↔ a = b := by
  constructor
  · intro h
    apply String.toList_injective
    exact (List.map_inj_right (f := Char.toNat) (by intro x y hxy; exact Char.toNat_inj.mp hxy)).mp h
  · intro h; rw [h]

/-- **the checks of `RegisterRESTHandler` are the translated ones, in the order of the source**: for every function
signature, every method name and every version range the model's `registerRESTCheck` refuses the method exactly when
the translated test `method != "GET" && method != "POST" && method != "PUT"` does, then the range when `minVersion >
maxVersion`, then `minVersion < 3`, and prepares a GET handler exactly when the translated `method == "GET"` holds
(`minVersion <= 3`, a method test that lets DELETE through, or the GET preparation for POST break this) -/
theorem c14_gen_registerREST_eq (g : Sig) (method : String) (minV maxV : Nat) :
    registerRESTCheck g method minV maxV =
      if Gen.C14.RegisterREST_badMethod (codesOf method) then .error .method
      else if Gen.C14.RegisterREST_minAboveMax minV maxV then .error .minMax
      else if Gen.C14.RegisterREST_tooEarly minV then .error .minVersion
      else match registerHandlerCheck g with
        | some e => .error e
        | none =>
          if Gen.C14.RegisterREST_isGET (codesOf method) then
            match prepareHandlerGET g with
            | .ok k => .ok (some k)
            | .error e => .error e
          else .ok none := by
  -- the literals the translated tests compare with are the codes of the three method names
  have lit : ∀ (name : String) (l : List Nat), l = codesOf name → (codesOf method = l ↔ method = name) :=
    fun _ _ hl => hl ▸ codesOf_inj
  have hG := lit "GET" [71, 69, 84] (by decide +kernel)
  have hP := lit "POST" [80, 79, 83, 84] (by decide +kernel)
  have hU := lit "PUT" [80, 85, 84] (by decide +kernel)
  have e1 : decide ((minV : Int) > (maxV : Int)) = decide (minV > maxV) := decide_eq_decide.mpr (by omega)
  have e2 : decide ((minV : Int) < 3) = decide (minV < 3) := decide_eq_decide.mpr (by omega)
  have b1 : Gen.C14.RegisterREST_badMethod (codesOf method) = decide (method ≠ "GET" ∧ method ≠ "POST" ∧ method ≠ "PUT") := by
    unfold Gen.C14.RegisterREST_badMethod
    rw [Bool.eq_iff_iff]
    simp only [Bool.and_eq_true, bne_iff_ne, ne_eq, decide_eq_true_eq, hG, hP, hU]
    exact and_assoc
  have b2 : Gen.C14.RegisterREST_isGET (codesOf method) = decide (method = "GET") := by
    unfold Gen.C14.RegisterREST_isGET
    rw [Bool.eq_iff_iff]
    simp only [beq_iff_eq, decide_eq_true_eq, hG]
  rw [b1, b2]
  unfold registerRESTCheck Gen.C14.RegisterREST_minAboveMax Gen.C14.RegisterREST_tooEarly
  rw [e1, e2]
  simp only [decide_eq_true_eq]
  rfl

/-- non-vacuity: the four outcomes of the method and version tests on concrete registrations -/
example : registerRESTCheck {} "DELETE" 3 3 = .error .method ∧ registerRESTCheck {} "POST" 4 3 = .error .minMax ∧
    registerRESTCheck {} "PUT" 2 3 = .error .minVersion ∧ registerRESTCheck {} "POST" 3 5 = .ok none ∧
    registerRESTCheck { in0 := .ptrStruct .oneInt } "GET" 3 3 = .ok (some .int) :=
  ⟨by rfl, by rfl, by rfl, by rfl, by rfl⟩

/-- the shape of a translated option test `po.X > 0 && po.X < hi`: evaluated left to right, no panic -/
theorem gen_and_eq (a b : Prop) [Decidable a] [Decidable b] :
    (if decide a then (if decide b then some true else some false) else some false) = some (decide (a ∧ b)) := by
  by_cases ha : a <;> by_cases hb : b <;> simp [ha, hb]

/-- **all the numbers of `GetList` are computed with the translated decisions** (the translator's
`"rich"` extracts): the default `(len(nodes)+1)/2`, the three option tests `po.Parallel > 0 && po.Parallel <
parallel`, `po.StartNode > 0 && po.StartNode < len(nodes)`, `po.AskNodes > 0 && po.AskNodes < len(nodes)` —
none of which panics for a non-nil `po` — and the final cut; nothing of `getListParams` is a hand
transcription (`>= 0`, `<=`, a swapped field, `len(nodes)/2` break it) -/
theorem c14_gen_getlist_numbers_full (nodes : List Nat) (o : ParOpts) :
    Gen.C14.GetList_parallel0 nodes = some (((nodes.length : Int) + 1) / 2) ∧
    (∃ b1 b2 b3, Gen.C14.GetList_takeParallel (some o.toGen) (((nodes.length : Int) + 1) / 2) = some b1 ∧
      Gen.C14.GetList_takeStart (some o.toGen) nodes = some b2 ∧
      Gen.C14.GetList_takeAsk (some o.toGen) nodes = some b3 ∧
      getListParams nodes.length (some o) =
        (let parallel0 : Int := ((nodes.length : Int) + 1) / 2
         let parallel := if b1 then o.parallel else parallel0
         let startNode := if b2 then o.startNode else 0
         let askNodes := if b3 then o.askNodes else (nodes.length : Int) - startNode
         (⟨if Gen.C14.GetList_fewerAsked askNodes parallel then askNodes else parallel, askNodes, startNode⟩ : ListParams))) := by
  refine ⟨?_, _, _, _, gen_and_eq _ _, gen_and_eq _ _, gen_and_eq _ _, ?_⟩
  · simp only [Gen.C14.GetList_parallel0, Gen.Rt.idiv, Gen.Rt.len, Int.ofNat_eq_natCast]
    rw [if_neg (by decide), Int.tdiv_eq_ediv_of_nonneg (by omega)]
  · simp [getListParams, Gen.C14.GetList_fewerAsked, Gen.Rt.len, ParOpts.toGen]

/-- **the walk of `collect` is the translated index expression**: for a start inside the roster and a
permutation entry `perm[i] = p`, the translated `nodes[(startNode+perm[i])%len(nodes)]` does not panic
and is the node `collect` takes -/
theorem c14_gen_walk (nodes : List Nat) (start p : Nat) (perm : List Int) (i : Nat)
    (hi : perm[i]? = some (p : Int)) (hn : 0 < nodes.length) :
    Gen.C14.GetList_node nodes (start : Int) perm (i : Int) =
      some (nodes.getD ((start + p) % nodes.length) 0) := by
  unfold Gen.C14.GetList_node
  -- `perm[i]`
  rw [Gen.Rt.idx_nat, hi]; simp only
  -- `(startNode + perm[i]) % len(nodes)`, on natural numbers
  rw [Gen.Rt.len, Int.ofNat_eq_natCast, Gen.Rt.imod_nat _ p _ (Int.natCast_nonneg start) hn, Int.toNat_natCast]; simp only
  -- the index is below `len(nodes)`: no panic
  rw [Gen.Rt.idx_nat, List.getD_eq_getElem?_getD, List.getElem?_eq_getElem (Nat.mod_lt _ hn), Option.getD_some]

/-- the final slash of a route: exactly the two GET kinds with a resource identifier (the `iota` constants
as evaluated by the translator: `intGET = 2`, `sliceGET = 3`) -/
theorem c14_gen_final_slash (k : Int) :
    Gen.C14.RegisterREST_finalSlash k = decide (k = 2 ∨ k = 3) ∧ Gen.C14.intGET = 2 ∧ Gen.C14.sliceGET = 3 := by
  refine ⟨?_, rfl, rfl⟩
  simp only [Gen.C14.RegisterREST_finalSlash, Gen.C14.intGET, Gen.C14.sliceGET]
  by_cases h2 : k = 2 <;> by_cases h3 : k = 3 <;> simp [h2, h3]

/-- **the connection table forgets and dials by the translated decisions**: `mSend` dials exactly when the
translated `!connected` of `newConnIfNotExist` holds for "a connection is stored under the key", and drops
the connection after the request exactly when the translated `if failed` of `Send`'s deferred function or
the translated `if !c.keep` of `closeSingleUseConn` says so (keeping after a failure — the defect fixed in
5b2df0e —, or closing kept connections, breaks this) -/
theorem c14_gen_connection_table {K D : Type} [DecidableEq K] (key : D → K) (keep : Bool) (c : MCl K D) (d : D) (ok : Bool) :
    let c1 : MCl K D := if Gen.C14.newConn_dials (c.find (key d)).isSome then ⟨(key d, d) :: c.conns⟩ else c
    (mSend key keep c d ok).1 =
      (if Gen.C14.Send_forgetsFailed (!ok) || Gen.C14.closeSingleUse_closes ⟨keep⟩ then c1.drop (key d) else c1) := by
  simp only [mSend, Gen.C14.newConn_dials, Gen.C14.Send_forgetsFailed, Gen.C14.closeSingleUse_closes]
  -- `mSend` dials iff `find` gives `none` and drops iff `!ok || !keep`: the eight cases agree
  cases hf : c.find (key d) <;> cases ok <;> cases keep <;> simp
/-- **a lock object is made exactly when none exists** (`newConnIfNotExist`: `if !exists { c.connectionsLock[dest] =
&sync.Mutex{} }`, the translated test): the step of a caller that enters `Send` in the client model `KCl` adds a lock
object iff the translated `!exists` holds of "the destination has a lock object" — never a second one (two lock
objects for one connection let two callers interleave: `c14_client_lock_deleted_with_connection_swaps`) -/
theorem c14_gen_lock_object (v : KVariant) (respond : Bytes → Option Bytes) (y : KCl) (i : Nat) (q : Bytes)
    (h : y.callers[i]? = some (q, .start)) :
    (kStep v respond y (.caller i)).map (fun y' => y'.locks.length) =
      some (if Gen.C14.newConn_makesLock y.curLock.isSome then y.locks.length + 1 else y.locks.length) := by
  simp only [kStep, h, Gen.C14.newConn_makesLock]
  cases y.curLock <;> simp

end C14

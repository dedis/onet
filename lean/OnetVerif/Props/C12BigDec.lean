import OnetVerif.Model.C12
import OnetVerif.Gen.C12Big
import OnetVerif.Proofs.GenRt
/-! Property C12 — helper file for `Props/C12Gen.lean` (no obligations are stated here): the *decisions* of
`Roster.GenerateBigNaryTree` — lifted from the source by `go2lean` (`"extract"`, module `Gen.C12Big`: loop conditions,
`if` conditions, the child-count and index arithmetic; the function as a whole, a `for cond { … }` with `continue` /
`break` over slices of pointers, is outside the translated subset) — are exactly the decisions the hand model
(`C12.pickLoop`, `childCount`, `bigLoop`, `BigCfg.useAll`) takes.  Go `int`s are `Int`, the model's numbers `Nat`. -/
namespace C12

theorem int_beq (a b : Nat) : ((a : Int) == (b : Int)) = (a == b) := by
  rw [Bool.eq_iff_iff, beq_iff_eq, beq_iff_eq, Int.natCast_inj]

/-- `toNat` (negative: 0) goes through each operation of the source's child count — `Int.toNat_sub`, this, `toNat_cap` —
so the Go `int`s give the model's truncated subtraction -/
theorem toNat_mul_tdiv (a : Int) (b L : Nat) : ((a * b).tdiv L).toNat = a.toNat * b / L := by
  rcases Int.le_total 0 a with h | h
  · obtain ⟨n, rfl⟩ := Int.eq_ofNat_of_zero_le h
    rfl
  · obtain ⟨n, rfl⟩ := Int.exists_eq_neg_ofNat h
    rw [Int.neg_mul, Int.neg_tdiv, ← Int.natCast_mul, ← Int.ofNat_tdiv, Int.toNat_neg_natCast, Int.toNat_neg_natCast,
      Nat.zero_mul, Nat.zero_div]

theorem toNat_cap (x : Int) (N : Nat) : (if x > (N : Int) then (N : Int) else x).toNat = min N x.toNat := by
  split
  · next h =>
    exact (Nat.min_eq_left ((Int.le_toNat (Int.le_trans (Int.natCast_nonneg N) (Int.le_of_lt h))).mpr (Int.le_of_lt h))).symm
  · next h => exact (Nat.min_eq_right (Int.toNat_le.mpr (Int.not_lt.mp h))).symm

/-- `useAll := ilLen == nodes` -/
theorem bigdec_useAll (c : BigCfg) : Gen.C12Big.useAll c.ilLen c.nodes = c.useAll := int_beq _ _

/-- `for totalNodes < nodes` -/
theorem bigdec_levelCond (total nodes : Nat) : Gen.C12Big.levelCond total nodes = decide (total < nodes) := by
  rw [Gen.C12Big.levelCond, Bool.eq_iff_iff, decide_eq_true_iff, decide_eq_true_iff, Int.ofNat_lt]

/-- `children := (nodes - totalNodes) * (i + 1) / len(levelNodes)` then `if children > N { children = N }` is the model's
`childCount` (inside the level loop `totalNodes < nodes`, and a level is never empty) -/
theorem bigdec_children (c : BigCfg) (levelNodes : List Int) (i total : Nat) (hL : 0 < levelNodes.length)
    (ht : total ≤ c.nodes) :
    ∃ ch : Nat, Gen.C12Big.children c.nodes total i levelNodes = some (ch : Int) ∧
      ch = (c.nodes - total) * (i + 1) / levelNodes.length ∧
      childCount c levelNodes.length i total = (if Gen.C12Big.childrenCap ch c.N then c.N else ch) := by
  refine ⟨(c.nodes - total) * (i + 1) / levelNodes.length, ?_, rfl, ?_⟩
  · rw [Gen.C12Big.children, Gen.Rt.idiv, Gen.Rt.len, Int.ofNat_eq_natCast,
      if_neg (Int.natCast_ne_zero.mpr (Nat.ne_of_gt hL)), ← Int.ofNat_sub ht]
    rfl
  · rw [childCount, Gen.C12Big.childrenCap]
    by_cases h : c.N < (c.nodes - total) * (i + 1) / levelNodes.length
    · rw [if_pos (decide_eq_true (Int.ofNat_lt.mpr h)), if_pos rfl, Nat.min_eq_left (Nat.le_of_lt h)]
    · rw [if_neg (fun hd => h (Int.ofNat_lt.mp (of_decide_eq_true hd))), if_neg Bool.false_ne_true,
        Nat.min_eq_right (Nat.le_of_not_lt h)]

/-- `for n := 0; n < children; n++` -/
theorem bigdec_childCond (n ch : Nat) : Gen.C12Big.childCond n ch = decide (n < ch) := by
  simp only [Gen.C12Big.childCond, Bool.if_true_left, Bool.or_false, Bool.decide_eq_true, Int.ofNat_lt]

/-- the source only ever tests a decision for `= some true`, and an index panic (`none`) fails that test as the model's
default `false` does: the decisions agree on every state and the equations below need no invariant of the loops -/
theorem bigdec_pickUsed_iff (used : List Bool) (useAll : Bool) (ro : Nat) :
    Gen.C12Big.pickUsed used useAll ro = some true ↔ (useAll && used.getD ro false) = true := by
  rw [Gen.C12Big.pickUsed, Gen.Rt.idx_nat, List.getD_eq_getElem?_getD]
  cases useAll
  · exact ⟨nofun, nofun⟩
  · rcases used[ro]? with _ | _ | _ <;> decide

theorem bigdec_pickCond_iff (used : List Bool) (useAll : Bool) (ilLen parentHost ro childHost : Nat) (ns : Bool) :
    Gen.C12Big.pickCond used useAll ilLen parentHost ro childHost ns = some true ↔
      ((ns && childHost == parentHost && decide (ilLen > 1)) || (useAll && used.getD ro false)) = true := by
  have hd : decide ((ilLen : Int) > 1) = decide (ilLen > 1) := by
    rw [Bool.eq_iff_iff, decide_eq_true_iff, decide_eq_true_iff]; exact Int.ofNat_lt (n := 1)
  rw [Bool.or_eq_true, ← bigdec_pickUsed_iff, Gen.C12Big.pickCond, hd]
  generalize (ns && childHost == parentHost && decide (ilLen > 1)) = stay
  cases stay
  · exact ⟨Or.inr, fun h => h.resolve_left nofun⟩
  · exact ⟨fun _ => Or.inl rfl, fun _ => rfl⟩

/-- `roIndex = (roIndex + 1) % ilLen` -/
theorem bigdec_roIndexNext (ro ilLen : Nat) (h : 0 < ilLen) :
    Gen.C12Big.roIndexNext ro ilLen = some (((ro + 1) % ilLen : Nat) : Int) := by
  rw [Gen.C12Big.roIndexNext, Gen.Rt.imod, if_neg (Int.natCast_ne_zero.mpr (Nat.ne_of_gt h))]
  rfl

theorem bigdec_roIndexNext_nat (ro : Nat) {ilLen : Nat} (h : 0 < ilLen) :
    ((Gen.C12Big.roIndexNext ro ilLen).getD 0).toNat = (ro + 1) % ilLen := by
  rw [bigdec_roIndexNext ro ilLen h]; rfl

/-- `roIndex := 1 % ilLen` -/
theorem bigdec_roIndex0 (ilLen : Nat) (h : 0 < ilLen) : Gen.C12Big.roIndex0 ilLen = some ((1 % ilLen : Nat) : Int) :=
  bigdec_roIndexNext 0 ilLen h

/-- `if roIndex == roIndexFirst` (both occurrences) -/
theorem bigdec_pickRound (ro first : Nat) :
    Gen.C12Big.pickRound ro first = (ro == first) ∧ Gen.C12Big.pickRound2 ro first = (ro == first) := by
  simp only [Gen.C12Big.pickRound, Gen.C12Big.pickRound2, int_beq]
  cases (ro == first) <;> exact ⟨rfl, rfl⟩

/-- the host-avoidance / use-all loop written with the decisions lifted from the source only (same fuel convention as
`pickLoop`): this is what the Go text says, with `roIndex`, `childHost`, `notSameHost` as the loop state -/
def pickLoopSrc (c : BigCfg) (used : List Bool) (parentHost first : Nat) :
    (fuel : Nat) → (roIndex childHost : Nat) → (notSameHost : Bool) → Option Nat
  | 0, _, _, _ => none
  | fuel + 1, ro, ch, ns =>
    if Gen.C12Big.pickCond used (Gen.C12Big.useAll c.ilLen c.nodes) c.ilLen parentHost ro ch ns = some true then
      let ro' := ((Gen.C12Big.roIndexNext ro c.ilLen).getD 0).toNat
      if Gen.C12Big.pickUsed used (Gen.C12Big.useAll c.ilLen c.nodes) ro' = some true then
        pickLoopSrc c used parentHost first fuel ro' ch (if Gen.C12Big.pickRound ro' first then false else ns)
      else if Gen.C12Big.pickRound2 ro' first then some ro'
      else pickLoopSrc c used parentHost first fuel ro' (c.hosts.getD ro' 0) ns
    else some ro

/-- the one hypothesis is about the roster, not the state: `%` by `ilLen` must not panic -/
theorem bigdec_pickLoop_eq (c : BigCfg) (used : List Bool) (parentHost first : Nat) (hpos : 0 < c.ilLen) :
    ∀ (fuel ro ch : Nat) (ns : Bool),
      pickLoop c used parentHost first fuel ro ch ns = pickLoopSrc c used parentHost first fuel ro ch ns := by
  intro fuel
  induction fuel with
  | zero => intro ro ch ns; rfl
  | succ fuel ih =>
    intro ro ch ns
    rw [pickLoop, pickLoopSrc]
    simp only [bigdec_pickCond_iff, bigdec_pickUsed_iff, bigdec_roIndexNext_nat ro hpos, bigdec_useAll,
      (bigdec_pickRound _ _).1, (bigdec_pickRound _ _).2, ih]

/-- hence `pick` (the server of the next child) is the source's loop started as the source starts it: at `roIndex`, with
`childHost` the host of that server, `notSameHost = true`, `roIndexFirst = roIndex` -/
theorem bigdec_pick_eq (c : BigCfg) (st : BigSt) (parentHost : Nat) (hpos : 0 < c.ilLen) :
    pick c st parentHost =
      pickLoopSrc c st.used parentHost st.roIndex (2 * c.ilLen + 3) st.roIndex (c.hosts.getD st.roIndex 0) true :=
  bigdec_pickLoop_eq c st.used parentHost st.roIndex hpos _ _ _ _

end C12

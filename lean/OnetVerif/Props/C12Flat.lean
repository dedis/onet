import OnetVerif.Model.C12
/-! Property C12 — helper file (no obligations here): a tree in creation order (`Nodes`: roster index and position of
the parent) read as a *rooted tree* — the children of a position, the recursion `Tree.IsNary` performs over them —
and the proof that on a well-formed list (every parent precedes its child) that recursion from the root decides the
flat predicate `isNary` of `Model/C12.lean` (every position has `M` children or none).  `Props/C12Gen.lean` uses it to
equate the translated `Tree.IsNary` on the pointer tree built from the list with the model's `isNary`. -/
namespace C12

/-- the parent position of node `j + 1`, for every `j` (the root has no entry) -/
def parentsOf (t : Nodes) : List Nat := (t.drop 1).map (·.2)

theorem arity_eq_count (t : Nodes) (p : Nat) : arity t p = (parentsOf t).count p := rfl

/-- the children of position `p`, in creation order (`Children` of the Go node: `AddChild` appends) -/
def kidsP (par : List Nat) (p : Nat) : List Nat :=
  ((List.range par.length).filter fun j => par.getD j 0 == p).map (· + 1)

/-- every parent precedes its child -/
def WFP (par : List Nat) : Prop := ∀ j, j < par.length → par.getD j 0 ≤ j

def okP (par : List Nat) (M p : Nat) : Bool := par.count p == M || par.count p == 0

/-- the recursion of `Tree.IsNary(root, M)` over positions, `f` levels deep -/
def naryAtP (par : List Nat) (M : Nat) : Nat → Nat → Bool
  | 0, _ => true
  | f + 1, p => okP par M p && (kidsP par p).all (naryAtP par M f)

/-- the flat predicate: every position has `M` children or none -/
def allOkP (par : List Nat) (M : Nat) : Bool := (List.range (par.length + 1)).all (okP par M)

theorem kidsP_length (par : List Nat) (p : Nat) : (kidsP par p).length = par.count p := by
  have hl : par = (List.range par.length).map (fun j => par.getD j 0) := by
    apply List.ext_getElem
    · simp
    · intro i h1 h2
      simp [List.getD_eq_getElem?_getD, List.getElem?_eq_getElem h1]
  simp only [kidsP, List.length_map]
  conv => rhs; rw [hl]
  rw [List.count_eq_countP, List.countP_map, List.countP_eq_length_filter]
  rfl

theorem mem_kidsP {par : List Nat} {p q : Nat} :
    q ∈ kidsP par p ↔ ∃ j, j < par.length ∧ par.getD j 0 = p ∧ q = j + 1 := by
  simp only [kidsP, List.mem_map, List.mem_filter, List.mem_range, beq_iff_eq]
  constructor
  · rintro ⟨j, ⟨h1, h2⟩, rfl⟩; exact ⟨j, h1, h2, rfl⟩
  · rintro ⟨j, h1, h2, rfl⟩; exact ⟨j, ⟨h1, h2⟩, rfl⟩

/-- flat ⇒ recursive, from every position, with any fuel -/
theorem naryAtP_of_allOk (par : List Nat) (M : Nat) (h : allOkP par M = true) :
    ∀ (f p : Nat), p ≤ par.length → naryAtP par M f p = true := by
  intro f
  induction f with
  | zero => intro p _; rfl
  | succ f ih =>
    intro p hp
    simp only [naryAtP, Bool.and_eq_true, List.all_eq_true]
    refine ⟨?_, ?_⟩
    · simp only [allOkP, List.all_eq_true, List.mem_range] at h
      exact h p (Nat.lt_succ_of_le hp)
    · intro q hq
      obtain ⟨j, hj, _, rfl⟩ := mem_kidsP.mp hq
      exact ih (j + 1) hj

/-- recursive from the root with enough fuel ⇒ every position is visited: position `p` at some depth `d ≤ p` -/
theorem naryAtP_reaches (par : List Nat) (M F : Nat) (wf : WFP par) (hF : par.length + 1 ≤ F)
    (h : naryAtP par M F 0 = true) :
    ∀ p, p ≤ par.length → ∃ d, d ≤ p ∧ naryAtP par M (F - d) p = true := by
  intro p
  induction p using Nat.strongRecOn with
  | _ p ih =>
    intro hp
    cases p with
    | zero => exact ⟨0, Nat.le_refl _, h⟩
    | succ j =>
      -- node `j + 1` is a child of its parent, which comes earlier and is reached at some depth `d`
      have hr := wf j hp
      obtain ⟨d, hd, hn⟩ := ih (par.getD j 0) (Nat.lt_succ_of_le hr) (Nat.le_trans hr (Nat.le_of_lt hp))
      have hdF : d < F := Nat.lt_of_le_of_lt (Nat.le_trans hd hr) (Nat.lt_of_lt_of_le hp (Nat.le_of_succ_le hF))
      rw [← Nat.succ_pred_eq_of_pos (Nat.sub_pos_of_lt hdF), naryAtP, Bool.and_eq_true, List.all_eq_true] at hn
      exact ⟨d + 1, Nat.succ_le_succ (Nat.le_trans hd hr), hn.2 (j + 1) (mem_kidsP.mpr ⟨j, hp, rfl, rfl⟩)⟩

/-- **on a well-formed list the recursion from the root decides the flat predicate** (fuel: one more than the
number of nodes is always enough) -/
theorem naryAtP_root_eq (par : List Nat) (M F : Nat) (wf : WFP par) (hF : par.length + 1 ≤ F) :
    naryAtP par M F 0 = allOkP par M := by
  rw [Bool.eq_iff_iff]
  constructor
  · intro h
    rw [allOkP, List.all_eq_true]
    intro p hp
    have hp' : p ≤ par.length := Nat.le_of_lt_succ (List.mem_range.mp hp)
    obtain ⟨d, hd, hn⟩ := naryAtP_reaches par M F wf hF h p hp'
    have hdF : d < F := Nat.lt_of_le_of_lt (Nat.le_trans hd hp') (Nat.lt_of_succ_le hF)
    rw [← Nat.succ_pred_eq_of_pos (Nat.sub_pos_of_lt hdF), naryAtP, Bool.and_eq_true] at hn
    exact hn.1
  · intro h
    exact naryAtP_of_allOk par M h F 0 (Nat.zero_le _)

theorem length_parentsOf {t : Nodes} (hne : t ≠ []) : t.length = (parentsOf t).length + 1 := by
  cases t with
  | nil => exact absurd rfl hne
  | cons a r => rw [parentsOf, List.drop_succ_cons, List.drop_zero, List.length_map, List.length_cons]

/-- the model's `isNary` is the flat predicate over the parent list -/
theorem isNary_eq_allOkP (t : Nodes) (hne : t ≠ []) (M : Nat) : isNary t M = allOkP (parentsOf t) M := by
  unfold isNary allOkP
  rw [length_parentsOf hne]
  rfl

/-- well-formedness of the parent list from the statement about the node list (`c12_nary_shape`, fourth clause) -/
theorem wfp_of_nodes (t : Nodes) (h : ∀ i m p, 1 ≤ i → t[i]? = some (m, p) → p < i) : WFP (parentsOf t) := by
  intro j hj
  rw [parentsOf, List.length_map, List.length_drop] at hj
  have hlt : j + 1 < t.length := Nat.add_lt_of_lt_sub hj
  rw [parentsOf, List.getD_eq_getElem?_getD, List.getElem?_map, List.getElem?_drop, Nat.add_comm 1 j,
    List.getElem?_eq_getElem hlt, Option.map_some, Option.getD_some]
  exact Nat.le_of_lt_succ (h (j + 1) _ _ (Nat.succ_pos j) (List.getElem?_eq_getElem hlt))

end C12

import OnetVerif.Model.C01
import OnetVerif.Gen.C01
import OnetVerif.Gen.C01Send
/-! Property C01 — the guards of `TreeNodeInstance.SendTo` regenerated from the Go source (`Gen/C01.lean`, written by
`harness/cmd/go2lean` on every check run from `treenode.go`, `"extract"`): `if to == nil` and `if n.closing` (read
under the queue mutex).  The model of the failing calls (`Model/C01Send.lean`, `Fault.fails`) lets a call fail when
the instance is closing or when the position is a bad one (a nil node, a send the overlay cannot make); this file
proves that for the faults the harness drives (op `sendx`) a call fails exactly when one of the two translated guards
fires.  The four send operations translated whole (`Gen/C01Send.lean`) are tied to `Send.outcome` and `Send.dests`.
Nothing imports this file. -/
namespace C01
namespace Send

/-- the two guards as read from the source -/
theorem c01_gen_sendto_guards_read (to : Option Nat) (closing : Bool) :
    Gen.C01.SendTo_nilNode to = to.isNone ∧ Gen.C01.SendTo_closing closing = closing := by
  constructor
  · cases to <;> simp [Gen.C01.SendTo_nilNode]
  · simp [Gen.C01.SendTo_closing]

/-- **a call of the model fails iff a translated guard of `SendTo` fires**: the call at position `k` of an operation,
handed the node `to` (nil or not) by an instance that is closing or not -/
theorem c01_gen_sendto_guards (closing : Bool) (to : Option Nat) (k : Nat) :
    (Gen.C01.SendTo_nilNode to || Gen.C01.SendTo_closing closing) =
      Fault.fails ⟨closing, if to.isNone then [k] else []⟩ k := by
  cases closing <;> cases to <;> simp [Gen.C01.SendTo_nilNode, Gen.C01.SendTo_closing, Fault.fails]

/-- … and then nothing is sent by that call: the outcome of a one-destination operation (`SendTo`) -/
theorem c01_gen_sendto_outcome (closing : Bool) (to : Option Nat) (j : Nat) :
    outcome .seq ⟨closing, if to.isNone then [0] else []⟩ [j] =
      if (Gen.C01.SendTo_nilNode to || Gen.C01.SendTo_closing closing) then ([], 1) else ([j], 0) := by
  cases closing <;> cases to <;>
    simp [Gen.C01.SendTo_nilNode, Gen.C01.SendTo_closing, outcome, Fault.fails, List.zipIdx_cons]

/-! `Multicast`, `SendToChildren`, `SendToParent`, `Broadcast` of `treenode.go` are translated (`Gen/C01Send.lean`) with
`SendTo` as a callee that appends its destination to a trace (`sent`, every call whether it fails or not) and answers
`fails node`; errors are `true` values. -/

theorem collect_fold (keep fails : Nat → Bool) (l : List Nat) (errs : List Bool) (sent : List Nat) :
    l.foldl (fun (st : List Bool × List Nat) node =>
        if keep node then ((if fails node then st.1 ++ [true] else st.1), st.2 ++ [node]) else st) (errs, sent) =
      (errs ++ ((l.filter keep).filter fails).map (fun _ => true), sent ++ l.filter keep) := by
  induction l generalizing errs sent with
  | nil => simp
  | cons a l ih =>
    rw [List.foldl_cons, ih]
    cases hk : keep a <;> cases hf : fails a <;> simp [hk, hf]

/-- **`Multicast` calls `SendTo` once for every node handed in, in order, and nothing else; it returns one error per
failing call** — the translated function, for every list of nodes and every failure pattern -/
theorem c01_gen_multicast (nodes : List Nat) (fails : Nat → Bool) (sent : List Nat) :
    Gen.C01Send.Multicast () () nodes fails sent = ((nodes.filter fails).map (fun _ => true), sent ++ nodes) := by
  unfold Gen.C01Send.Multicast
  dsimp only
  -- written with the test `(fun _ => true) node` the loop body is `collect_fold`'s, with that function as `keep`
  rw [Gen.Rt.loop_next (fun (st : List Bool × List Nat) node =>
      if (fun _ => true) node then ((if fails node then st.1 ++ [true] else st.1), st.2 ++ [node]) else st) _ nodes _
      (fun _ _ _ => by rfl), collect_fold]
  simp

/-- … which is the model's outcome for the collecting operations when the failing positions are the positions of
the failing nodes: the nodes that get the message are the non-failing ones of the trace, the errors are counted -/
theorem c01_gen_multicast_outcome (nodes : List Nat) (fails : Nat → Bool) (f : Fault)
    (hf : ∀ k j, nodes[k]? = some j → f.fails k = fails j) :
    (outcome .all f nodes).1 = (Gen.C01Send.Multicast () () nodes fails []).2.filter (fun j => !fails j) ∧
    (outcome .all f nodes).2 = (Gen.C01Send.Multicast () () nodes fails []).1.length := by
  -- a call fails by its position iff it fails by its node: filter the calls by node, then forget the positions
  have hfx : ∀ x ∈ nodes.zipIdx, f.fails x.2 = fails x.1 := fun x hx => hf _ _ (List.mem_zipIdx_iff_getElem?.mp hx)
  rw [c01_gen_multicast]
  simp only [outcome, okCalls, badCalls, List.nil_append, List.length_map]
  constructor
  · rw [List.filter_congr (q := (fun j => !fails j) ∘ Prod.fst) fun x hx => congrArg (!·) (hfx x hx),
      ← List.filter_map, List.zipIdx_map_fst]
  · rw [List.filter_congr (q := fails ∘ Prod.fst) hfx, ← List.length_map (f := Prod.fst), ← List.filter_map,
      List.zipIdx_map_fst]

/-- **`SendToChildren` stops at the first failing child**: a leaf calls nothing; otherwise the calls are the children
up to and including the first failing one, and the error is reported iff there is one -/
theorem c01_gen_send_to_children (isLeaf : Bool) (children : List Nat) (fails : Nat → Bool) (sent : List Nat) :
    Gen.C01Send.SendToChildren () () isLeaf children fails sent =
      if isLeaf then (false, sent)
      else (children.any fails,
            sent ++ children.takeWhile (fun j => !fails j) ++ ((children.dropWhile (fun j => !fails j)).take 1)) := by
  unfold Gen.C01Send.SendToChildren
  cases isLeaf
  · simp only [Bool.false_eq_true, if_false]
    induction children generalizing sent with
    | nil => simp [Gen.Rt.loop]
    | cons a l ih =>
      cases h : fails a
      · simp only [Gen.Rt.loop, h, Bool.false_eq_true, if_false]
        rw [ih (sent ++ [a])]
        simp [List.any_cons, h]
      · simp [Gen.Rt.loop, h, List.any_cons]
  · simp

/-- `SendToParent`: the root calls nothing; every other node calls `SendTo(parent)` once -/
theorem c01_gen_send_to_parent (isRoot : Bool) (parent : Nat) (fails : Nat → Bool) (sent : List Nat) :
    Gen.C01Send.SendToParent () () isRoot parent fails sent =
      if isRoot then (false, sent) else (fails parent, sent ++ [parent]) := by
  unfold Gen.C01Send.SendToParent
  cases isRoot <;> cases fails parent <;> simp

/-- **`Broadcast` calls `SendTo` once for every node of the tree but the sender's own, in the order of `List()`, and
returns one error per failing call** (translated function; `nodes` is `n.List()`, `self` is `n.TreeNode()`) -/
theorem c01_gen_broadcast (nodes : List Nat) (self : Nat) (fails : Nat → Bool) (sent : List Nat) :
    Gen.C01Send.Broadcast () () nodes self fails sent =
      (((nodes.filter (fun j => j != self)).filter fails).map (fun _ => true),
       sent ++ nodes.filter (fun j => j != self)) := by
  unfold Gen.C01Send.Broadcast
  dsimp only
  -- with its test written as an applied function the loop body is `collect_fold`'s, with that function as `keep`
  rw [Gen.Rt.loop_next (fun (st : List Bool × List Nat) node =>
      if (fun j => j != self) node then ((if fails node then st.1 ++ [true] else st.1), st.2 ++ [node]) else st) _ nodes _
      (fun s x _ => by cases h : x == self <;> simp [bne, h]), collect_fold]
  simp

/-- … on a tree of the model: the calls of a broadcast of node `me` are exactly `dests t me .bcast` -/
theorem c01_gen_broadcast_dests (t : Tree) (me : Nat) (fails : Nat → Bool) :
    (Gen.C01Send.Broadcast () () (List.range t.n) me fails []).2 = dests t me .bcast := by
  rw [c01_gen_broadcast]; simp [dests]

end Send
end C01

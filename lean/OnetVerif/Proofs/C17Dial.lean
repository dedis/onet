import OnetVerif.Model.C17Dial
import OnetVerif.Proofs.Sched
/-! The concurrent dial/accept system of C17 (`Model/C17Dial.lean`): the invariant `Inv` (every thread `Good`, every entry of the
log `EGood`) along any schedule.  Core only. -/
namespace C17

namespace Dial

/-- what the phase of a goroutine says about its connection -/
def Good (t : Thr) : Prop :=
  (t.side = .accepted → (t.ph = .checked ∨ t.ph = .registered ∨ t.ph = .running) →
      ∃ v, t.vpThen = some v ∧ v.isValid t.peer = true) ∧
  (t.side = .dialled → t.ph ≠ .checked ∧ t.vpThen = none)

def EGood (e : Entry) : Prop :=
  (e.side = .accepted → ∃ v, e.vpThen = some v ∧ v.isValid e.peer = true) ∧ (e.side = .dialled → e.vpThen = none)

def Inv (s : State) : Prop := (∀ t ∈ s.thrs, Good t) ∧ (∀ e ∈ s.log, EGood e)

theorem Good.untested {t : Thr} (hph : t.ph = .fresh ∨ t.ph = .ended) (hv : t.side = .dialled → t.vpThen = none) :
    Good t := by
  -- neither phase is beyond the test
  refine ⟨fun _ hp => ?_, fun hd => ⟨fun e => ?_, hv hd⟩⟩
  · rcases hph with h | h <;> rw [h] at hp <;> rcases hp with hp | hp | hp <;> cases hp
  · rcases hph with h | h <;> rw [h] at e <;> cases e

theorem Good.ended {t : Thr} (h : Good t) : Good { t with ph := .ended } :=
  .untested (.inr rfl) fun hd => (h.2 hd).2

theorem Good.listed {t : Thr} (h : Good t) {ph : Ph} (hne : ph ≠ .checked)
    (hph : t.side = .accepted → t.ph = .checked ∨ t.ph = .registered ∨ t.ph = .running) :
    Good { t with ph := ph } :=
  ⟨fun ha _ => h.1 ha (hph ha), fun hd => ⟨hne, (h.2 hd).2⟩⟩

theorem upd_log (s : State) (k : Nat) (f : Thr → Thr) : (upd s k f).log = s.log := by
  unfold upd; split <;> rfl

theorem upd_inv {s : State} (h : Inv s) (k : Nat) {f : Thr → Thr} (hf : ∀ t, Good t → Good (f t)) :
    Inv (upd s k f) := by
  refine ⟨?_, (upd_log ..).symm ▸ h.2⟩
  unfold upd
  split
  · exact h.1
  · rename_i t0 hk
    exact List.forall_mem_set h.1 (hf t0 (h.1 t0 (List.mem_of_getElem? hk)))

theorem checkThr_good (vp : VP) (t : Thr) (h : Good t) : Good (checkThr vp t) := by
  unfold checkThr
  split
  · rename_i hc
    split
    · rename_i hv
      exact ⟨fun _ _ => ⟨vp, rfl, hv⟩, fun hd => nomatch hc.1.symm.trans hd⟩
    · exact h.ended
  · exact h

theorem registerThr_good (c : Bool) (t : Thr) (h : Good t) : Good (registerThr c t) := by
  unfold registerThr
  split
  · rename_i hc
    split
    · exact h.ended
    · exact h.listed (fun e => nomatch e) fun ha => hc.elim (fun hc => .inl hc.2) fun hc => nomatch hc.1.symm.trans ha
  · exact h

theorem launchThr_good (c : Bool) (t : Thr) (h : Good t) : Good (launchThr c t) := by
  unfold launchThr
  split
  · rename_i hr
    split
    · exact h.ended
    · exact h.listed (fun e => nomatch e) fun _ => .inr (.inl hr)
  · exact h

theorem inv_step (s : State) (a : Act) (h : Inv s) : Inv (step s a) := by
  have fresh (sd : Side) (p : Ident) : ∀ t ∈ s.thrs ++ [{ side := sd, peer := p }], Good t :=
    List.forall_mem_concat h.1 (.untested (.inl rfl) fun _ => rfl)
  cases a with
  | setPeers id ps => exact h
  | stop => exact h
  | arrive p => exact ⟨fresh .accepted p, h.2⟩
  | dial p => exact ⟨fresh .dialled p, h.2⟩
  | check k => exact upd_inv h k (checkThr_good s.vp)
  | register k => exact upd_inv h k (registerThr_good s.closed)
  | launch k => exact upd_inv h k (launchThr_good s.closed)
  | drop k =>
    refine upd_inv h k fun t ht => ?_
    split
    · exact ht.ended
    · exact ht
  | recv k m =>
    simp only [step]
    split
    · rename_i t hk
      have hg := h.1 t (List.mem_of_getElem? hk)
      split
      · rename_i hr
        split
        · exact ⟨List.forall_mem_set h.1 hg.ended, h.2⟩
        · refine ⟨h.1, fun e he => ?_⟩
          rcases List.mem_append.mp he with he | he
          · exact h.2 e he
          · cases List.mem_singleton.mp he
            exact ⟨fun ha => hg.1 ha (.inr (.inr hr)), fun hd => (hg.2 hd).2⟩
      · exact h
    · exact h

theorem inv_run (acts : List Act) : Inv (run {} acts) :=
  List.foldlRecOn (motive := Inv) acts step ⟨(fun _ h => nomatch h), fun _ h => nomatch h⟩ fun s h a _ => inv_step s a h

end Dial

end C17

import OnetVerif.Proofs.C03Bytes
import OnetVerif.Proofs.Lists
/-! Property C03, layer 2: what `protobuf.Encode` writes for a value of the schema language of `Model/C03Wire.lean`,
`protobuf.Decode` reads back.  `wf` is the lossless range; `EntryRT` / `FieldRT` say the round trip of one wire entry / of
one field inside the decoder's loop; `wf_rt` proves them along the recursion of `wf`. -/
namespace C03.Wire

/-- a type whose values are exactly one wire entry: what a pointer may point to and a slice may hold -/
def Ty.single : Ty → Bool
  | .rep _ | .opt _ => false
  /- a byte array is a direct field of a struct: the library has no slices of arrays (the encoder
  panics on two-dimensional arrays other than `[][]byte`), pointers to arrays are not generated -/
  | .arr _ => false
  | _ => true

mutual
/-- the values of the schema language that the library encodes and decodes without loss: integers
inside their width (and inside the zig-zag decoder's range), lengths that fit a `uint64`, pointers
and slices of single-entry types -/
def wf : Ty → Val → Bool
  | .i32, .int i => decide (-2 ^ 31 ≤ i ∧ i < 2 ^ 31)
  | .i64, .int i => decide (-2 ^ 62 ≤ i ∧ i < 2 ^ 62)
  | .u32, .nat n => decide (n < 2 ^ 32)
  | .u64, .nat n => decide (n < 2 ^ 64)
  | .bool, .bool _ => true
  | .f64, .f64 x => decide (x < 2 ^ 64)
  | .bytes, .bytes b => decide (b.length < 2 ^ 64)
  | .arr n, .bytes b => decide (b.length = n ∧ n < 2 ^ 64)
  | .msg ts, .msg vs => wfs ts vs && decide ((encMsg 1 ts vs).length < 2 ^ 64) && decide (ts.length < 2 ^ 60)
  | .rep t, .rep l => t.single && wfAll t l && (!t.packed || decide ((encPackedAll t l).length < 2 ^ 64))
  | .opt t, .opt none => t.single
  | .opt t, .opt (some v) => t.single && wf t v
  | _, _ => false
termination_by structural _ v => v
def wfs : List Ty → List Val → Bool
  | [], [] => true
  | t :: ts, v :: vs => wf t v && wfs ts vs
  | _, _ => false
termination_by structural _ vs => vs
def wfAll (t : Ty) : List Val → Bool
  | [] => true
  | v :: l => wf t v && wfAll t l
termination_by structural l => l
end

theorem wf_shape (t : Ty) (v : Val) (hw : wf t v = true) :
    match v with
    | .bytes _ => t = .bytes ∨ ∃ n, t = .arr n
    | .msg _ => ∃ ts, t = .msg ts
    | .rep _ => ∃ t', t = .rep t'
    | .opt _ => ∃ t', t = .opt t'
    | _ => t.packed = true := by
  -- the cases are the equations of `wf`, in its order
  fun_cases wf t v
  case case1 | case2 | case3 | case4 | case5 | case6 => rfl  -- the six number types
  case case7 => exact .inl rfl  -- a byte string
  case case8 => exact .inr ⟨_, rfl⟩  -- a byte array
  case case9 | case10 | case11 | case12 => exact ⟨_, rfl⟩  -- message, slice, nil pointer, pointer
  -- the catch-all: `wf.eq_13` makes `hw` `false = true`; its side conditions are the hypotheses `fun_cases` left
  case case13 =>
    rw [wf.eq_13] at hw
    · cases hw
    all_goals assumption

theorem uvarintF_ne_nil (f n : Nat) : uvarintF f n ≠ [] := by
  cases f with
  | zero => simp [uvarintF]
  | succ f => simp only [uvarintF]; split <;> simp

theorem uvarint_ne_nil (n : Nat) : uvarint n ≠ [] := uvarintF_ne_nil 9 n

theorem low7_add (n p : Nat) : n % 128 * 2 ^ p + n / 128 * 2 ^ (p + 7) = n * 2 ^ p := by
  rw [Nat.pow_add, Nat.mul_comm (2 ^ p), ← Nat.mul_assoc, ← Nat.add_mul, Nat.mul_comm (n / 128)]
  exact congrArg (· * 2 ^ p) (Nat.mod_add_div n 128)

/-- `n` fits the `7 * f + 1` bits that `f` more continuation bytes leave room for: the tenth byte of a `uint64` carries one -/
theorem getUvarintAux_uvarintF (f : Nat) : ∀ (n i acc : Nat) (rest : List Nat), i + f = 9 → n < 2 ^ (7 * f + 1) →
    getUvarintAux i acc (uvarintF f n ++ rest) = some (acc + n * 2 ^ (7 * i), rest) := by
  induction f with
  | zero =>
    intro n i acc rest hi hn
    obtain rfl : i = 9 := hi
    have h2 : n < 2 := hn
    simp only [uvarintF, List.cons_append, List.nil_append, getUvarintAux, if_neg (by decide : ¬ 9 = 10),
      if_pos (Nat.lt_trans h2 (by decide) : n < 128)]
    exact if_neg fun h => Nat.lt_irrefl _ (Nat.lt_of_lt_of_le h.2 (Nat.le_of_lt_succ h2))
  | succ f ih =>
    intro n i acc rest hi hn
    have hi9 : i < 9 := by omega
    have hi10 : ¬ i = 10 := Nat.ne_of_lt (Nat.lt_trans hi9 (by decide))
    by_cases h : n < 128
    · simp only [uvarintF, if_pos h, List.cons_append, List.nil_append, getUvarintAux, if_neg hi10,
        if_neg (fun h => Nat.ne_of_lt hi9 h.1 : ¬ (i = 9 ∧ n > 1))]
    · have hdiv : n / 128 < 2 ^ (7 * f + 1) := by
        apply Nat.div_lt_of_lt_mul
        rwa [show 7 * (f + 1) + 1 = 7 + (7 * f + 1) by omega, Nat.pow_add] at hn
      simp only [uvarintF, if_neg h, List.cons_append, getUvarintAux, if_neg hi10,
        if_neg (Nat.not_lt.mpr (Nat.le_add_left _ _) : ¬ n % 128 + 128 < 128)]
      rw [ih (n / 128) (i + 1) _ rest ((Nat.add_right_comm i 1 f).trans hi) hdiv, Nat.add_sub_cancel, Nat.add_assoc,
        Nat.mul_add 7 i 1, low7_add]

theorem uvarint_rt (n : Nat) (rest : List Nat) (h : n < 2 ^ 64) :
    getUvarint (uvarint n ++ rest) = some (n, rest) := by
  have := getUvarintAux_uvarintF 9 n 0 0 rest rfl h
  rwa [Nat.mul_zero, Nat.pow_zero, Nat.mul_one, Nat.zero_add] at this

theorem zigzag_natCast (n : Nat) : zigzag n = 2 * n := by
  rw [zigzag, if_pos (Int.natCast_nonneg n)]; exact Int.toNat_natCast (2 * n)

theorem zigzag_negSucc (n : Nat) : zigzag (Int.negSucc n) = 2 * n + 1 := by
  have : -2 * Int.negSucc n - 1 = ((2 * n + 1 : Nat) : Int) := by grind
  rw [zigzag, if_neg (Int.negSucc_not_nonneg n).mp, this]; exact Int.toNat_natCast _

theorem unzigzag_small (u : Nat) (h : u < 2 ^ 63) :
    unzigzag u = if u % 2 = 1 then -((u : Int) / 2) - 1 else (u : Int) / 2 := by
  show (if u % 2 = 1 then -(toI64 u / 2) - 1 else toI64 u / 2) = _
  rw [toI64, if_pos h]

/-- the library's zig-zag decoder inverts its encoder on `-2^62 ≤ v < 2^62` -/
theorem zigzag_rt (v : Int) (h1 : -2 ^ 62 ≤ v) (h2 : v < 2 ^ 62) : unzigzag (zigzag v) = v := by
  cases v with
  | ofNat n =>
    rw [Int.ofNat_eq_natCast] at h2 ⊢
    rw [zigzag_natCast, unzigzag_small _ (by omega), if_neg (by rw [Nat.mul_mod_right]; decide), Int.natCast_mul]
    exact Int.mul_ediv_cancel_left _ (by decide)
  | negSucc n => rw [zigzag_negSucc, unzigzag_small _ (by omega), if_pos (by rw [Nat.mul_add_mod])]; omega

theorem zigzag_lt (v : Int) (h1 : -2 ^ 62 ≤ v) (h2 : v < 2 ^ 62) : zigzag v < 2 ^ 64 := by
  cases v with
  | ofNat n =>
    rw [Int.ofNat_eq_natCast] at h2 ⊢
    rw [zigzag_natCast]; omega
  | negSucc n => rw [zigzag_negSucc]; omega

theorem wrapI32_id (v : Int) (h1 : -2 ^ 31 ≤ v) (h2 : v < 2 ^ 31) : wrapI32 v = v := by
  unfold wrapI32; omega

theorem le64_eq (x : Nat) : le64 x = leBytes 8 x := by
  simp only [le64, leBytes, Nat.div_div_eq_div_mul]

theorem le64_length (x : Nat) : (le64 x).length = 8 := rfl

theorem unle_le64 (x : Nat) (h : x < 2 ^ 64) : unle (le64 x) = x := by
  rw [le64_eq, unle_leBytes]; exact Nat.mod_eq_of_lt h

theorem parseRaw_varint (n : Nat) (rest : List Nat) (h : n < 2 ^ 64) :
    parseRaw 0 (uvarint n ++ rest) = some (n, [], rest) := by
  simp only [parseRaw, if_true, uvarint_rt n rest h, Option.map_some]

theorem parseRaw_fixed64 (x : Nat) (rest : List Nat) (h : x < 2 ^ 64) :
    parseRaw 1 (le64 x ++ rest) = some (x, [], rest) := by
  have hl : ¬ (le64 x ++ rest).length < 8 := by
    rw [List.length_append, le64_length]; exact Nat.not_lt.mpr (Nat.le_add_right 8 _)
  rw [parseRaw, if_neg (by decide), if_neg (by decide), if_pos rfl, if_neg hl]
  show some (unle (le64 x), [], rest) = _
  rw [unle_le64 x h]

theorem parseRaw_delim (body rest : List Nat) (h : body.length < 2 ^ 64) :
    parseRaw 2 (uvarint body.length ++ body ++ rest) = some (body.length, body, rest) := by
  rw [parseRaw, if_neg (by decide), if_neg (by decide), if_neg (by decide), if_pos rfl, List.append_assoc,
    uvarint_rt _ _ h]
  show (if body.length > (body ++ rest).length then none
    else some (body.length, (body ++ rest).take _, (body ++ rest).drop _)) = _
  rw [if_neg (by rw [List.length_append]; exact Nat.not_lt.mpr (Nat.le_add_right _ _)), List.take_left, List.drop_left]

theorem zeros_eq_map (ts : List Ty) : zeros ts = ts.map zero := by
  induction ts with
  | nil => rfl
  | cons t ts ih => rw [zeros, ih, List.map_cons]

theorem zeros_length (ts : List Ty) : (zeros ts).length = ts.length := by
  rw [zeros_eq_map, List.length_map]

theorem key_le (k : Nat) (hk : k < 2 ^ 60) : (k + 1) * 8 + 8 ≤ 2 ^ 64 := by omega

theorem fuel_after_key (key : Nat) (rest : List Nat) (fuel : Nat) (h : (uvarint key ++ rest).length < fuel) :
    ∃ f, fuel = f + 1 ∧ rest.length < f := by
  rw [List.length_append] at h
  cases fuel with
  | zero => exact absurd h (Nat.not_lt_zero _)
  | succ f => exact ⟨f, rfl, Nat.lt_of_lt_of_le (Nat.lt_add_of_pos_left (List.length_pos_iff.mpr (uvarint_ne_nil key))) (Nat.le_of_lt_succ h)⟩

theorem key_split (f wt : Nat) (h : wt < 8) : (f * 8 + wt) % 8 = wt ∧ (f * 8 + wt) / 8 = f := by
  rw [Nat.add_comm, Nat.add_mul_mod_self_right, Nat.add_mul_div_right _ _ (by decide : 0 < 8),
    Nat.mod_eq_of_lt h, Nat.div_eq_of_lt h, Nat.zero_add]
  exact ⟨rfl, rfl⟩

theorem decMsg_entry (fuel : Nat) (ts : List Ty) (cur : List Val) (fi k wt x : Nat) (vb P R : List Nat)
    (nv : Val) (t : Ty) (old : Val) (hwt : wt < 8) (hk : k < 2 ^ 60)
    (hraw : parseRaw wt (P ++ R) = some (x, vb, R)) (hfi : fi ≤ k)
    (ht : ts[k]? = some t) (hold : cur[k]? = some old)
    (hput : putValue (fun ts' b => decMsg fuel ts' (zeros ts') 0 b) t old wt x vb = some nv) :
    decMsg (fuel + 1) ts cur fi (uvarint ((k + 1) * 8 + wt) ++ (P ++ R)) = decMsg fuel ts (cur.set k nv) k R := by
  have hkl : k < ts.length := (List.getElem?_eq_some_iff.mp ht).1
  have hemp : (uvarint ((k + 1) * 8 + wt) ++ (P ++ R)).isEmpty = false := by simp [uvarint_ne_nil]
  have hkey := uvarint_rt ((k + 1) * 8 + wt) (P ++ R)
    (Nat.lt_of_lt_of_le (Nat.add_lt_add_left hwt _) (key_le k hk))
  have hget : ts.getD k .bool = t := by rw [List.getD_eq_getElem?_getD, ht]; rfl
  have hgo : cur.getD k (.bool false) = old := by rw [List.getD_eq_getElem?_getD, hold]; rfl
  -- the key: field number `k + 1`, wire type `wt`
  simp only [decMsg, hemp, Bool.false_eq_true, if_false, hkey, key_split (k + 1) wt hwt]
  -- the cursor moves to `k`
  simp only [Nat.add_one_ne_zero, if_false, Nat.add_sub_cancel, Nat.min_eq_left (Nat.le_of_lt hkl), Nat.max_eq_right hfi]
  -- the entry is parsed and stored
  simp only [hraw, hkl, true_and, if_true, hget, hgo, hput]

theorem packed_elem (t : Ty) (v : Val) (hp : t.packed = true) (hw : wf t v = true) :
    encPacked t v ≠ [] ∧ (∀ key, encField key t v = uvarint (key + t.packedWt) ++ encPacked t v) ∧
    ∃ x, (∀ R, parseRaw t.packedWt (encPacked t v ++ R) = some (x, [], R)) ∧
      putScalar t t.packedWt x [] = some v := by
  -- cases 1–6 of `wf`: `i32`, `i64`, `u32`, `u64`, `bool`, `f64`
  fun_cases wf t v
  case case1 i =>
    have hw : -2 ^ 31 ≤ i ∧ i < 2 ^ 31 := of_decide_eq_true hw
    have h62 : -2 ^ 62 ≤ i ∧ i < 2 ^ 62 := ⟨Int.le_trans (by decide) hw.1, Int.lt_trans hw.2 (by decide)⟩
    refine ⟨uvarint_ne_nil _, fun _ => rfl, zigzag i, fun R => parseRaw_varint _ R
      (zigzag_lt i h62.1 h62.2), ?_⟩
    show some (Val.int (wrapI32 (unzigzag (zigzag i)))) = _
    rw [zigzag_rt i h62.1 h62.2, wrapI32_id i hw.1 hw.2]
  case case2 i =>
    have hw : -2 ^ 62 ≤ i ∧ i < 2 ^ 62 := of_decide_eq_true hw
    refine ⟨uvarint_ne_nil _, fun _ => rfl, zigzag i, fun R => parseRaw_varint _ R
      (zigzag_lt i hw.1 hw.2), ?_⟩
    show some (Val.int (unzigzag (zigzag i))) = _
    rw [zigzag_rt i hw.1 hw.2]
  case case3 n =>
    have hw : n < 2 ^ 32 := of_decide_eq_true hw
    refine ⟨uvarint_ne_nil _, fun _ => rfl, n, fun R => parseRaw_varint n R (Nat.lt_trans hw (by decide)), ?_⟩
    show some (Val.nat (n % 2 ^ 32)) = _
    rw [Nat.mod_eq_of_lt hw]
  case case4 n =>
    exact ⟨uvarint_ne_nil _, fun _ => rfl, n, fun R => parseRaw_varint n R (of_decide_eq_true hw), rfl⟩
  case case5 b =>
    refine ⟨uvarint_ne_nil _, fun _ => rfl, (if b then 1 else 0),
      fun R => parseRaw_varint _ R (by cases b <;> decide), ?_⟩
    cases b <;> rfl
  case case6 x =>
    exact ⟨List.cons_ne_nil _ _, fun _ => rfl, x, fun R => parseRaw_fixed64 x R (of_decide_eq_true hw), rfl⟩
  -- the catch-all
  case case13 =>
    rw [wf.eq_13] at hw
    · cases hw
    all_goals assumption
  all_goals cases hp  -- the types that are not numbers

theorem putValue_packed (sub : List Ty → List Nat → Option (List Val)) :
    ∀ t : Ty, t.packed = true → ∀ old wt x vb, putValue sub t old wt x vb = putScalar t wt x vb
  | .i32, _ | .i64, _ | .u32, _ | .u64, _ | .bool, _ | .f64, _ => fun _ _ _ _ => rfl

/-- a value of a single-entry type as one wire entry: key ‖ payload; the decoder's raw parse gives
back `(x, vb)`, from which `putvalue` rebuilds the value (for an embedded message, given enough
fuel for its body); a length-delimited entry ignores `x` -/
def EntryRT (t : Ty) (v : Val) : Prop :=
  ∀ key, key % 8 = 0 → key + 8 ≤ 2 ^ 64 →
    ∃ wt x vb P, wt < 8 ∧ encField key t v = uvarint (key + wt) ++ P ∧
      (∀ R, parseRaw wt (P ++ R) = some (x, vb, R)) ∧ vb.length ≤ P.length ∧
      (∀ fuel old, vb.length < fuel →
        putValue (fun ts' b => decMsg fuel ts' (zeros ts') 0 b) t old wt x vb = some v) ∧
      (t.packed = false → wt = 2 ∧ ∀ fuel old x', vb.length < fuel →
        putValue (fun ts' b => decMsg fuel ts' (zeros ts') 0 b) t old 2 x' vb = some v)

/-- a field of any type inside the decoder's loop: the entries the encoder wrote for field `k`
(none, one, or one per element) take the struct from "field `k` still zero" to "field `k` = v" -/
def FieldRT (t : Ty) (v : Val) : Prop :=
  ∀ (tsAll : List Ty) (cur : List Val) (k fi fuel : Nat) (R : List Nat),
    tsAll[k]? = some t → cur.length = tsAll.length → cur[k]? = some (zero t) → fi ≤ k → k < 2 ^ 60 →
    (encField ((k + 1) * 8) t v ++ R).length < fuel →
    ∃ fuel2 fi2, fi2 ≤ k ∧ fi ≤ fi2 ∧ R.length < fuel2 ∧
      decMsg fuel tsAll cur fi (encField ((k + 1) * 8) t v ++ R) = decMsg fuel2 tsAll (cur.set k v) fi2 R

theorem lenDelim_eq (key : Nat) (body : List Nat) :
    lenDelim key body = uvarint (key + 2) ++ (uvarint body.length ++ body) :=
  List.append_assoc _ _ _

theorem entry_packed (t : Ty) (v : Val) (hp : t.packed = true) (hw : wf t v = true) : EntryRT t v := by
  intro key _ _
  obtain ⟨_, henc, x, hraw, hput⟩ := packed_elem t v hp hw
  refine ⟨t.packedWt, x, [], encPacked t v, ?_, henc key, hraw, Nat.zero_le _, fun _ _ _ => ?_,
    fun hnp => absurd hp (by rw [hnp]; decide)⟩
  · unfold Ty.packedWt; split <;> decide
  · rw [putValue_packed _ t hp, hput]

theorem entry_delim (t : Ty) (v : Val) (body : List Nat) (hlen : body.length < 2 ^ 64)
    (henc : ∀ key, encField key t v = lenDelim key body)
    (hput : ∀ fuel old x, body.length < fuel →
      putValue (fun ts' b => decMsg fuel ts' (zeros ts') 0 b) t old 2 x body = some v) : EntryRT t v :=
  fun key _ _ => ⟨2, body.length, body, uvarint body.length ++ body, by decide, by rw [henc, lenDelim_eq],
    fun R => parseRaw_delim body R hlen, by simp, fun fuel old => hput fuel old _, fun _ => ⟨rfl, hput⟩⟩

theorem entry_bytes (b : List Nat) (h : b.length < 2 ^ 64) : EntryRT .bytes (.bytes b) :=
  entry_delim _ _ b h (fun _ => rfl) (fun _ _ _ _ => rfl)

/-- the loop on the one entry the encoder wrote for a value `v` of a single-entry type `t`, when
field `k` has type `T` and `putvalue` at `T` turns `t`'s result into `nv` -/
theorem entry_step (t : Ty) (v : Val) (he : EntryRT t v)
    (tsAll : List Ty) (cur : List Val) (k fi fuel : Nat) (R : List Nat) (T : Ty) (old nv : Val)
    (hT : tsAll[k]? = some T) (hold : cur[k]? = some old) (hfi : fi ≤ k) (hk : k < 2 ^ 60)
    (hf : (encField ((k + 1) * 8) t v ++ R).length < fuel)
    (hput : ∀ f wt x vb, vb.length < f →
      (∀ old', putValue (fun ts' b => decMsg f ts' (zeros ts') 0 b) t old' wt x vb = some v) →
      (t.packed = false → wt = 2 ∧ ∀ old' x', putValue (fun ts' b => decMsg f ts' (zeros ts') 0 b) t old' 2 x' vb = some v) →
      putValue (fun ts' b => decMsg f ts' (zeros ts') 0 b) T old wt x vb = some nv) :
    ∃ fuel2 fi2, fi2 ≤ k ∧ fi ≤ fi2 ∧ R.length < fuel2 ∧
      decMsg fuel tsAll cur fi (encField ((k + 1) * 8) t v ++ R) = decMsg fuel2 tsAll (cur.set k nv) fi2 R := by
  obtain ⟨wt, x, vb, P, hwt, henc, hraw, hvb, hp1, hp2⟩ := he ((k + 1) * 8) (Nat.mul_mod_left _ _) (key_le k hk)
  rw [henc, List.append_assoc] at hf ⊢
  obtain ⟨f, rfl, hPR⟩ := fuel_after_key _ _ _ hf
  rw [List.length_append] at hPR
  have hvbf : vb.length < f := Nat.lt_of_le_of_lt (Nat.le_trans hvb (Nat.le_add_right _ _)) hPR
  exact ⟨f, k, Nat.le_refl k, hfi, Nat.lt_of_le_of_lt (Nat.le_add_left _ _) hPR,
    decMsg_entry f tsAll cur fi k wt x vb P R nv T old hwt hk (hraw R) hfi hT hold
      (hput f wt x vb hvbf (fun old' => hp1 f old' hvbf)
        (fun hnp => ⟨(hp2 hnp).1, fun old' x' => (hp2 hnp).2 f old' x' hvbf⟩))⟩

theorem field_of_entry (t : Ty) (v : Val) (he : EntryRT t v) : FieldRT t v :=
  fun tsAll cur k fi fuel R ht _ hz hfi hk hf =>
    entry_step t v he tsAll cur k fi fuel R t (zero t) v ht hz hfi hk hf (fun _ _ _ _ _ h _ => h (zero t))

/-- a pointer field: nothing on the wire for nil, the pointee's entry otherwise -/
theorem field_opt_none (t : Ty) : FieldRT (.opt t) (.opt none) := by
  intro tsAll cur k fi fuel R _ _ hz hfi _ hf
  refine ⟨fuel, fi, hfi, Nat.le_refl fi, hf, ?_⟩
  rw [List.set_of_getElem? (l := cur) (i := k) (a := .opt none) hz]
  rfl

theorem field_opt_some (t : Ty) (v : Val) (he : EntryRT t v) : FieldRT (.opt t) (.opt (some v)) :=
  fun tsAll cur k fi fuel R ht _ hz hfi hk hf =>
    entry_step t v he tsAll cur k fi fuel R (.opt t) (.opt none) (.opt (some v)) ht hz hfi hk hf
      (fun f wt x vb _ h _ => by
        show (putValue _ t (pointee t (.opt none)) wt x vb).map _ = _
        rw [h]; rfl)

theorem decPacked_encPackedAll (t : Ty) (hp : t.packed = true) (l : List Val) (hw : wfAll t l = true)
    (fuel : Nat) (hf : (encPackedAll t l).length ≤ fuel) :
    decPacked t fuel (encPackedAll t l) = some l := by
  induction l generalizing fuel with
  | nil => cases fuel <;> rfl
  | cons v l ih =>
    have hw : wf t v = true ∧ wfAll t l = true := Bool.and_eq_true_iff.mp hw
    obtain ⟨hne, _, x, hraw, hput⟩ := packed_elem t v hp hw.1
    have hpos := List.length_pos_iff.mpr hne
    rw [encPackedAll, List.length_append] at hf
    cases fuel with
    | zero => exact absurd (Nat.le_trans (Nat.le_add_right _ _) hf) (Nat.not_le.mpr hpos)
    | succ fuel =>
      have hemp : (encPacked t v ++ encPackedAll t l).isEmpty = false := by simp [hne]
      have hl : (encPackedAll t l).length ≤ fuel :=
        Nat.le_of_succ_le_succ (Nat.le_trans (Nat.succ_le_of_lt (Nat.lt_add_of_pos_left hpos)) hf)
      simp only [encPackedAll, decPacked, hemp, Bool.false_eq_true, if_false, hraw, hput, ih hw.2 fuel hl]
      rfl

theorem field_rep_packed (t : Ty) (l : List Val) (hp : t.packed = true) (hw : wfAll t l = true)
    (hlen : (encPackedAll t l).length < 2 ^ 64) : FieldRT (.rep t) (.rep l) := by
  intro tsAll cur k fi fuel R ht _ hz hfi hk hf
  have henc : encField ((k + 1) * 8) (.rep t) (.rep l) = lenDelim ((k + 1) * 8) (encPackedAll t l) := by
    rw [encField, if_pos hp]
  rw [henc] at hf ⊢
  refine entry_step .bytes _ (entry_bytes _ hlen) tsAll cur k fi fuel R (.rep t) (.rep []) (.rep l) ht hz hfi hk hf
    fun f wt x vb _ _ h2 => ?_
  obtain ⟨rfl, h⟩ := h2 rfl
  -- `putvalue` at a byte string hands `vb` back as it is, so `vb` is the packed elements
  cases h (.bytes []) 0
  show (if 2 ≠ 2 then none else if t.packed then (decPacked t _ _).map _ else _) = _
  rw [if_neg (fun h => h rfl), if_pos hp, decPacked_encPackedAll t hp l hw _ (Nat.le_refl _)]
  rfl

/-- a slice of byte strings or messages: one entry per element, each appended to what is there -/
theorem rep_unpacked_loop (t : Ty) (hnp : t.packed = false) (l : List Val) (he : ∀ v ∈ l, EntryRT t v)
    (tsAll : List Ty) (k : Nat) (ht : tsAll[k]? = some (.rep t)) (hk : k < 2 ^ 60) :
    ∀ (acc : List Val) (cur : List Val) (fi fuel : Nat) (R : List Nat),
      cur[k]? = some (.rep acc) → fi ≤ k → (encRep ((k + 1) * 8) t l ++ R).length < fuel →
      ∃ fuel2 fi2, fi2 ≤ k ∧ fi ≤ fi2 ∧ R.length < fuel2 ∧
        decMsg fuel tsAll cur fi (encRep ((k + 1) * 8) t l ++ R) =
          decMsg fuel2 tsAll (cur.set k (.rep (acc ++ l))) fi2 R := by
  induction l with
  | nil =>
    intro acc cur fi fuel R hc hfi hf
    refine ⟨fuel, fi, hfi, Nat.le_refl fi, hf, ?_⟩
    rw [List.append_nil, List.set_of_getElem? hc]
    rfl
  | cons v l ih =>
    intro acc cur fi fuel R hc hfi hf
    rw [encRep, List.append_assoc] at hf ⊢
    obtain ⟨f, fi1, hfi1, hfi', hR, hstep⟩ := entry_step t v (he v List.mem_cons_self) tsAll cur k fi fuel
      (encRep ((k + 1) * 8) t l ++ R)
      (.rep t) (.rep acc) (.rep (acc ++ [v])) ht hc hfi hk hf
      (fun f wt x vb _ _ h2 => by
        obtain ⟨rfl, hp⟩ := h2 hnp
        show (if 2 ≠ 2 then none else if t.packed then _ else (putValue _ t (zero t) 2 0 vb).map _) = _
        rw [if_neg (fun h => h rfl), hnp, hp (zero t) 0]
        rfl)
    have hc' : (cur.set k (.rep (acc ++ [v])))[k]? = some (.rep (acc ++ [v])) := by
      rw [List.getElem?_set_self (List.getElem?_eq_some_iff.mp hc).1]
    obtain ⟨f2, fi2, h1, h2, h3, h4⟩ :=
      ih (fun w hw => he w (List.mem_cons_of_mem v hw)) (acc ++ [v]) _ fi1 f R hc' hfi1 hR
    refine ⟨f2, fi2, h1, Nat.le_trans hfi' h2, h3, ?_⟩
    rw [hstep, h4, List.set_set, List.append_assoc]
    rfl

theorem field_rep_unpacked (t : Ty) (hnp : t.packed = false) (l : List Val) (he : ∀ v ∈ l, EntryRT t v) :
    FieldRT (.rep t) (.rep l) := by
  intro tsAll cur k fi fuel R ht _ hz hfi hk hf
  have henc : encField ((k + 1) * 8) (.rep t) (.rep l) = encRep ((k + 1) * 8) t l := by
    rw [encField, hnp]; rfl
  rw [henc] at hf ⊢
  exact rep_unpacked_loop t hnp l he tsAll k ht hk [] cur fi fuel R hz hfi hf

/-- field by field: the values of a message schema, pairwise -/
def AllFieldRT : List Ty → List Val → Prop
  | t :: ts, v :: vs => FieldRT t v ∧ AllFieldRT ts vs
  | _, _ => True

theorem zeros_drop (ts : List Ty) (k : Nat) : (zeros ts).drop k = zeros (ts.drop k) := by
  rw [zeros_eq_map, zeros_eq_map, List.map_drop]

/-- the decoder's loop over the fields `k, k+1, …` of a message: from a struct whose fields `k…`
are still zero to the struct holding the values -/
theorem fields_loop (tsAll : List Ty) (hlen : tsAll.length < 2 ^ 60) :
    ∀ (ts : List Ty) (vs : List Val) (k : Nat) (cur : List Val) (fi fuel : Nat),
      tsAll.drop k = ts → wfs ts vs = true → AllFieldRT ts vs → cur.length = tsAll.length →
      cur.drop k = zeros ts → fi ≤ k → (encMsg (k + 1) ts vs).length < fuel →
      decMsg fuel tsAll cur fi (encMsg (k + 1) ts vs) = some (cur.take k ++ vs) := by
  intro ts
  induction ts with
  | nil =>
    intro vs k cur fi fuel hd hw _ hcl hz _ _
    cases vs with
    | nil =>
      have hk : cur.length ≤ k := by
        rw [hcl]; exact List.drop_eq_nil_iff.mp hd
      rw [List.take_of_length_le hk, List.append_nil]
      cases fuel <;> rfl
    | cons v vs => cases hw
  | cons t ts ih =>
    intro vs k cur fi fuel hd hw hall hcl hz hfi hf
    cases vs with
    | nil => cases hw
    | cons v vs =>
      have hw : wf t v = true ∧ wfs ts vs = true := Bool.and_eq_true_iff.mp hw
      have htk : tsAll[k]? = some t := by
        rw [← Nat.add_zero k, ← List.getElem?_drop, hd]; rfl
      have hzk : cur[k]? = some (zero t) := by
        rw [← Nat.add_zero k, ← List.getElem?_drop, hz]; rfl
      have hkl : k < tsAll.length := (List.getElem?_eq_some_iff.mp htk).1
      obtain ⟨f2, fi2, h1, _, h3, h4⟩ := hall.1 tsAll cur k fi fuel (encMsg (k + 1 + 1) ts vs) htk hcl hzk hfi
        (Nat.lt_trans hkl hlen) hf
      have hd' : tsAll.drop (k + 1) = ts := by
        rw [← List.drop_drop, hd]; rfl
      have hz' : (cur.set k v).drop (k + 1) = zeros ts := by
        rw [List.drop_set_of_lt (Nat.lt_add_one k), ← List.drop_drop, hz]; rfl
      have hlt : k < cur.length := hcl ▸ hkl
      show decMsg fuel tsAll cur fi (encField ((k + 1) * 8) t v ++ encMsg (k + 1 + 1) ts vs) = _
      rw [h4, ih vs (k + 1) (cur.set k v) fi2 f2 hd' hw.2 hall.2 (by rw [List.length_set]; exact hcl) hz' (Nat.le_succ_of_le h1) h3,
        List.take_add_one, List.take_set_of_le (Nat.le_refl k), List.getElem?_set_self hlt, List.append_assoc]
      rfl

/-- an embedded message as one length-delimited entry, given that its fields round-trip -/
theorem entry_msg (ts : List Ty) (vs : List Val) (hw : wf (.msg ts) (.msg vs) = true)
    (hall : wfs ts vs = true → AllFieldRT ts vs) : EntryRT (.msg ts) (.msg vs) := by
  simp only [wf, Bool.and_eq_true, decide_eq_true_eq] at hw
  obtain ⟨⟨hwfs, hlen⟩, htl⟩ := hw
  refine entry_delim _ _ (encMsg 1 ts vs) hlen (fun _ => rfl) (fun fuel old x hf => ?_)
  have := fields_loop ts htl ts vs 0 (zeros ts) 0 fuel rfl hwfs (hall hwfs) (zeros_length ts) rfl (Nat.le_refl 0) hf
  show (if 2 ≠ 2 then none else (decMsg fuel ts (zeros ts) 0 (encMsg 1 ts vs)).map Val.msg) = _
  rw [if_neg (fun h => h rfl), this]
  rfl

/-- what the recursion over values carries: single-entry types give an entry, every type a field -/
def Good (v : Val) : Prop :=
  (∀ t, wf t v = true → t.single = true → EntryRT t v) ∧ (∀ t, wf t v = true → FieldRT t v)

theorem of_entry {t : Ty} {v : Val} (he : EntryRT t v) : (t.single = true → EntryRT t v) ∧ FieldRT t v :=
  ⟨fun _ => he, field_of_entry t v he⟩

/-- along the recursion of `wf`, `wfAll`, `wfs` themselves, so that in every case the type is the one `wf` matched; the three
parts are what the three functions carry -/
theorem wf_rt :
    (∀ t v, wf t v = true → (t.single = true → EntryRT t v) ∧ FieldRT t v) ∧
    (∀ t l, wfAll t l = true → t.single = true → ∀ v ∈ l, EntryRT t v) ∧
    (∀ ts vs, wfs ts vs = true → AllFieldRT ts vs) := by
  apply wf.mutual_induct
  -- the six number types
  case case1 | case2 | case3 | case4 | case5 | case6 => exact fun _ hw => of_entry (entry_packed _ _ rfl hw)
  -- byte string; byte array (the decoder checks its length)
  case case7 => exact fun b hw => of_entry (entry_bytes b (of_decide_eq_true hw))
  case case8 =>
    intro n b hw
    have hw : b.length = n ∧ n < 2 ^ 64 := of_decide_eq_true hw
    refine of_entry (entry_delim _ _ b (hw.1 ▸ hw.2) (fun _ => rfl) (fun _ _ _ _ => ?_))
    show (if 2 ≠ 2 then none else if b.length ≠ n then none else some (Val.bytes b)) = _
    rw [if_neg (fun h => h rfl), if_neg (fun h => h hw.1)]
  -- message: its fields are part three
  case case9 => exact fun ts vs ih hw => of_entry (entry_msg ts vs hw ih)
  -- slice (its elements: part two), nil pointer, pointer: never one entry
  case case10 =>
    intro t l ih hw
    simp only [wf, Bool.and_eq_true, Bool.or_eq_true, Bool.not_eq_true', decide_eq_true_eq] at hw
    obtain ⟨⟨hs, hall⟩, hpk⟩ := hw
    refine ⟨(nomatch ·), ?_⟩
    by_cases hp : t.packed = true
    · exact field_rep_packed t l hp hall (hpk.elim (fun h => by simp [hp] at h) id)
    · exact field_rep_unpacked t (by simpa using hp) l (ih hall hs)
  case case11 => exact fun t _ => ⟨(nomatch ·), field_opt_none t⟩
  case case12 =>
    intro t v ih hw
    have hw : t.single = true ∧ wf t v = true := Bool.and_eq_true_iff.mp hw
    exact ⟨(nomatch ·), field_opt_some t v ((ih hw.2).1 hw.1)⟩
  -- the catch-all of `wf`
  case case13 =>
    intros; rename_i hw
    rw [wf.eq_13] at hw
    · cases hw
    all_goals assumption
  -- `wfAll`
  case case14 => exact fun _ _ _ _ h => nomatch h
  case case15 =>
    intro t v l ih1 ih2 hw hs w hm
    have hw : wf t v = true ∧ wfAll t l = true := Bool.and_eq_true_iff.mp hw
    rcases List.mem_cons.mp hm with rfl | hm
    · exact (ih1 hw.1).1 hs
    · exact ih2 hw.2 hs w hm
  -- `wfs`; the last is its catch-all
  case case16 => exact fun _ => trivial
  case case17 =>
    intro t ts v vs ih1 ih2 hw
    have hw : wf t v = true ∧ wfs ts vs = true := Bool.and_eq_true_iff.mp hw
    exact ⟨(ih1 hw.1).2, ih2 hw.2⟩
  case case18 =>
    intros; rename_i hw
    rw [wfs.eq_3] at hw
    · cases hw
    all_goals assumption

theorem good : (v : Val) → Good v :=
  fun v => ⟨fun t hw hs => (wf_rt.1 t v hw).1 hs, fun t hw => (wf_rt.1 t v hw).2⟩

end C03.Wire

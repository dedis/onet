import OnetVerif.Model.C13
import OnetVerif.Gen.C13
/-! `TreeNode.Visit` as regenerated from tree.go (`Gen.C13.TreeNode_Visit`: generic in the state the callback threads, fuel for the
recursion) is the fold of the callback over the pre-order walk of the pointer tree, with the depth the code reports; it returns for
every fuel of at least the height of the tree.  Core Lean only. -/
namespace C13.VisitGen
open C13

/-- induction over lists of pointer trees (the children of a node are such a list); a single tree is the list `[t]` -/
theorem treeList_induct {Q : List Gen.C13.TreeNode → Prop} (nil : Q [])
    (cons : ∀ si ch r, Q ch → Q r → Q (⟨si, ch⟩ :: r)) : ∀ ts, Q ts :=
  Gen.C13.TreeNode.rec_1 (motive_1 := fun t => ∀ r, Q r → Q (t :: r)) (motive_2 := Q)
    (fun si ch ih r hr => cons si ch r ih hr) nil fun _ r ihc ihr => ihc r ihr

mutual
/-- the calls `fn(depth, node)` that `t.Visit(d, fn)` makes, in order -/
def walkNode (d : Int) : Gen.C13.TreeNode → List (Int × Gen.C13.TreeNode)
  | ⟨si, ch⟩ => (d, ⟨si, ch⟩) :: walkList (d + 1) ch
def walkList (d : Int) : List Gen.C13.TreeNode → List (Int × Gen.C13.TreeNode)
  | [] => []
  | c :: r => walkNode d c ++ walkList d r
end

mutual
def heightNode : Gen.C13.TreeNode → Nat
  | ⟨_, ch⟩ => heightList ch + 1
def heightList : List Gen.C13.TreeNode → Nat
  | [] => 0
  | c :: r => max (heightNode c) (heightList r)
end

/-- **`TreeNode.Visit` as regenerated = the callback folded over the pre-order walk** (`fn(depth, node)` for the node, then for
every child in order with `depth + 1`), for every fuel of at least the height of the tree -/
theorem Visit_eq (H : HashFns) {σ : Type} (fn : σ → Int → Gen.C13.TreeNode → σ) :
    ∀ (fuel : Nat) (t : Gen.C13.TreeNode) (d : Int) (st : σ), heightNode t ≤ fuel →
      Gen.C13.TreeNode_Visit H fuel t d fn st = some ((walkNode d t).foldl (fun s p => fn s p.1 p.2) st) := by
  intro fuel
  induction fuel with
  | zero => intro ⟨si, ch⟩ d st h; rw [heightNode] at h; cases h
  | succ fuel ih =>
    intro ⟨si, ch⟩ d st h
    rw [heightNode] at h
    have children : ∀ (ch : List Gen.C13.TreeNode) (st : σ), heightList ch ≤ fuel →
        List.foldlM (fun s c => Gen.C13.TreeNode_Visit H fuel c (d + 1) fn s) st ch =
          some ((walkList (d + 1) ch).foldl (fun s p => fn s p.1 p.2) st) := by
      intro ch
      induction ch with
      | nil => exact fun _ _ => rfl
      | cons c r ihr =>
        intro st hch
        rw [heightList] at hch
        obtain ⟨hc, hr⟩ := Nat.max_le.mp hch
        rw [List.foldlM_cons, ih c (d + 1) st hc, walkList, List.foldl_append]
        exact ihr _ hr
    rw [Gen.C13.TreeNode_Visit]
    dsimp only
    rw [Gen.Rt.loop_step (fun s c => Gen.C13.TreeNode_Visit H fuel c (d + 1) fn s) none,
      children ch _ (Nat.le_of_succ_le_succ h), walkNode, List.foldl_cons]
    intro s c _
    cases Gen.C13.TreeNode_Visit H fuel c (d + 1) fn s <;> rfl
end C13.VisitGen

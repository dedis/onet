/-! Plain facts about lists that core Lean lacks and the proofs of the models need: a ghost list grows by one entry
(`l ++ [x]`), counting under an injective map, filters and their complements, look-ups in association lists and in
lists with one entry per key, a `mapM` that never fails, the split of a list at a separator, a list given by its pieces
(`take`/`drop`, `flatten`), a list of flags with one more set, induction from the end of a list.  Core only. -/
namespace List
variable {α : Type}

theorem snoc_induction {P : List α → Prop} (nil : P [])
    (snoc : ∀ l a, P l → P (l ++ [a])) (l : List α) : P l := by
  rw [← List.reverse_reverse l]
  induction l.reverse with
  | nil => exact nil
  | cons a l ih => rw [List.reverse_cons]; exact snoc _ a ih

theorem count_snoc [BEq α] [LawfulBEq α] [DecidableEq α] (l : List α) (x y : α) :
    (l ++ [x]).count y = l.count y + if x = y then 1 else 0 := by
  simp only [List.count_append, List.count_singleton, beq_iff_eq]

theorem mem_of_mem_snoc {l : List α} {f g : α} (h : g ∈ l ++ [f]) (hne : g ≠ f) : g ∈ l :=
  (List.mem_append.mp h).elim id fun h => absurd (List.mem_singleton.mp h) hne

theorem countP_pos_append {p : α → Bool} {l : List α} (l' : List α) (h : 0 < l.countP p) :
    0 < (l ++ l').countP p := by
  rw [List.countP_append]; exact Nat.lt_add_right _ h

theorem length_filter_not_add (p : α → Bool) (l : List α) :
    (l.filter fun a => !p a).length + (l.filter p).length = l.length := by
  induction l with
  | nil => rfl
  | cons a l ih =>
    cases h : p a
    · rw [List.filter_cons_of_pos (by rw [h]; rfl), List.filter_cons_of_neg (by rw [h]; exact Bool.false_ne_true)]
      rw [List.length_cons, List.length_cons, ← ih]; omega
    · rw [List.filter_cons_of_neg (by rw [h]; exact Bool.false_ne_true), List.filter_cons_of_pos h]
      rw [List.length_cons, List.length_cons, ← ih]; omega

theorem filter_append_left (f : α → Bool) (l x : List α) (hx : ∀ c ∈ x, f c = false) :
    (l ++ x).filter f = l.filter f := by
  rw [List.filter_append, (List.filter_eq_nil_iff (l := x)).mpr fun c hc => by rw [hx c hc]; nofun, List.append_nil]

theorem mem_filter_ne {l : List α} [DecidableEq α] {a x : α} : x ∈ l.filter (· != a) ↔ x ∈ l ∧ x ≠ a := by
  simp

theorem mem_filter_ne_or_concat {l : List Nat} {a x : Nat} (d : List Nat) (h : x ∈ l) :
    x ∈ l.filter (· != a) ∨ x ∈ d ++ [a] := by
  by_cases e : x = a
  · rw [e]; exact .inr List.mem_concat_self
  · exact .inl (mem_filter_ne.2 ⟨h, e⟩)

theorem takeWhile_eq_self (p : α → Bool) (l : List α) (h : ∀ a ∈ l, p a = true) : l.takeWhile p = l := by
  induction l with
  | nil => rfl
  | cons a l ih =>
    rw [List.takeWhile_cons, h a List.mem_cons_self, if_pos rfl, ih fun b hb => h b (List.mem_cons_of_mem _ hb)]

theorem count_map_of_inj {β : Type} [BEq α] [LawfulBEq α] [BEq β] [LawfulBEq β] {f : α → β} (hf : ∀ x y, f x = f y → x = y)
    (l : List α) (x : α) : (l.map f).count (f x) = l.count x := by
  induction l with
  | nil => rfl
  | cons a l ih =>
    rw [List.map_cons, List.count_cons, List.count_cons, ih]
    by_cases e : a = x
    · rw [e, beq_self_eq_true, beq_self_eq_true]
    · rw [beq_false_of_ne e, beq_false_of_ne fun h => e (hf _ _ h)]

theorem findSome?_ite {β : Type} (p : α → Bool) (g : α → β) (l : List α) :
    l.findSome? (fun a => if p a then some (g a) else none) = (l.find? p).map g := by
  induction l with
  | nil => rfl
  | cons a r ih =>
    rw [List.findSome?_cons, List.find?_cons]
    cases p a
    · exact ih
    · rfl

theorem mapM_eq_some_map {β : Type} {f : α → Option β} {g : α → β} : ∀ {l : List α}, (∀ a ∈ l, f a = some (g a)) →
    l.mapM f = some (l.map g)
  | [], _ => rfl
  | a :: l, h => by
    rw [List.mapM_cons, h a List.mem_cons_self, mapM_eq_some_map fun x hx => h x (List.mem_cons_of_mem _ hx)]
    rfl

theorem find?_of_mem {p : α → Bool} {l : List α} {a : α} (ha : a ∈ l) (hp : p a = true) :
    ∃ x, l.find? p = some x ∧ x ∈ l ∧ p x = true := by
  obtain ⟨x, hf⟩ := Option.isSome_iff_exists.mp (List.find?_isSome.mpr ⟨a, ha, hp⟩)
  exact ⟨x, hf, List.mem_of_find?_eq_some hf, List.find?_some hf⟩

theorem lookup_isSome {β : Type} [BEq α] (l : List (α × β)) (k : α) :
    (l.lookup k).isSome = (l.map (·.1)).contains k := by
  induction l with
  | nil => rfl
  | cons e l ih =>
    obtain ⟨a, b⟩ := e
    rw [List.lookup_cons, List.map_cons, List.contains_cons]
    cases k == a
    · exact ih
    · rfl

theorem lookup_map_snd {β : Type} [BEq α] {γ : Type} (f : β → γ) (l : List (α × β)) (k : α) :
    (l.map fun e => (e.1, f e.2)).lookup k = (l.lookup k).map f := by
  induction l with
  | nil => rfl
  | cons e l ih =>
    obtain ⟨a, b⟩ := e
    rw [List.map_cons, List.lookup_cons, List.lookup_cons]
    cases k == a
    · exact ih
    · rfl

theorem lookup_filter_ne {β : Type} [BEq α] [LawfulBEq α] [DecidableEq α] (l : List (α × β)) (k j : α) :
    (l.filter fun e => !(e.1 == k)).lookup j = if j = k then none else l.lookup j := by
  induction l with
  | nil => exact (ite_self _).symm
  | cons e l ih =>
    obtain ⟨a, b⟩ := e
    rw [List.filter_cons, List.lookup_cons]
    by_cases ha : a = k
    · rw [ha, beq_self_eq_true, Bool.not_true, if_neg Bool.false_ne_true, ih]
      by_cases hj : j = k
      · rw [if_pos hj, if_pos hj]
      · rw [if_neg hj, if_neg hj, beq_false_of_ne hj]
    · rw [beq_false_of_ne ha, Bool.not_false, if_pos rfl, List.lookup_cons, ih]
      cases hja : j == a
      · rfl
      · exact (if_neg (by rw [beq_iff_eq.mp hja]; exact ha)).symm

theorem set_of_getElem? {l : List α} {i : Nat} {a : α} (h : l[i]? = some a) : l.set i a = l := by
  obtain ⟨hi, rfl⟩ := getElem?_eq_some_iff.mp h
  exact set_getElem_self hi

theorem nodup_map_inj_on {β : Type} (f : α → β) (l : List α) (hnd : l.Nodup)
    (hinj : ∀ a ∈ l, ∀ b ∈ l, f a = f b → a = b) : (l.map f).Nodup :=
  List.pairwise_map.mpr (List.Pairwise.imp_of_mem (fun ha hb hne e => hne (hinj _ ha _ hb e)) hnd)

theorem eq_of_nodup_map {β : Type} {f : α → β} {l : List α} (hn : (l.map f).Nodup) {x y : α} (hx : x ∈ l) (hy : y ∈ l)
    (h : f x = f y) : x = y :=
  have hp : l.Pairwise fun a b => f a ≠ f b := List.pairwise_map.mp hn
  List.Pairwise.forall_of_forall_of_flip (R := fun a b => f a = f b → a = b) (fun _ _ _ => rfl)
    (hp.imp fun hne e => absurd e hne) (hp.imp fun hne e => absurd e.symm hne) hx hy h

theorem find?_of_nodup_map {β : Type} [BEq β] [LawfulBEq β] {f : α → β} {l : List α} (hn : (l.map f).Nodup) {c : α}
    (hc : c ∈ l) : l.find? (fun x => f x == f c) = some c := by
  cases hf : l.find? (fun x => f x == f c) with
  | none => exact absurd (beq_self_eq_true (f c)) (List.find?_eq_none.mp hf c hc)
  | some c' =>
    have hk : (f c' == f c) = true := List.find?_some (p := fun x => f x == f c) hf
    rw [eq_of_nodup_map hn (List.mem_of_find?_eq_some hf) hc (eq_of_beq hk)]

theorem any_eq_false_of_nodup {β : Type} [BEq β] [LawfulBEq β] (f : α → β) (l : List α) {n : β} {r : List β}
    (h : (l.map f ++ n :: r).Nodup) : (l.any fun x => f x == n) = false := by
  rw [List.any_eq_false]
  intro x hx hxn
  exact (List.nodup_append.mp h).2.2 (f x) (List.mem_map_of_mem hx) n List.mem_cons_self (beq_iff_eq.mp hxn)

theorem lookup_eq_some_iff_mem {β : Type} [BEq α] [LawfulBEq α] {l : List (α × β)} (hn : (l.map (·.1)).Nodup)
    {k : α} {b : β} : l.lookup k = some b ↔ (k, b) ∈ l := by
  have mem : ∀ {b'}, l.lookup k = some b' → (k, b') ∈ l := fun h =>
    let ⟨_, _, e, _⟩ := List.lookup_eq_some_iff.mp h
    e ▸ List.mem_append_right _ List.mem_cons_self
  refine ⟨mem, fun h => ?_⟩
  cases hl : l.lookup k with
  | none => exact absurd (List.lookup_eq_none_iff.mp hl _ h) (by simp)
  | some b' => cases eq_of_nodup_map hn (mem hl) h rfl; rfl

theorem nodup_getD_inj (d : Nat) (l : List Nat) (hnd : l.Nodup) (i j : Nat) (hi : i < l.length) (hj : j < l.length)
    (h : l.getD i d = l.getD j d) : i = j := by
  rw [List.getD_eq_getElem?_getD, List.getD_eq_getElem?_getD, List.getElem?_eq_getElem hi, List.getElem?_eq_getElem hj,
    Option.getD_some, Option.getD_some] at h
  exact (List.getElem?_inj hi hnd).mp (by rw [List.getElem?_eq_getElem hi, List.getElem?_eq_getElem hj, h])

theorem getD_set_true (l : List Bool) {r : Nat} (hr : r < l.length) (x : Nat) :
    (l.set r true).getD x false = true ↔ x = r ∨ l.getD x false = true := by
  rw [List.getD_eq_getElem?_getD, List.getD_eq_getElem?_getD, List.getElem?_set]
  by_cases h : r = x
  · subst h; simp [hr]
  · simp [h, Ne.symm h]

theorem exists_unused : ∀ (l : List Bool), l.count true < l.length → ∃ u, u < l.length ∧ l.getD u false = false := by
  intro l
  induction l with
  | nil => intro h; exact absurd h (Nat.lt_irrefl 0)
  | cons b bs ih =>
    intro h
    cases b with
    | false => exact ⟨0, Nat.succ_pos _, rfl⟩
    | true =>
      rw [List.count_cons_self, List.length_cons] at h
      obtain ⟨u, hu, hv⟩ := ih (Nat.lt_of_succ_lt_succ h)
      exact ⟨u + 1, Nat.succ_lt_succ hu, hv⟩

theorem count_set_true (l : List Bool) (r : Nat) (hr : r < l.length) (h : l.getD r false = false) :
    (l.set r true).count true = l.count true + 1 := by
  rw [List.getD_eq_getElem?_getD, List.getElem?_eq_getElem hr, Option.getD_some] at h
  rw [List.count_set hr, h]
  rfl

theorem append_cons_inj_of_not_mem {x : α} {a b r s : List α} (ha : x ∉ a) (hb : x ∉ b)
    (h : a ++ x :: r = b ++ x :: s) : a = b ∧ r = s := by
  induction a generalizing b with
  | nil =>
    cases b with
    | nil => exact ⟨rfl, List.tail_eq_of_cons_eq h⟩
    | cons y b => exact absurd (List.head_eq_of_cons_eq h) fun e => hb (e ▸ .head _)
  | cons y a ih =>
    cases b with
    | nil => exact absurd (List.head_eq_of_cons_eq h).symm fun e => ha (e ▸ .head _)
    | cons z b =>
      obtain ⟨e1, e2⟩ := ih (fun m => ha (.tail _ m)) (fun m => hb (.tail _ m)) (List.tail_eq_of_cons_eq h)
      exact ⟨by rw [List.head_eq_of_cons_eq h, e1], e2⟩

theorem eq_of_take_drop {a b : List α} (n : Nat) (ht : a.take n = b.take n) (hd : a.drop n = b.drop n) :
    a = b := by
  rw [← List.take_append_drop n a, ht, hd, List.take_append_drop]

theorem exists_cons_eq {a : α} {l : List α} {P : α → List α → Prop} :
    (∃ f fs, a :: l = f :: fs ∧ P f fs) ↔ P a l := by
  constructor
  · rintro ⟨f, fs, heq, hp⟩
    simp only [List.cons.injEq] at heq
    rw [heq.1, heq.2]; exact hp
  · intro hp; exact ⟨a, l, rfl, hp⟩

theorem drop_succ_append (a : List α) (x : α) (b : List α) : (a ++ x :: b).drop (a.length + 1) = b :=
  List.drop_length_add_append 1

theorem drop_succ_of_drop {s : List α} {i : Nat} {c : α} {b : List α} (h : s.drop i = c :: b) :
    s.drop (i + 1) = b := by
  rw [← List.drop_drop, h]; rfl

theorem getLast?_cons_getLastD (c : α) (r : List α) : (c :: r).getLast? = some ((c :: r).getLastD c) := by
  rw [List.getLast?_cons, List.getLastD_cons, List.getLastD_eq_getLast?]

theorem flatten_injective_of_lengths {k₁ k₂ : List (List α)} (hl : k₁.map List.length = k₂.map List.length)
    (h : k₁.flatten = k₂.flatten) : k₁ = k₂ := by
  induction k₁ generalizing k₂ with
  | nil =>
    cases k₂ with
    | nil => rfl
    | cons _ _ => cases hl
  | cons x xs ih =>
    cases k₂ with
    | nil => cases hl
    | cons y ys =>
      obtain ⟨hx, hxs⟩ := List.cons.inj hl
      obtain ⟨e, h⟩ := List.append_inj (List.flatten_cons ▸ List.flatten_cons ▸ h) hx
      rw [e, ih hxs h]

end List

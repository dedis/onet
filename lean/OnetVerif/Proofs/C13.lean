import OnetVerif.Model.C13
import OnetVerif.Proofs.Lists
import OnetVerif.Proofs.Hex
import OnetVerif.Proofs.Dec
/-! What the functions of `Model/C13.lean` do, for the theorems of `Props/C13.lean`.  The recurring form: an encoded value is read off the front of
a sequence, with a rest on both sides (`uuidStr_append_inj`, `dfs_shape_injective`, `pre_fullN_injective`), so that an induction can go field by
field.  Core Lean only. -/
namespace C13

theorem IsBytes.tail {x : Nat} {l : Bytes} (h : IsBytes (x :: l)) : IsBytes l :=
  fun z hz => h z (List.mem_cons_of_mem _ hz)

theorem IsBytes.take {l : Bytes} (h : IsBytes l) (n : Nat) : IsBytes (l.take n) :=
  fun z hz => h z (List.mem_of_mem_take hz)

theorem IsBytes.drop {l : Bytes} (h : IsBytes l) (n : Nat) : IsBytes (l.drop n) :=
  fun z hz => h z (List.mem_of_mem_drop hz)

theorem hexAscii_eq : hexAscii = Hex.enc := by
  funext l
  induction l with
  | nil => rfl
  | cons b r ih => rw [hexAscii, ih]; rfl

theorem hexAscii_length (l : Bytes) : (hexAscii l).length = 2 * l.length := by rw [hexAscii_eq, Hex.enc_length]

theorem hexAscii_injective {a b : Bytes} (ha : IsBytes a) (hb : IsBytes b)
    (h : hexAscii a = hexAscii b) : a = b := Hex.enc_inj ha hb (hexAscii_eq ▸ h)

/-- hex digits are ASCII codes from `0` on: no dash, no comma, no bracket among them -/
theorem hexAscii_ge (l : Bytes) : ∀ c ∈ hexAscii l, 48 ≤ c := by
  have nib : ∀ n, 48 ≤ hexNib n := fun n => by
    unfold hexNib; split
    · exact Nat.le_add_right 48 n
    · exact Nat.le_trans (by decide) (Nat.le_add_right 87 n)
  induction l with
  | nil => exact fun _ hc => nomatch hc
  | cons b r ih =>
    intro c hc
    simp only [hexAscii, List.mem_cons] at hc
    rcases hc with hc | hc | hc
    · rw [hc]; exact nib _
    · rw [hc]; exact nib _
    · exact ih c hc

private theorem hex_pieces (h : Bytes) :
    h.take 8 ++ ((h.drop 8).take 4 ++ ((h.drop 12).take 4 ++ ((h.drop 16).take 4 ++ h.drop 20))) = h := by
  have e : ∀ a b : Nat, (h.drop a).take b ++ h.drop (a + b) = h.drop a := fun a b => by
    rw [← List.drop_drop]; exact List.take_append_drop b (h.drop a)
  rw [e 16 4, e 12 4, e 8 4, List.take_append_drop]

private theorem uuidStr_undash (u : Bytes) : (uuidStr u).filter (fun c => c != 45) = hexAscii u := by
  have dash : [45].filter (fun c => c != 45) = [] := rfl
  simp only [uuidStr, List.filter_append, dash, List.append_nil]
  simp only [← List.filter_append, hex_pieces]
  exact List.filter_eq_self.mpr fun c hc => bne_iff_ne.mpr fun e => absurd (e ▸ hexAscii_ge u c hc) (by decide)

theorem uuidStr_injective {u v : Bytes} (hu : IsBytes u) (hv : IsBytes v)
    (h : uuidStr u = uuidStr v) : u = v := by
  have := congrArg (List.filter (fun c => c != 45)) h
  rw [uuidStr_undash, uuidStr_undash] at this
  exact hexAscii_injective hu hv this

theorem uuidStr_length (u : Bytes) : (uuidStr u).length = 2 * u.length + 4 := by
  have := congrArg List.length (hex_pieces (hexAscii u))
  simp only [List.length_append, hexAscii_length] at this
  simp only [uuidStr, List.length_append, List.length_cons, List.length_nil]
  omega

theorem uuidStr_append_inj {u v r s : Bytes} (hu : IsUuid u) (hv : IsUuid v) (h : uuidStr u ++ r = uuidStr v ++ s) :
    u = v ∧ r = s := by
  obtain ⟨e, hr⟩ := List.append_inj h (by rw [uuidStr_length, uuidStr_length, hu.1, hv.1])
  exact ⟨uuidStr_injective hu.2 hv.2 e, hr⟩

private theorem length_flatten_uniform {L : Nat} {k : List Bytes} (h : ∀ x ∈ k, x.length = L) :
    k.map List.length = List.replicate k.length L ∧ k.flatten.length = k.length * L := by
  have e : k.map List.length = List.replicate k.length L :=
    List.eq_replicate_iff.mpr ⟨List.length_map _, fun n hn => by
      obtain ⟨x, hx, rfl⟩ := List.mem_map.mp hn
      exact h x hx⟩
  exact ⟨e, by rw [List.length_flatten, e, List.sum_replicate_nat]⟩

/-- pieces of one common positive length: the concatenation determines their number, hence their lengths -/
theorem flatten_injective_uniform {L : Nat} (hL : 0 < L) {k₁ k₂ : List Bytes}
    (h₁ : ∀ k ∈ k₁, k.length = L) (h₂ : ∀ k ∈ k₂, k.length = L)
    (h : k₁.flatten = k₂.flatten) : k₁ = k₂ := by
  obtain ⟨m₁, l₁⟩ := length_flatten_uniform h₁
  obtain ⟨m₂, l₂⟩ := length_flatten_uniform h₂
  have n : k₁.length = k₂.length := Nat.eq_of_mul_eq_mul_right hL (by rw [← l₁, ← l₂, h])
  exact List.flatten_injective_of_lengths (by rw [m₁, m₂, n]) h

theorem rosterKeys_eq_flatMap (ro : List Member) : rosterKeys ro = ro.flatMap memberKeys := by
  induction ro with
  | nil => rfl
  | cons m r ih => rw [rosterKeys, ih, List.flatMap_cons]

theorem rosterKeys_append (a b : List Member) : rosterKeys (a ++ b) = rosterKeys a ++ rosterKeys b := by
  simp only [rosterKeys_eq_flatMap, List.flatMap_append]

theorem key_mem_rosterKeys {ro : List Member} {m : Member} (h : m ∈ ro) : m.key ∈ rosterKeys ro := by
  rw [rosterKeys_eq_flatMap]
  exact List.mem_flatMap.mpr ⟨m, h, List.mem_cons_self⟩

theorem rosterKeys_length (ro : List Member) :
    (rosterKeys ro).length = ro.length + (ro.map (·.svcs.length)).sum := by
  induction ro with
  | nil => rfl
  | cons m r ih =>
    simp only [rosterKeys, memberKeys, List.length_append, List.length_cons, ih, List.map_cons, List.sum_cons]
    omega

theorem rosterKeys_head (l : List Member) : (rosterKeys l).head? = l.head?.map (·.key) := by
  cases l <;> rfl

/-- the key sequence and the number of service keys per position give the members back -/
theorem members_of_keys {r₁ r₂ : List Member} (hs : r₁.map (·.svcs.length) = r₂.map (·.svcs.length))
    (h : rosterKeys r₁ = rosterKeys r₂) : r₁ = r₂ := by
  -- the key sequence is cut into members again, then a member is its list of keys
  rw [rosterKeys_eq_flatMap, rosterKeys_eq_flatMap] at h
  have hl := congrArg (List.map (· + 1)) hs
  rw [List.map_map, List.map_map] at hl
  have := List.flatten_injective_of_lengths (k₁ := r₁.map memberKeys) (k₂ := r₂.map memberKeys)
    (by rw [List.map_map, List.map_map]; exact hl) h
  exact (List.map_inj_right fun m m' e => by cases m; cases m'; cases e; rfl).mp this

theorem rosterKeys_toml (ro : List Member) : rosterKeys (tomlRound ro) = ro.map (·.key) := by
  simp only [rosterKeys_eq_flatMap, tomlRound, List.flatMap_map, memberKeys]
  exact List.map_eq_flatMap.symm

theorem concat_ext (ms ro : List Member) : ∃ ext, concatMembers ro ms = ro ++ ext ∧
    ((∃ m ∈ ms, ro.any (fun x => x.key == m.key) = false) → ext ≠ []) := by
  induction ms generalizing ro with
  | nil => exact ⟨[], (List.append_nil ro).symm, fun ⟨_, hm, _⟩ => nomatch hm⟩
  | cons m' rest ih =>
    rw [concatMembers]
    split
    · next hany =>
      obtain ⟨ext, h, hne⟩ := ih ro
      refine ⟨ext, h, fun ⟨m, hm, hnew⟩ => hne ?_⟩
      rcases List.mem_cons.mp hm with rfl | hmem
      · rw [hany] at hnew; cases hnew
      · exact ⟨m, hmem, hnew⟩
    · obtain ⟨ext, h, _⟩ := ih (ro ++ [m'])
      exact ⟨m' :: ext, by rw [h, List.append_assoc]; rfl, fun _ => List.cons_ne_nil _ _⟩

private theorem leafMark_shape {c c' : Forest} (h : shape c = shape c') : leafMark c = leafMark c' := by
  cases c <;> cases c' <;> first | rfl | cases h

theorem dfs_shape_injective {L : Nat} (f : Forest) : ∀ (g : Forest) (r₁ r₂ : Bytes),
    KeysLen L f → KeysLen L g → shape f = shape g → dfs f ++ r₁ = dfs g ++ r₂ → f = g ∧ r₁ = r₂ := by
  induction f with
  | nil =>
    intro g r₁ r₂ _ _ hs h
    cases g with
    | nil => exact ⟨rfl, h⟩
    | node _ _ _ => cases hs
  | node k c s ihc ihs =>
    intro g r₁ r₂ hf hg hs h
    cases g with
    | nil => cases hs
    | node k' c' s' =>
      obtain ⟨_, hc, hsib⟩ := Forest.node.inj hs
      simp only [dfs, List.append_assoc, leafMark_shape hc] at h
      obtain ⟨rfl, h1⟩ := List.append_inj h (hf.1.trans hg.1.symm)
      obtain ⟨rfl, h2⟩ := ihc c' _ _ hf.2.1 hg.2.1 hc (List.append_cancel_left h1)
      obtain ⟨rfl, h3⟩ := ihs s' _ _ hf.2.2 hg.2.2 hsib h2
      exact ⟨rfl, h3⟩

/-- the pre-order (key, is-leaf) sequence written out the way `dfs` does -/
def encPre : List (Bytes × Bool) → Bytes
  | [] => []
  | (k, leaf) :: r => k ++ ((if leaf then [1] else []) ++ encPre r)

private theorem encPre_append (a b : List (Bytes × Bool)) : encPre (a ++ b) = encPre a ++ encPre b := by
  induction a with
  | nil => rfl
  | cons x xs ih => rw [List.cons_append, encPre, encPre, ih, List.append_assoc, List.append_assoc]

/-- `dfs` sees of a tree only its pre-order (key, is-leaf) sequence -/
theorem dfs_eq_encPre (f : Forest) : dfs f = encPre (pre f) := by
  induction f with
  | nil => rfl
  | node k c s ihc ihs => rw [dfs, pre, encPre, encPre_append, ihc, ihs, leafMark]

def GoodSeq (L : Nat) (l : List (Bytes × Bool)) : Prop :=
  ∀ p ∈ l, p.1.length = L ∧ p.1.head? ≠ some 1

private theorem GoodSeq.tail {L : Nat} {p : Bytes × Bool} {l : List (Bytes × Bool)} (h : GoodSeq L (p :: l)) :
    GoodSeq L l := fun x hx => h x (List.mem_cons_of_mem _ hx)

theorem pre_good {L : Nat} {f : Forest} (hk : KeysLen L f) (hm : NoMarkHead f) : GoodSeq L (pre f) := by
  induction f with
  | nil => intro p hp; cases hp
  | node k c s ihc ihs =>
    intro p hp
    simp only [pre, List.mem_cons, List.mem_append] at hp
    rcases hp with hp | hp | hp
    · rw [hp]; exact ⟨hk.1, hm.1⟩
    · exact ihc hk.2.1 hm.2.1 p hp
    · exact ihs hk.2.2 hm.2.2 p hp

private theorem encPre_head {L : Nat} (hL : 0 < L) {p : Bytes × Bool} {l : List (Bytes × Bool)}
    (hl : GoodSeq L (p :: l)) : ∃ x r, x ≠ 1 ∧ encPre (p :: l) = x :: r := by
  obtain ⟨_ | ⟨x, xs⟩, lf⟩ := p
  · exact absurd (hl _ List.mem_cons_self).1 (Nat.ne_of_lt hL)
  · exact ⟨x, _, fun e => (hl _ List.mem_cons_self).2 (congrArg some e), rfl⟩

private theorem encPre_ne_mark {L : Nat} (hL : 0 < L) {l : List (Bytes × Bool)} (hl : GoodSeq L l) (rest : Bytes) :
    encPre l ≠ 1 :: rest := by
  intro e
  cases l with
  | nil => cases e
  | cons _ _ =>
    obtain ⟨x, r, hx, e'⟩ := encPre_head hL hl
    exact hx (List.head_eq_of_cons_eq (e'.symm.trans e))

theorem encPre_injective {L : Nat} (hL : 0 < L) {a b : List (Bytes × Bool)}
    (ha : GoodSeq L a) (hb : GoodSeq L b) (h : encPre a = encPre b) : a = b := by
  induction a generalizing b with
  | nil =>
    cases b with
    | nil => rfl
    | cons q qs =>
      obtain ⟨x, r, _, e⟩ := encPre_head hL hb
      cases h.trans e
  | cons p ps ih =>
    cases b with
    | nil =>
      obtain ⟨x, r, _, e⟩ := encPre_head hL ha
      cases e.symm.trans h
    | cons q qs =>
      obtain ⟨k, lf⟩ := p
      obtain ⟨k', lf'⟩ := q
      obtain ⟨rfl, e⟩ := List.append_inj h ((ha _ List.mem_cons_self).1.trans (hb _ List.mem_cons_self).1.symm)
      -- after the key: a marker or not, on both sides alike, since what follows does not start with one
      cases lf <;> cases lf'
      · rw [ih ha.tail hb.tail e]
      · exact absurd e (encPre_ne_mark hL ha.tail _)
      · exact absurd e.symm (encPre_ne_mark hL hb.tail _)
      · rw [ih ha.tail hb.tail (List.tail_eq_of_cons_eq e)]

/-- every inner node has exactly `N` children (perfect binary trees, full N-ary trees, …) -/
def FullN (N : Nat) : Forest → Prop
  | .nil => True
  | .node _ c s => (c.isNil = true ∨ c.len = N) ∧ FullN N c ∧ FullN N s

private theorem arity_of_isNil {N : Nat} {c : Forest} (h : c.isNil = true ∨ c.len = N) :
    c.len = if c.isNil then 0 else N := by
  cases c with
  | nil => rfl
  | node _ _ _ => exact h.resolve_left Bool.false_ne_true

/-- the flag of a node tells how many trees to read for its children -/
theorem pre_fullN_injective (N : Nat) (f : Forest) : ∀ (g : Forest) (r₁ r₂ : List (Bytes × Bool)),
    FullN N f → FullN N g → f.len = g.len → pre f ++ r₁ = pre g ++ r₂ → f = g ∧ r₁ = r₂ := by
  induction f with
  | nil =>
    intro g r₁ r₂ _ _ hl h
    cases g with
    | nil => exact ⟨rfl, h⟩
    | node _ _ _ => exact absurd hl.symm (Nat.ne_of_gt (Nat.lt_add_right _ Nat.one_pos))
  | node k c s ihc ihs =>
    intro g r₁ r₂ hf hg hl h
    cases g with
    | nil => exact absurd hl (Nat.ne_of_gt (Nat.lt_add_right _ Nat.one_pos))
    | node k' c' s' =>
      rw [pre, pre, List.cons_append, List.cons_append, List.append_assoc, List.append_assoc] at h
      obtain ⟨hk, hleaf⟩ := Prod.mk.inj (List.head_eq_of_cons_eq h)
      have hc : c.len = c'.len := by rw [arity_of_isNil hf.1, arity_of_isNil hg.1, hleaf]
      obtain ⟨rfl, hs⟩ := ihc c' _ _ hf.2.1 hg.2.1 hc (List.tail_eq_of_cons_eq h)
      obtain ⟨rfl, hr⟩ := ihs s' _ _ hf.2.2 hg.2.2 (Nat.add_left_cancel hl) hs
      exact ⟨by rw [hk], hr⟩

theorem decAscii_of_lt (n : Nat) (h : n < 10) : decAscii n = [48 + n] := by
  rw [decAscii, dif_pos h]

theorem decAscii_of_ge (n : Nat) (h : ¬ n < 10) : decAscii n = decAscii (n / 10) ++ [48 + n % 10] := by
  rw [decAscii, dif_neg h]

/-- `big.Int.String()` writes what `strconv.FormatUint` writes -/
theorem decAscii_eq (n : Nat) : decAscii n = C20.fmtNat n := by
  induction n using decAscii.induct with
  | case1 n h => rw [decAscii_of_lt n h, C20.fmtNat_digit h, Nat.add_comm]
  | case2 n h ih => rw [decAscii_of_ge n h, ih, C20.fmtNat_ge h, Nat.add_comm]

/-- decimal digits are the ASCII codes `0`…`9` (in particular no comma, no bracket) -/
theorem decAscii_digits (n : Nat) : ∀ c ∈ decAscii n, 48 ≤ c ∧ c ≤ 57 := fun c hc =>
  C20.isDigit_iff.mp (C20.fmtNat_digits n c (decAscii_eq n ▸ hc))

/-- the decimal text form determines the number -/
theorem decAscii_injective {a b : Nat} (h : decAscii a = decAscii b) : a = b :=
  C20.fmtNat_inj.mp (decAscii_eq a ▸ decAscii_eq b ▸ h)

theorem mul_add_inj {P A B x y : Nat} (hx : x < P) (hy : y < P) (h : A * P + x = B * P + y) :
    A = B ∧ x = y := by
  have hm : x = y := by
    have := congrArg (· % P) h
    rwa [Nat.mul_add_mod_self_right, Nat.mul_add_mod_self_right, Nat.mod_eq_of_lt hx, Nat.mod_eq_of_lt hy] at this
  subst hm
  exact ⟨Nat.eq_of_mul_eq_mul_right (Nat.zero_lt_of_lt hx) (Nat.add_right_cancel h), rfl⟩

theorem beNat_snoc (l : Bytes) (x : Nat) : beNat (l ++ [x]) = beNat l * 256 + x :=
  List.foldl_append ..

theorem beNat_lt (l : Bytes) (h : IsBytes l) : beNat l < 256 ^ l.length := by
  induction l using List.snoc_induction with
  | nil => exact Nat.one_pos
  | snoc l x ih =>
    rw [beNat_snoc, List.length_append, List.length_singleton, Nat.pow_succ]
    calc beNat l * 256 + x < beNat l * 256 + 256 := Nat.add_lt_add_left (h x (List.mem_append_right _ List.mem_cons_self)) _
      _ = (beNat l + 1) * 256 := (Nat.succ_mul ..).symm
      _ ≤ 256 ^ l.length * 256 := Nat.mul_le_mul_right _ (ih fun z hz => h z (List.mem_append_left _ hz))

/-- the big-endian value determines a byte string of known length -/
theorem beNat_injective : ∀ (a b : Bytes), a.length = b.length → IsBytes a → IsBytes b → beNat a = beNat b → a = b := by
  intro a
  induction a using List.snoc_induction with
  | nil => exact fun b hl _ _ _ => (List.eq_nil_of_length_eq_zero hl.symm).symm
  | snoc a x ih =>
    intro b hl ha hb h
    rcases List.eq_nil_or_concat b with rfl | ⟨b, y, rfl⟩
    · rw [List.length_append] at hl; cases hl
    · rw [List.concat_eq_append] at hl hb h ⊢
      rw [List.length_append, List.length_append] at hl
      rw [beNat_snoc, beNat_snoc] at h
      obtain ⟨e, rfl⟩ := mul_add_inj (ha x (List.mem_append_right _ List.mem_cons_self))
        (hb y (List.mem_append_right _ List.mem_cons_self)) h
      rw [ih b (Nat.add_right_cancel hl) (fun z hz => ha z (List.mem_append_left _ hz))
        (fun z hz => hb z (List.mem_append_left _ hz)) e]

/-- characters from `0` on are digits and letters: no comma (44) among them, so the first comma ends the field `a` -/
theorem comma_pair_inj {pre suf a a' b b' : Bytes} (ha : ∀ c ∈ a, 48 ≤ c) (ha' : ∀ c ∈ a', 48 ≤ c)
    (h : pre ++ (a ++ (ascii "," ++ (b ++ suf))) = pre ++ (a' ++ (ascii "," ++ (b' ++ suf)))) : a = a' ∧ b = b' := by
  have nocomma : ∀ {t : Bytes}, (∀ c ∈ t, 48 ≤ c) → 44 ∉ t := fun ht m => absurd (ht 44 m) (by decide)
  rw [show ascii "," = [44] by decide] at h
  obtain ⟨e, hr⟩ := List.append_cons_inj_of_not_mem (nocomma ha) (nocomma ha') (List.append_cancel_left h)
  exact ⟨e, List.append_cancel_right hr⟩

theorem svcRegister_some {H : HashFns} {reg r : List SvcEntry} {name id : Bytes} {suite : Option String}
    (h : svcRegister H reg name suite = (some r, id)) :
    r = reg ++ [{ name := name, suite := suite, id := serviceId H name }] ∧ id = serviceId H name := by
  unfold svcRegister at h
  split at h
  · exact ⟨(Option.some.inj (Prod.mk.inj h).1).symm, (Prod.mk.inj h).2.symm⟩
  · cases (Prod.mk.inj h).1

end C13

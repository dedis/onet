import OnetVerif.Proofs.C07
import OnetVerif.Model.C07Locks
/-! Well-nested lock traces (`Model/C07Locks.lean`): `Closed h tr` — the trace gives back the stack of held locks it
started with — composes along `++`, `within` and `if`. -/
namespace C07

/-- a sequence that gives back the stack of held locks it started with -/
def Closed (held : List Lock) (tr : List LEv) : Prop := nest held tr = some held

theorem nest_append (h : List Lock) (a b : List LEv) :
    nest h (a ++ b) = (nest h a).bind (fun h' => nest h' b) := by
  induction a generalizing h with
  | nil => rfl
  | cons e a ih =>
    cases e with
    | acq l =>
      simp only [List.cons_append, nest]
      split
      · rfl
      · split
        · exact ih _
        · rfl
    | rel l =>
      cases h with
      | nil => rfl
      | cons x rest =>
        simp only [List.cons_append, nest]
        split
        · exact ih _
        · rfl
    | send =>
      simp only [List.cons_append, nest]
      split
      · exact ih _
      · rfl

theorem closed_send : Closed [] [.send] := rfl

theorem closed_nil (h : List Lock) : Closed h [] := rfl

theorem closed_append {h : List Lock} {a b : List LEv} (ha : Closed h a) (hb : Closed h b) : Closed h (a ++ b) := by
  unfold Closed at *; rw [nest_append, ha]; exact hb

theorem closed_within {h : List Lock} {l : Lock} {inner : List LEv}
    (hr : h.all (fun x => rank x < rank l) = true) (hi : Closed (l :: h) inner) : Closed h (within l inner) := by
  have hn : l ∉ h := fun hm => Nat.lt_irrefl _ (of_decide_eq_true (List.all_eq_true.mp hr l hm))
  unfold Closed within at *
  simp only [List.cons_append, List.nil_append, nest, hn, hr, if_false, if_true]
  rw [nest_append, hi]
  simp [nest]

/-- a leaf lock (rank 2) can be taken and released under any of the stacks that occur -/
theorem closed_leaf (h : List Lock) (l : Lock) (hl : rank l = 2) (hh : h.all (fun x => rank x < 2) = true) :
    Closed h (within l []) :=
  closed_within (hl ▸ hh) (closed_nil _)

theorem closed_ts (h : List Lock) (hh : h.all (fun x => rank x < 2) = true) : Closed h tsOp := closed_leaf h .store rfl hh
theorem closed_pm (h : List Lock) (hh : h.all (fun x => rank x < 2) = true) : Closed h pmOp := closed_leaf h .pendingMsg rfl hh
theorem closed_cfg (h : List Lock) (hh : h.all (fun x => rank x < 2) = true) : Closed h cfgOp := closed_leaf h .pendingCfg rfl hh
theorem closed_q (h : List Lock) (hh : h.all (fun x => rank x < 2) = true) : Closed h qOp := closed_leaf h .queue rfl hh

theorem closed_ite {h : List Lock} {c : Prop} [Decidable c] {a b : List LEv} (ha : Closed h a) (hb : Closed h b) :
    Closed h (if c then a else b) :=
  ite_ind id (fun _ => ha) fun _ => hb

theorem closed_clean (h : List Lock) (hh : h.all (fun x => rank x < 2) = true) (s : Srv) (t : TRef) :
    Closed h (cleanTr s t) :=
  closed_ite (closed_nil _) (closed_ts h hh)

theorem closed_inst_mux {inner : List LEv} (hi : Closed [.instances, .transmitMux] inner) :
    Closed [.transmitMux] (within .instances inner) :=
  closed_within rfl hi

theorem closed_create : Closed [.transmitMux] createTr :=
  closed_append (closed_append (closed_append (closed_inst_mux (closed_nil _)) (closed_ts _ rfl)) (closed_pm _ rfl))
    (closed_cfg _ rfl)

/-- **`TransmitMsg` is well nested and ordered** in every state, for every destination token -/
theorem closed_transmit (s : Srv) (to : Tok) : Closed [] (transmitTr s to) :=
  have i0 : Closed [.transmitMux] (within .instances []) := closed_inst_mux (closed_nil _)
  have hand : Closed [.transmitMux] bindHandTr := closed_append i0 (closed_q _ rfl)
  have crea := closed_append i0 closed_create
  have full : Closed [.transmitMux] (within .instances [] ++ createTr ++ bindHandTr) := closed_append crea hand
  have cln : ∀ X t, Closed [.transmitMux] (within .instances (cleanTr X t)) := fun X t =>
    closed_inst_mux (closed_clean _ rfl X t)
  -- creation, then `newProtocol` fails: `nodeDelete` under `instancesLock`
  have fail : ∀ X t, Closed [.transmitMux] (within .instances [] ++ createTr ++ within .instances (qOp ++ cleanTr X t)) :=
    fun X t => closed_append crea (closed_inst_mux (closed_append (closed_q _ rfl) (closed_clean _ rfl X t)))
  closed_append (closed_ts [] rfl) <| closed_within rfl <|
    match to with
    | .none => closed_nil _
    | .zero => i0
    | .badNode => closed_append i0 (cln _ _)
    | .done => closed_ite (cln _ _) (closed_ite hand full)
    | .run | .fresh _ => closed_ite hand full
    | .badProto _ => closed_ite (cln _ _) (fail _ _)
    | .badProtoNew _ => fail _ _

theorem closed_flushBody (l : List (Tok × Frm × Body)) (s : Srv) : Closed [] (flushBody s l) := by
  induction l generalizing s with
  | nil => exact closed_nil _
  | cons x l ih => exact closed_append (closed_transmit s x.1) (ih _)

theorem closed_sendTree (s : Srv) (tm : Option TM) (ro : Option Ro) : Closed [] (sendTreeTr s tm ro) :=
  have t := closed_ts [] rfl
  match tm, ro with
  | none, _ => closed_nil _
  | some _, none => closed_ite (closed_nil _) (closed_nil _)
  | some _, some _ => closed_ite (closed_nil _) (closed_ite t (closed_ite (closed_append t t) t))

theorem closed_instLoop (n : Nat) : Closed [.instances] (instLoop n) := by
  induction n with
  | zero => exact closed_nil _
  | succ n ih => exact closed_append (closed_ts _ rfl) ih

theorem closed_pendingLoop (ro : Ro) (l : List TM) (s : Srv) : Closed [.pendingTree] (pendingLoopTr ro s l) := by
  have t := closed_ts [.pendingTree] rfl
  induction l generalizing s with
  | nil => exact closed_nil _
  | cons tm l ih =>
    exact closed_ite (closed_append t (ih _))
      (closed_ite (closed_append (closed_append t t) (ih _)) (closed_append t (ih _)))

end C07

import OnetVerif.Model.C19Net
import OnetVerif.Proofs.Sched
/-! C19 helper lemmas for the monitor's network side.  Every step of `Net.step` replaces one connection of the list;
`Net.Step.of_step` says by what, and the effect on what is still to deliver, the invariant and the decreasing weight are
read off it; only `quiescent` goes through `Net.step` itself.  Core only. -/
namespace C19

/-- `Interleave parts out`: `out` is an arrival order of the measures that the reporting
connections sent, connection i having sent `parts[i]` in that order -/
inductive Interleave {μ : Type} : List (List μ) → List μ → Prop
  | done (parts : List (List μ)) (h : ∀ p ∈ parts, p = []) : Interleave parts []
  | step (pre post : List (List μ)) (x : μ) (rest out : List μ) :
      Interleave (pre ++ rest :: post) out → Interleave (pre ++ (x :: rest) :: post) (x :: out)

theorem interleave_perm {μ : Type} (parts : List (List μ)) (out : List μ) (h : Interleave parts out) :
    out.Perm parts.flatten := by
  induction h with
  | done parts h => rw [List.flatten_eq_nil_iff.mpr h]
  | step pre post x rest out _ ih =>
    simp only [List.flatten_append, List.flatten_cons] at ih ⊢
    refine (List.Perm.cons x ih).trans ?_
    exact (List.perm_middle (a := x) (l₁ := pre.flatten) (l₂ := rest ++ post.flatten)).symm

section conn
variable {κ α : Type}

/-- the moves of one connection in which the bookkeeping of `Listen` (`m.conns`, the listener) has no part; `d` is the
record handed to the `Listen` loop -/
inductive Conn.Step (isEnd : κ → Bool) (c : Conn κ α) : Option (Measure κ α) → Conn κ α → Prop
  | write {m f} : c.future = m :: f → c.closed = false →
      Step isEnd c none { c with input := c.input ++ [m], future := f }
  | hangup : c.future = [] → c.closed = false → Step isEnd c none { c with closed := true }
  | drop {m rest} : c.accepted = true → c.gone = false → c.held = none → c.input = m :: rest →
      isEnd m.name = true → Step isEnd c none { c with input := rest }
  | decode {m rest} : c.accepted = true → c.gone = false → c.held = none → c.input = m :: rest →
      isEnd m.name = false → Step isEnd c none { c with input := rest, held := some m }
  | deliver {m} : c.held = some m → Step isEnd c (some m) { c with held := none }

theorem Conn.Step.remaining {isEnd : κ → Bool} {c c' : Conn κ α} {d : Option (Measure κ α)}
    (h : c.Step isEnd d c') : c.remaining isEnd = d.toList ++ c'.remaining isEnd := by
  cases h with
  | @write m f hf _ =>
    have hf' : c.future = [m] ++ f := hf
    simp only [Conn.remaining, noEnd, hf', List.filter_append, List.append_assoc, Option.toList_none,
      List.nil_append]
  | hangup _ _ => rfl
  | drop _ _ hh hi he => simp [Conn.remaining, noEnd, hh, hi, he]
  | decode _ _ hh hi he => simp [Conn.remaining, noEnd, hh, hi, he]
  | deliver hh => simp [Conn.remaining, hh]

theorem Conn.Step.weight {isEnd : κ → Bool} {c c' : Conn κ α} {d : Option (Measure κ α)}
    (h : c.Step isEnd d c') : c'.weight < c.weight := by
  cases h with
  | write hf _ => simp [Conn.weight, hf]; omega
  | hangup _ hcl => simp [Conn.weight, hcl]
  | drop _ _ _ hi _ => simp [Conn.weight, hi]
  | decode _ _ hh hi _ => simp [Conn.weight, hh, hi]; omega
  | deliver hh => simp [Conn.weight, hh]

theorem Conn.Step.flags {isEnd : κ → Bool} {c c' : Conn κ α} {d : Option (Measure κ α)}
    (h : c.Step isEnd d c') : c'.accepted = c.accepted ∧ c'.gone = c.gone := by
  cases h <;> exact ⟨rfl, rfl⟩

/-- what holds of a connection in every reachable state -/
structure Conn.WF (c : Conn κ α) : Prop where
  gone : c.gone = true → c.accepted = true ∧ c.closed = true ∧ c.held = none ∧ c.input = []
  closed : c.closed = true → c.future = []

theorem Conn.Step.wf {isEnd : κ → Bool} {c c' : Conn κ α} {d : Option (Measure κ α)}
    (h : c.Step isEnd d c') (hw : c.WF) : c'.WF := by
  have hng : c.gone = false := by
    cases hg : c.gone with
    | false => rfl
    | true =>
      obtain ⟨_, hcl, hh, hi⟩ := hw.gone hg
      cases h with
      | write _ h1 | hangup _ h1 => rw [hcl] at h1; cases h1
      | drop _ h1 | decode _ h1 => rw [hg] at h1; cases h1
      | deliver h1 => rw [hh] at h1; cases h1
  refine ⟨fun hg => ?_, fun hcl => ?_⟩
  · rw [h.flags.2, hng] at hg; cases hg
  · cases h with
    | write _ h1 => rw [show c.closed = true from hcl] at h1; cases h1
    | hangup hf _ => exact hf
    | drop | decode | deliver => exact hw.closed hcl

/-- what holds of the monitor in every state reachable from "no connection accepted yet" -/
structure Net.WF (n : Net κ α) : Prop where
  conns : ∀ c ∈ n.conns, c.WF
  fin : n.finished = true → ∀ c ∈ n.conns, c.accepted = true → c.gone = true
  notfin : n.finished = false →
    (∀ c ∈ n.conns, c.accepted = false) ∨ (∃ c ∈ n.conns, c.accepted = true ∧ c.gone = false)

/-- what the steps keep; `Net.WF`, the form `quiescent` takes, follows from it (`Net.Inv.wf`) -/
structure Net.Inv (n : Net κ α) : Prop where
  conns : ∀ c ∈ n.conns, c.WF
  fin : n.finished = (n.conns.any (·.accepted) && n.conns.all fun c => !c.accepted || c.gone)

theorem Net.Inv.wf {n : Net κ α} (h : n.Inv) : n.WF := by
  refine ⟨h.conns, fun hf c hc ha => ?_, fun hf => ?_⟩
  · have := h.fin ▸ hf
    simp only [Bool.and_eq_true, List.all_eq_true] at this
    simpa [ha] using this.2 c hc
  · have := h.fin ▸ hf
    simp only [Bool.and_eq_false_iff, List.any_eq_false, List.all_eq_false] at this
    rcases this with h0 | ⟨c, hc, hp⟩
    · exact .inl fun c hc => Bool.eq_false_iff.mpr (h0 c hc)
    · refine .inr ⟨c, hc, ?_⟩
      simpa using hp

theorem Net.Inv.init (mon : Monitor κ α) (futures : List (List (Measure κ α))) : (Net.start mon futures).Inv := by
  refine ⟨fun c hc => ?_, ?_⟩
  · obtain ⟨f, _, rfl⟩ := List.mem_map.mp hc
    exact ⟨fun h => (nomatch h), fun h => (nomatch h)⟩
  · simp [Net.start]

theorem start_remaining (isEnd : κ → Bool) (mon : Monitor κ α) (futures : List (List (Measure κ α))) :
    (Net.start mon futures).conns.map (Conn.remaining isEnd) = futures.map (noEnd isEnd) := by
  rw [Net.start, List.map_map]
  rfl

theorem start_weight (mon : Monitor κ α) (futures : List (List (Measure κ α))) :
    (Net.start mon futures).weight = (futures.map fun f => 3 * f.length + 3).sum := by
  rw [Net.weight, Net.start, List.map_map]
  rfl

end conn

section net
variable {κ α : Type} [Num α] [KeyOrd κ] [DecidableEq κ]

/-- one connection of the list is replaced.  There is no converse to `Net.Step.of_step`: `deliver` and `eof` are allowed
here also after `Listen` has returned, which `Net.step` refuses -/
inductive Net.Step (isEnd : κ → Bool) (n : Net κ α) : Net κ α → Prop
  | accept {pre c post} : n.conns = pre ++ c :: post → n.finished = false → c.accepted = false →
      Step isEnd n { n with conns := pre ++ { c with accepted := true } :: post }
  | move {pre c post d c'} : n.conns = pre ++ c :: post → c.Step isEnd d c' →
      Step isEnd n { n with mon := d.elim n.mon n.mon.update, conns := pre ++ c' :: post }
  | eof {pre c post} : n.conns = pre ++ c :: post → c.accepted = true → c.gone = false → c.held = none →
      c.input = [] → c.closed = true →
      Step isEnd n { n with conns := pre ++ { c with gone := true } :: post,
                            finished := (pre ++ { c with gone := true } :: post).all fun c => !c.accepted || c.gone }

theorem Net.Step.of_step {isEnd : κ → Bool} {n n1 : Net κ α} {a : Act} (h : n.step isEnd a = some n1) :
    n.Step isEnd n1 := by
  have move : ∀ {i c d c'}, n.conns[i]? = some c → c.Step isEnd d c' →
      n.Step isEnd { n with mon := d.elim n.mon n.mon.update, conns := n.conns.set i c' } := fun hc hs =>
    let ⟨_, _, hl, hset⟩ := List.getElem?_split hc; hset _ ▸ .move hl hs
  revert h
  -- a test `if g then none else …` of `Net.step` arrives as the hypothesis `¬ g = true`
  fun_cases Net.step isEnd n a <;> rintro ⟨⟩
  · next hc hg =>
    obtain ⟨pre, post, hl, hs⟩ := List.getElem?_split hc
    simp only [Bool.or_eq_true, not_or, Bool.not_eq_true] at hg
    rw [hs]; exact .accept hl hg.1 hg.2
  · next hc _ _ hf hcl => exact move hc (.write hf (eq_false_of_ne_true hcl))
  · next hc hg =>
    simp only [Bool.or_eq_true, not_or, Bool.not_eq_true, Bool.not_eq_false', List.isEmpty_iff] at hg
    exact move hc (.hangup hg.2 hg.1)
  · next hc hg _ _ hi hh he =>
    simp only [Bool.or_eq_true, not_or, Bool.not_eq_true, Bool.not_eq_eq_eq_not, Bool.not_true, Bool.not_eq_false] at hg
    exact move hc (.drop hg.1 hg.2 hh hi he)
  · next hc hg _ _ hi hh he =>
    simp only [Bool.or_eq_true, not_or, Bool.not_eq_true, Bool.not_eq_eq_eq_not, Bool.not_true, Bool.not_eq_false] at hg
    exact move hc (.decode hg.1 hg.2 hh hi (eq_false_of_ne_true he))
  · next _ _ hc _ hh => exact move hc (.deliver hh)
  · next _ _ hc hg conns =>
    simp only [Bool.or_eq_true, not_or, Bool.not_eq_true, Bool.not_eq_eq_eq_not, Bool.not_true, Bool.not_eq_false,
      Option.isSome_eq_false_iff, Option.isNone_iff_eq_none, List.isEmpty_iff] at hg
    obtain ⟨⟨⟨⟨ha, hg⟩, hh⟩, hi⟩, hcl⟩ := hg
    obtain ⟨pre, post, hl, hs⟩ := List.getElem?_split hc
    simp only [conns, hs]; exact .eof hl ha hg hh hi hcl

theorem step_effect {isEnd : κ → Bool} {n n1 : Net κ α} {a : Act} (h : n.step isEnd a = some n1) :
    ∃ (d : Option (Measure κ α)) (pre : _) (R : _) (post : _), n1.mon = d.elim n.mon n.mon.update ∧
      n.conns.map (Conn.remaining isEnd) = pre ++ (d.toList ++ R) :: post ∧
      n1.conns.map (Conn.remaining isEnd) = pre ++ R :: post := by
  cases Net.Step.of_step h with
  | @accept pre c post hl | @eof pre c post hl =>
    -- `remaining` reads neither `accepted` nor `gone`
    refine ⟨none, pre.map (Conn.remaining isEnd), c.remaining isEnd, post.map (Conn.remaining isEnd), rfl, ?_, ?_⟩
    · rw [hl, List.map_append]; rfl
    · rw [List.map_append]; rfl
  | @move pre c post d c' hl hs =>
    refine ⟨d, pre.map (Conn.remaining isEnd), c'.remaining isEnd, post.map (Conn.remaining isEnd), rfl, ?_, ?_⟩
    · rw [hl, List.map_append, List.map_cons, hs.remaining]
    · rw [List.map_append]; rfl

theorem run_nil {isEnd : κ → Bool} {n n' : Net κ α} : n.run isEnd [] = some n' ↔ n' = n := by
  simp only [Net.run, Option.some.injEq, eq_comm]

theorem run_cons {isEnd : κ → Bool} {n n' : Net κ α} {a : Act} {acts : List Act} :
    n.run isEnd (a :: acts) = some n' ↔ ∃ n1, n.step isEnd a = some n1 ∧ n1.run isEnd acts = some n' := by
  rw [Net.run]
  cases n.step isEnd a <;> simp

theorem run_inv {isEnd : κ → Bool} {P : Net κ α → Prop}
    (hstep : ∀ {n n1 a}, P n → n.step isEnd a = some n1 → P n1) (acts : List Act)
    (n n' : Net κ α) (hn : P n) (h : n.run isEnd acts = some n') : P n' := by
  induction acts generalizing n with
  | nil => cases run_nil.mp h; exact hn
  | cons a acts ih =>
    obtain ⟨n1, hs, hr⟩ := run_cons.mp h
    exact ih n1 (hstep hn hs) hr

/-- **every schedule**: if a run ends with nothing left to deliver, the monitor has been updated
with the connections' records in an order that is an interleaving of the connections' sequences -/
theorem run_interleave (isEnd : κ → Bool) (acts : List Act) (n n' : Net κ α)
    (h : n.run isEnd acts = some n') (hdone : ∀ c ∈ n'.conns, c.remaining isEnd = []) :
    ∃ out, n'.mon = out.foldl Monitor.update n.mon ∧
      Interleave (n.conns.map (Conn.remaining isEnd)) out := by
  induction acts generalizing n with
  | nil =>
    cases run_nil.mp h
    exact ⟨[], rfl, .done _ (List.forall_mem_map.mpr hdone)⟩
  | cons a acts ih =>
    obtain ⟨n1, hs, hr⟩ := run_cons.mp h
    obtain ⟨out, ho, hi⟩ := ih n1 hr
    obtain ⟨d, pre, R, post, hm, hc, hc1⟩ := step_effect hs
    rw [hc1] at hi
    rw [hc, ho, hm]
    cases d with
    | none => exact ⟨out, rfl, hi⟩
    | some m => exact ⟨m :: out, rfl, .step pre post m R out hi⟩

theorem step_weight {isEnd : κ → Bool} {n n1 : Net κ α} {a : Act} (h : n.step isEnd a = some n1) :
    n1.weight < n.weight := by
  have key : ∀ {pre post : List (Conn κ α)} {c c'}, c'.weight < c.weight →
      ((pre ++ c' :: post).map Conn.weight).sum < ((pre ++ c :: post).map Conn.weight).sum := by
    intro pre post c c' hlt
    simp only [List.map_append, List.map_cons, List.sum_append, List.sum_cons]
    omega
  rw [Net.weight, Net.weight]
  cases Net.Step.of_step h with
  | accept hl _ ha => rw [hl]; exact key (by simp [Conn.weight, ha])
  | move hl hs => rw [hl]; exact key hs.weight
  | eof hl _ hg => rw [hl]; exact key (by simp [Conn.weight, hg])

/-- a run of `k` actions consumes at least `k` units of weight: no schedule is longer than the
weight of its first state -/
theorem run_length (isEnd : κ → Bool) (acts : List Act) (n n' : Net κ α)
    (h : n.run isEnd acts = some n') : n'.weight + acts.length ≤ n.weight := by
  induction acts generalizing n with
  | nil => cases run_nil.mp h; exact Nat.le_refl _
  | cons a acts ih =>
    obtain ⟨n1, hs, hr⟩ := run_cons.mp h
    have := ih n1 hr
    have := step_weight hs
    rw [List.length_cons]
    omega

theorem Net.Inv.step {isEnd : κ → Bool} {n n1 : Net κ α} {a : Act} (hw : n.Inv) (h : n.step isEnd a = some n1) :
    n1.Inv := by
  have wf_of : ∀ {pre c post}, n.conns = pre ++ c :: post → c.WF := fun hl => hw.conns _ (by rw [hl]; simp)
  have hfin := hw.fin
  -- `fin` by evaluating `any` and `all` over `pre ++ c' :: post`: accepted with the listener open, so not gone, so `all` is
  -- false; a move changes neither flag; `eof` assigns `all …` of the new list, in which `c` is accepted, so `any` is true
  cases Net.Step.of_step h with
  | @accept pre c post hl hf ha =>
    have hcw := wf_of hl
    have hng : c.gone = false := by
      cases hg : c.gone with
      | false => rfl
      | true => rw [(hcw.gone hg).1] at ha; cases ha
    refine ⟨List.forall_replace ⟨fun hg => ?_, hcw.closed⟩ (hl ▸ hw.conns), ?_⟩
    · rw [show c.gone = true from hg] at hng; cases hng
    · simp [hf, hng]
  | move hl hs =>
    refine ⟨List.forall_replace (hs.wf (wf_of hl)) (hl ▸ hw.conns), ?_⟩
    rw [hl] at hfin
    simpa [hs.flags.1, hs.flags.2] using hfin
  | eof hl ha hg hh hi hcl =>
    refine ⟨List.forall_replace ⟨fun _ => ⟨ha, hcl, hh, hi⟩, (wf_of hl).closed⟩ (hl ▸ hw.conns), ?_⟩
    simp [ha]

/-- **nothing is stuck**: in a reachable state in which no action is enabled, every client has written
everything and closed; every accepted connection has been read to its end, all its records have been
handed to the monitor and `Listen` has been told; if any connection was accepted, `Listen` has
returned; a connection that was never accepted can only be left over because the listener was closed
before its turn (a client that arrives after all earlier ones have left). -/
theorem quiescent (isEnd : κ → Bool) (n : Net κ α) (hw : n.WF) (hq : n.canMove isEnd = false) :
    (∀ c ∈ n.conns, c.closed = true ∧ c.future = []) ∧
    (∀ c ∈ n.conns, c.accepted = true → c.gone = true ∧ c.remaining isEnd = []) ∧
    (∀ c ∈ n.conns, c.accepted = false → n.finished = true) ∧
    ((∃ c ∈ n.conns, c.accepted = true) → n.finished = true) := by
  have stuck : ∀ {i : Nat} {c : Conn κ α}, n.conns[i]? = some c →
      ∀ a ∈ [Act.accept i, .write i, .hangup i, .decode i, .deliver i, .eof i], (n.step isEnd a).isSome = true → False := by
    intro i c hc a ha h
    have h1 := List.any_eq_false.mp hq i (List.mem_range.mpr (List.getElem?_eq_some_iff.mp hc).1)
    exact List.any_eq_false.mp (Bool.eq_false_iff.mpr h1) a ha h
  have conn : ∀ c ∈ n.conns, (c.closed = true ∧ c.future = []) ∧ (c.accepted = false → n.finished = true) ∧
      (c.accepted = true → n.finished = false → c.gone = true) := by
    intro c hc
    obtain ⟨i, hi⟩ := List.mem_iff_getElem?.mp hc
    have hcl : c.closed = true ∧ c.future = [] := by
      cases hcl : c.closed with
      | true => exact ⟨rfl, (hw.conns c hc).closed hcl⟩
      | false =>
        cases hf : c.future with
        | nil => exact (stuck hi (.hangup i) (by simp) (by simp [Net.step, hi, hcl, hf])).elim
        | cons m f => exact (stuck hi (.write i) (by simp) (by simp [Net.step, hi, hcl, hf])).elim
    refine ⟨hcl, fun ha => ?_, fun ha hnf => ?_⟩
    · cases hfin : n.finished with
      | true => rfl
      | false => exact (stuck hi (.accept i) (by simp) (by simp [Net.step, hi, hfin, ha])).elim
    · cases hg : c.gone with
      | true => rfl
      | false =>
        cases hh : c.held with
        | some m => exact (stuck hi (.deliver i) (by simp) (by simp [Net.step, hi, hnf, hh])).elim
        | none =>
          cases hin : c.input with
          | cons m rest =>
            refine (stuck hi (.decode i) (by simp) ?_).elim
            by_cases he : isEnd m.name = true <;> simp [Net.step, hi, ha, hg, hh, hin, he]
          | nil => exact (stuck hi (.eof i) (by simp) (by simp [Net.step, hi, hnf, ha, hg, hh, hin, hcl.1])).elim
  refine ⟨fun c hc => (conn c hc).1, fun c hc ha => ?_, fun c hc => (conn c hc).2.1, fun ⟨c, hc, ha⟩ => ?_⟩
  · have hg : c.gone = true := by
      cases hfin : n.finished with
      | true => exact hw.fin hfin c hc ha
      | false => exact (conn c hc).2.2 ha hfin
    obtain ⟨_, _, hh, hin⟩ := (hw.conns c hc).gone hg
    exact ⟨hg, by rw [Conn.remaining, hh, hin, (conn c hc).1.2]; rfl⟩
  · cases hfin : n.finished with
    | true => rfl
    | false =>
      rcases hw.notfin hfin with h0 | ⟨w, hwm, hwa, hwg⟩
      · rw [h0 c hc] at ha; cases ha
      · rw [(conn w hwm).2.2 hwa hfin] at hwg; cases hwg

theorem step_conns_length {isEnd : κ → Bool} {n n1 : Net κ α} {a : Act} (h : n.step isEnd a = some n1) :
    n1.conns.length = n.conns.length := by
  cases Net.Step.of_step h with
  | accept hl | move hl | eof hl => simp only [hl, List.length_append, List.length_cons]

end net

end C19

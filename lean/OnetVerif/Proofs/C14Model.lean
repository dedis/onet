import OnetVerif.Model.C14
import OnetVerif.Proofs.Sched
import OnetVerif.Proofs.Lists
/-! Property C14 — facts about the model's own functions (`Model/C14.lean`, `Model/C14Par.lean`), none in the vocabulary of
the property.  Of the steps only the concurrent server's is read here (`step_ws`, `step_http`, `wsStep_some`); `kStep`,
`clStep`, `parStep` are taken apart where their invariants are proved, in `Proofs/C14Client.lean`. -/
namespace C14

variable {σ M R O B : Type}

theorem processClientRequest_decoded {svc : WsSvc σ M R} {s : σ} {path : String} {buf : Bytes} {m : M}
    (hreg : svc.registered path = true) (hdec : svc.decode path buf = .ok m) :
    processClientRequest svc s path buf = ((svc.call s path m).1,
      match callBarrier (svc.call s path m).2 with
      | .error (w, fits) => .close w fits
      | .ok rep => match svc.encode rep with
        | none => .close .encode true
        | some b => .reply b) := by
  unfold processClientRequest
  simp only [hreg, hdec, Bool.not_true, Bool.false_eq_true, if_false]
  cases callBarrier (svc.call s path m).2 with
  | error e => rfl
  | ok rep => simp only []; cases svc.encode rep <;> rfl

theorem restHandle_decoded {h : RestH σ O B R} {slot : O} {s : σ} {q : RestReq B} {obj : O}
    (hm : q.method = h.method) (hdec : restDecode h h.zero q = (obj, none)) :
    restHandle h .perRequest slot s q = (slot, restCall h s obj) := by
  unfold restHandle
  simp only [hm, ne_eq, not_true_eq_false, if_false, hdec]

theorem restHandle_perRequest (h : RestH σ O B R) (slot : O) (s : σ) (q : RestReq B) :
    restHandle h .perRequest slot s q = (slot, (restHandle h .perRequest h.zero s q).2) := by
  unfold restHandle
  split
  · rfl
  · simp only []
    split <;> rfl

/-! ### the server under concurrent clients -/

theorem run_skips (cfg : Cfg σ M R O B) : Sched.Skips (step cfg) (run cfg) :=
  ⟨fun _ => rfl, fun y a as => by rw [run]; cases step cfg y a <;> rfl⟩

theorem wsStep_some {svc : WsSvc σ M R} {s s' : σ} {t t' : WsThread} (h : wsStep svc s t = some (s', t')) :
    ∃ b bs, t.closed = false ∧ t.todo = b :: bs ∧ s' = (processClientRequest svc s t.path b).1 ∧
      t' = { t with todo := bs, done := t.done ++ [b], outs := t.outs ++ [(processClientRequest svc s t.path b).2],
                    closed := !(processClientRequest svc s t.path b).2.isReply } := by
  unfold wsStep at h
  cases hc : t.closed with
  | true => rw [hc, if_pos rfl] at h; cases h
  | false =>
    rw [hc] at h
    cases htd : t.todo with
    | nil => rw [htd] at h; cases h
    | cons b bs => rw [htd] at h; cases h; exact ⟨b, bs, rfl, rfl, rfl, rfl⟩

theorem httpStep_isSome (cfg : Cfg σ M R O B) (s : σ) (sl : Nat → O) {t : HttpThread O B R} (h : t.todo ≠ []) :
    (httpStep cfg s sl t).isSome = true := by
  unfold httpStep
  cases htd : t.todo with
  | nil => exact absurd htd h
  | cons kq qs =>
    cases t.decoded with
    | some o => rfl
    | none =>
      simp only []
      split
      · rfl
      · split <;> rfl

theorem wsStep_idle {σ M R : Type} (svc : WsSvc σ M R) (s : σ) (t : WsThread) (h : t.todo = []) :
    wsStep svc s t = none := by
  unfold wsStep
  split
  · rfl
  · simp [h]

theorem step_ws {cfg : Cfg σ M R O B} {y y' : Sys σ O B R} {i : Nat} (h : step cfg y (.ws i) = some y') :
    ∃ t s' t', y.ws[i]? = some t ∧ wsStep cfg.ws y.svc t = some (s', t') ∧
      y' = { y with svc := s', ws := y.ws.set i t' } := by
  simp only [step] at h
  split at h
  · cases h
  · rename_i t ht
    split at h
    · cases h
    · rename_i s' t' hs
      cases h
      exact ⟨t, s', t', ht, hs, rfl⟩

theorem step_http {cfg : Cfg σ M R O B} {y y' : Sys σ O B R} {i : Nat} (h : step cfg y (.http i) = some y') :
    ∃ t s' sl' t', y.http[i]? = some t ∧ httpStep cfg y.svc y.slots t = some (s', sl', t') ∧
      y' = { y with svc := s', slots := sl', http := y.http.set i t' } := by
  simp only [step] at h
  split at h
  · cases h
  · rename_i t ht
    split at h
    · cases h
    · rename_i s' sl' t' hs
      cases h
      exact ⟨t, s', sl', t', ht, hs, rfl⟩

/-! ### the clients -/

theorem clRun_skips (lk : Bool) (f : Bytes → Bytes) : Sched.Skips (clStep lk f) (clRun lk f) :=
  ⟨fun _ => rfl, fun c a as => by rw [clRun]; cases clStep lk f c a <;> rfl⟩

theorem kRun_skips (v : KVariant) (respond : Bytes → Option Bytes) : Sched.Skips (kStep v respond) (kRun v respond) :=
  ⟨fun _ => rfl, fun y a as => by rw [kRun]; cases kStep v respond y a <;> rfl⟩

theorem closeAt_get {conns : List KConn} {c j : Nat} {k : KConn} (h : (closeAt conns c)[j]? = some k) :
    ∃ k0, conns[j]? = some k0 ∧ k.up = k0.up ∧ k.down = k0.down := by
  unfold closeAt at h
  split at h
  · rename_i k1 hk1
    rcases List.getElem?_set_eq h with ⟨rfl, he⟩ | ⟨_, he⟩
    · subst he; exact ⟨k1, hk1, rfl, rfl⟩
    · exact ⟨k, he, rfl, rfl⟩
  · exact ⟨k, h, rfl, rfl⟩

/-- what the deferred part of `Send` does in the code as it is -/
theorem finish_fixed (y : KCl) (i : Nat) (q : Bytes) (l : Nat) (res : Option Bytes) :
    let y' := KCl.finish .fixed y i q l res
    y'.callers = y.callers.set i (q, .finished res) ∧ y'.locks = y.locks.set l false ∧ y'.curLock = y.curLock ∧
    y'.keep = y.keep ∧
    ((res.isSome = true ∧ y'.cur = y.cur ∧ y'.conns = y.conns) ∨
     (y'.cur = none ∧ ((∃ c, y.cur = some c ∧ y'.conns = closeAt y.conns c) ∨ (y.cur = none ∧ y'.conns = y.conns)))) := by
  cases res with
  | none =>
    -- failed: the connection in the map is deleted and closed, the single-use close then finds none (second disjunct)
    cases hc : y.cur with
    | none => cases hk : y.keep <;> simp [KCl.finish, KVariant.fixed, hc, hk]
    | some c => cases hk : y.keep <;> simp [KCl.finish, KVariant.fixed, hc, hk]
  | some r =>
    -- answered: a kept connection stays (first disjunct), a single-use one is closed (second)
    cases hc : y.cur with
    | none => cases hk : y.keep <;> simp [KCl.finish, KVariant.fixed, hc, hk]
    | some c => cases hk : y.keep <;> simp [KCl.finish, KVariant.fixed, hc, hk]

theorem sendToAll_nil {σ α β : Type} (c : Bool) (send : σ → α → σ × Option β) (s : σ) :
    sendToAll c send s [] = (s, [], 0) := rfl

theorem sendToAll_cons_false {σ α β : Type} (send : σ → α → σ × Option β) (s : σ) (e : α) (es : List α) :
    (sendToAll false send s (e :: es)).2.1 = (send s e).2 :: (sendToAll false send (send s e).1 es).2.1 ∧
    (sendToAll false send s (e :: es)).2.2 =
      (sendToAll false send (send s e).1 es).2.2 + (if (send s e).2.isSome then 0 else 1) := by
  simp only [sendToAll]
  cases h : (send s e).2 <;> simp

theorem parRun_skips (lk : Bool) : Sched.Skips (parStep lk) (parRun lk) :=
  ⟨fun _ => rfl, fun p i is => by rw [parRun]; cases parStep lk p i <;> rfl⟩

theorem parInitF_map_some (replies : List Bytes) : parInitF (replies.map some) = parInit replies := by
  simp [parInitF, parInit, List.map_map, Function.comp_def]

/-- `x` is taken only if `0 < x < hi`: bounds that hold of the default and reach from 1 to `hi - 1` hold of the result -/
theorem pick_bounds {x hi d a b : Int} (ha : a ≤ 1) (hb : hi ≤ b + 1) (hd : a ≤ d ∧ d ≤ b) :
    a ≤ (if x > 0 ∧ x < hi then x else d) ∧ (if x > 0 ∧ x < hi then x else d) ≤ b := by
  split
  · omega
  · exact hd

theorem walk_inj {len start p q : Nat} (hp : p < len) (hq : q < len)
    (h : (start + p) % len = (start + q) % len) : p = q := by
  -- `len` divides the difference, which is smaller than `len`
  have key : ∀ {p q : Nat}, p ≤ q → q < len → (start + p) % len = (start + q) % len → p = q := by
    intro p q hle hq h
    have := Nat.sub_mod_eq_zero_of_mod_eq h.symm
    rw [Nat.add_sub_add_left, Nat.mod_eq_of_lt (Nat.lt_of_le_of_lt (Nat.sub_le _ _) hq)] at this
    exact Nat.le_antisymm hle (Nat.le_of_sub_eq_zero this)
  rcases Nat.le_total p q with hle | hle
  · exact key hle hq h
  · exact (key hle hp h.symm).symm

/-- walking a roster without duplicates along a permutation visits no node twice -/
theorem walk_nodup {nodes perm : List Nat} (start : Nat) (hn : nodes.Nodup) (hp : perm.Nodup)
    (hl : ∀ p ∈ perm, p < nodes.length) :
    (perm.map (fun p => nodes.getD ((start + p) % nodes.length) 0)).Nodup := by
  refine List.pairwise_map.mpr (List.Pairwise.imp_of_mem ?_ hp)
  intro a b ha hb hne heq
  have hla := hl a ha
  have hlb := hl b hb
  have hpos : 0 < nodes.length := by omega
  exact hne (walk_inj hla hlb ((List.getD_inj (Nat.mod_lt _ hpos) (Nat.mod_lt _ hpos) hn).mp heq))

theorem permOf_ok (len : Nat) (po : Option ParOpts) (rp : List Nat) (hp : rp.Nodup) (hl : ∀ p ∈ rp, p < len) :
    (permOf len po rp).Nodup ∧ ∀ p ∈ permOf len po rp, p < len := by
  unfold permOf
  cases po with
  | none => exact ⟨hp, hl⟩
  | some o =>
    simp only
    split
    · exact ⟨List.nodup_range, fun p hp => List.mem_range.mp hp⟩
    · exact ⟨hp, hl⟩

theorem getListParams_bounds (len : Int) (po : Option ParOpts) (h : 1 ≤ len) :
    let ps := getListParams len po
    1 ≤ ps.parallel ∧ ps.parallel ≤ ps.askNodes ∧ ps.askNodes ≤ len ∧ 0 ≤ ps.startNode ∧ ps.startNode < len ∧
    ps.parallel ≤ (len + 1) / 2 := by
  have hh : 1 ≤ (len + 1) / 2 ∧ (len + 1) / 2 ≤ len := by omega
  cases po with
  | none =>
    simp only [getListParams]
    generalize (len + 1) / 2 = half at hh ⊢
    omega
  | some o =>
    simp only [getListParams]
    generalize (len + 1) / 2 = half at hh ⊢
    have hp := pick_bounds (x := o.parallel) (hi := half) (d := half) (a := 1) (b := half)
      (Int.le_refl _) (Int.le_add_one (Int.le_refl _)) ⟨hh.1, Int.le_refl _⟩
    have hs := pick_bounds (x := o.startNode) (hi := len) (d := 0) (a := 0) (b := len - 1)
      (by omega) (by omega) ⟨Int.le_refl _, by omega⟩
    generalize (if o.parallel > 0 ∧ o.parallel < half then o.parallel else half) = par at hp ⊢
    generalize (if o.startNode > 0 ∧ o.startNode < len then o.startNode else 0) = start at hs ⊢
    have ha := pick_bounds (x := o.askNodes) (hi := len) (d := len - start) (a := 1) (b := len)
      (Int.le_refl _) (Int.le_add_one (Int.le_refl _)) ⟨by omega, by omega⟩
    generalize (if o.askNodes > 0 ∧ o.askNodes < len then o.askNodes else len - start) = ask at ha ⊢
    split
    · exact ⟨ha.1, Int.le_refl _, ha.2, hs.1, by omega, by omega⟩
    · exact ⟨hp.1, by omega, ha.2, hs.1, by omega, hp.2⟩

/-- the loop collects the first `ask` nodes, in walking order, that are not ignored -/
theorem collect_eq (nodes ignore : List Nat) (start ask : Nat) :
    ∀ (perm acc : List Nat), acc.length < ask →
      collect nodes ignore start ask perm acc =
        (acc ++ (perm.map (fun p => nodes.getD ((start + p) % nodes.length) 0)).filter (fun n => !ignore.contains n)).take ask := by
  intro perm
  induction perm with
  | nil => intro acc h; simp [collect, List.take_of_length_le (Nat.le_of_lt h)]
  | cons p ps ih =>
    intro acc h
    simp only [collect, List.map_cons, List.filter_cons]
    generalize nodes.getD ((start + p) % nodes.length) 0 = node
    generalize (ps.map fun p => nodes.getD ((start + p) % nodes.length) 0).filter (fun n => !ignore.contains n) = rest at ih ⊢
    cases hi : ignore.contains node with
    | true =>
      simp only [if_true, Bool.not_true, Bool.false_eq_true, if_false]
      rw [if_neg (Nat.ne_of_lt h)]
      exact ih acc h
    | false =>
      simp only [Bool.false_eq_true, if_false, Bool.not_false, if_true]
      rw [List.append_cons acc node rest]
      split
      · rename_i hl
        exact (List.take_left' hl).symm
      · rename_i hl
        refine ih _ ?_
        rw [List.length_append, List.length_singleton] at hl ⊢
        omega

theorem walk_surj {n start j : Nat} (hn : 0 < n) (hj : j < n) :
    (start + (j + n - start % n) % n) % n = j := by
  have ha : start % n < n := Nat.mod_lt _ hn
  rw [Nat.add_mod, Nat.mod_mod]
  generalize start % n = a at *
  rw [Nat.add_mod_mod]
  have : a + (j + n - a) = j + n := by omega
  rw [this, Nat.add_mod_right, Nat.mod_eq_of_lt hj]

def ignoreOf : Option ParOpts → List Nat
  | some o => o.ignore
  | none => []

theorem getList_asked_eq (nodes : List Nat) (po : Option ParOpts) (rp : List Nat) (hne : nodes ≠ []) :
    (getList nodes po rp).2 =
      (((permOf nodes.length po rp).map
          (fun p => nodes.getD (((getListParams nodes.length po).startNode.toNat + p) % nodes.length) 0)).filter
        (fun n => !(ignoreOf po).contains n)).take (getListParams nodes.length po).askNodes.toNat := by
  have hlen : 1 ≤ (nodes.length : Int) := by
    have := List.length_pos_iff.mpr hne
    omega
  obtain ⟨h1, h2, _⟩ := getListParams_bounds nodes.length po hlen
  have := collect_eq nodes (ignoreOf po) (getListParams nodes.length po).startNode.toNat
    (getListParams nodes.length po).askNodes.toNat (permOf nodes.length po rp) [] (by rw [List.length_nil]; omega)
  rw [List.nil_append] at this
  rw [← this]
  cases po <;> rfl

/-! ### registration tables -/

theorem foldl_lookup {H T ρ : Type} (add : T → ρ → T) (get : T → Option H) (pick : ρ → Option H)
    (hadd : ∀ t r, get (add t r) = (pick r <|> get t)) (regs : List ρ) (t : T) :
    get (regs.foldl add t) = (regs.reverse.findSome? pick <|> get t) := by
  induction regs generalizing t with
  | nil => simp
  | cons r rs ih =>
    rw [List.foldl_cons, ih, List.reverse_cons, List.findSome?_append, hadd]
    cases rs.reverse.findSome? pick <;> simp

/-! ### what a registration accepts -/

theorem handlerInputCheck_eq_none (g : Sig) :
    handlerInputCheck g = none ↔ g.isFunc = true ∧ g.nIn = 1 ∧ ∃ f, g.in0 = .ptrStruct f := by
  unfold handlerInputCheck
  cases hf : g.isFunc with
  | false => simp
  | true =>
    by_cases hn : g.nIn = 1
    · cases g.in0 <;> simp [hn]
    · simp [hn]

theorem createServiceHandler_eq_none (g : Sig) :
    createServiceHandler g = none ↔
      g.nOut = 2 ∧ (g.out0 = .iface ∨ g.out0 = .ptrStruct) ∧ g.out1Err = true := by
  unfold createServiceHandler
  by_cases hn : g.nOut = 2
  · cases g.out0 <;> cases g.out1Err <;> simp [hn]
  · simp [hn]

theorem registerHandlerCheck_eq_none (g : Sig) :
    registerHandlerCheck g = none ↔ handlerInputCheck g = none ∧ createServiceHandler g = none := by
  unfold registerHandlerCheck
  cases handlerInputCheck g <;> simp

theorem prepareHandlerGET_ok {g : Sig} {k : GetKind} (h : prepareHandlerGET g = .ok k) :
    g.in0 = .ptrStruct (match k with | .empty => .none | .int => .oneInt | .slice => .oneBytes) := by
  unfold prepareHandlerGET at h
  split at h <;> cases h <;> assumption

theorem registerRESTCheck_ok {g : Sig} {method : String} {mn mx : Nat} {k : Option GetKind}
    (h : registerRESTCheck g method mn mx = .ok k) :
    (method = "GET" ∨ method = "POST" ∨ method = "PUT") ∧ mn ≤ mx ∧ 3 ≤ mn ∧ registerHandlerCheck g = none ∧
    if method = "GET" then ∃ k', prepareHandlerGET g = .ok k' ∧ k = some k' else k = none := by
  unfold registerRESTCheck at h
  by_cases hm : method ≠ "GET" ∧ method ≠ "POST" ∧ method ≠ "PUT"
  · rw [if_pos hm] at h; cases h
  rw [if_neg hm] at h
  by_cases h1 : mn > mx
  · rw [if_pos h1] at h; cases h
  rw [if_neg h1] at h
  by_cases h2 : mn < 3
  · rw [if_pos h2] at h; cases h
  rw [if_neg h2] at h
  cases hr : registerHandlerCheck g with
  | some e => rw [hr] at h; cases h
  | none =>
    rw [hr] at h
    refine ⟨?_, Nat.le_of_not_gt h1, Nat.le_of_not_gt h2, rfl, ?_⟩
    · by_cases a : method = "GET"
      · exact Or.inl a
      · by_cases b : method = "POST"
        · exact Or.inr (Or.inl b)
        · exact Or.inr (Or.inr (Classical.not_not.mp fun c => hm ⟨a, b, c⟩))
    · by_cases hg : method = "GET"
      · rw [if_pos hg] at h ⊢
        cases hp : prepareHandlerGET g with
        | error e => rw [hp] at h; cases h
        | ok k' => rw [hp] at h; cases h; exact ⟨k', rfl, rfl⟩
      · rw [if_neg hg] at h ⊢
        cases h; rfl

theorem transform_ret {tag : Bytes} {m : Msg} {r : Reply} (h : transform tag m = .ret r) :
    r = if m.s = sNilReply then { a := 0, s := [], b := [], n := 0, isNil := tag ≠ ackTag }
        else if tag = ackTag then { a := 0, s := [], b := [], n := 0 }
        else { a := m.a, s := m.s ++ tag, b := m.b.reverse, n := m.s.length + m.b.length } := by
  unfold transform at h
  by_cases h1 : m.s = sFail
  · rw [if_pos h1] at h; cases h
  rw [if_neg h1] at h
  by_cases h2 : m.s = sNilReply
  · rw [if_pos h2] at h ⊢; cases h; rfl
  rw [if_neg h2] at h ⊢
  by_cases h3 : m.s = sPanic
  · rw [if_pos h3] at h; cases h
  rw [if_neg h3] at h
  by_cases h4 : m.s = sNil
  · rw [if_pos h4] at h; cases h
  rw [if_neg h4] at h
  by_cases h5 : m.s = sPanicErr
  · rw [if_pos h5] at h; cases h
  rw [if_neg h5] at h
  by_cases h6 : m.s = sPanicInt ∨ m.s = sPanicStruct ∨ m.s = sPanicf
  · rw [if_pos h6] at h; cases h
  rw [if_neg h6] at h
  rw [← apply_ite HandlerResult.ret] at h
  exact (HandlerResult.ret.inj h).symm

/-! ### from the URL to the handler table -/

theorem pattern_prefix_iff (a svc path : List Char) (ha : '/' ∉ a) (hs : '/' ∉ svc) :
    (pattern a).isPrefixOf (clientURL svc path) = true ↔ a = svc := by
  rw [List.isPrefixOf_iff_prefix]
  constructor
  · rintro ⟨t, ht⟩
    -- both sides split at their second `/`, which neither name contains
    simp only [pattern, clientURL, List.cons_append, List.append_assoc, List.cons.injEq, true_and] at ht
    exact (List.append_cons_inj_of_not_mem ha hs ht).1
  · intro h; subst h; exact List.prefix_append _ _

theorem foldl_longer_of_all_eq (svc : List Char) : ∀ (l : List (List Char)), (∀ x ∈ l, x = svc) →
    ∀ b, (b = none ∨ b = some svc) → l.foldl longer b = (if l = [] then b else some svc)
  | [], _, b, _ => rfl
  | x :: l, h, b, hb => by
    have hx : x = svc := h x List.mem_cons_self
    subst hx
    have hstep : longer b x = some x := by
      rcases hb with rfl | rfl
      · rfl
      · simp [longer]
    simp only [List.foldl_cons, hstep]
    rw [foldl_longer_of_all_eq x l (fun y hy => h y (List.mem_cons_of_mem _ hy)) (some x) (Or.inr rfl)]
    simp

end C14

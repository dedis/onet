import OnetVerif.Model.C06
/-! Forests and trees of the C06 model: what a well-formed tree is (`Tree.WF`), what the tree rebuilt from a description is
(`Placed`, `AggOK`), and the facts about `Roster.Search`, `MakeTreeFromList`, `MakeTree` and `computeSubtreeAggregate`
(`makeForest_ok_iff`, `makeForest_error`, `makeTree_ok_iff` stand in `Props/C06.lean`).  Core only. -/
namespace C06

/-- every node sits at a valid roster position that holds exactly its server (with a public key) -/
def NodesOK (ro : List Server) : TN → Prop
  | .nil => True
  | .node _ sid key idx _ c s => ro[idx]? = some ⟨sid, key, false⟩ ∧ NodesOK ro c ∧ NodesOK ro s

/-- a tree as the constructors and generators make it: it carries roster `ro`, has one root, its
nodes point at their servers' roster positions and its aggregates are the computed ones -/
def Tree.WF (t : Tree) (ro : Roster) : Prop :=
  t.roster = some ro ∧ (copyTree t.root).len = 1 ∧ NodesOK ro.list t.root ∧ (aggregate t.root).1 = t.root

theorem Tree.WF.roster {t : Tree} {ro : Roster} (h : t.WF ro) : t.roster = some ro := h.1

/-- the servers of a roster are pairwise distinct -/
def Roster.Distinct (ro : Roster) : Prop := (ro.list.map (·.sid)).Nodup

/-- the forest with every aggregate field cleared -/
def clearAgg : TN → TN
  | .nil => .nil
  | .node nid sid key idx _ c s => .node nid sid key idx 0 (clearAgg c) (clearAgg s)

/-- the servers a description names -/
def sidsOf : TM → List Nat
  | .nil => []
  | .node _ sid c s => sid :: (sidsOf c ++ sidsOf s)

/-- the roster has an entry for the server and that entry carries a public key -/
def Usable (ro : List Server) (sid : Nat) : Prop := ∃ idx e, search ro sid = some (idx, e) ∧ e.nokey = false

/-- every node of a rebuilt forest carries what `Roster.Search` says about its server: the position
of the first entry with that identifier, and that entry's key -/
def Placed (ro : List Server) : TN → Prop
  | .nil => True
  | .node _ sid key idx _ c s =>
    (∃ e, search ro sid = some (idx, e) ∧ e.key = key ∧ e.nokey = false) ∧ Placed ro c ∧ Placed ro s

/-- sum of the keys of all nodes of a forest -/
def keySum : TN → Nat
  | .nil => 0
  | .node _ _ key _ _ c s => key + keySum c + keySum s

/-- every node's aggregate is its key plus the keys of everything below it -/
def AggOK : TN → Prop
  | .nil => True
  | .node _ _ key _ agg c s => agg = key + keySum c ∧ AggOK c ∧ AggOK s

theorem search_cons (x : Server) (xs : List Server) (sid : Nat) :
    search (x :: xs) sid = if x.sid = sid then some (0, x) else (search xs sid).map fun (i, e) => (i + 1, e) := rfl

/-- what `Roster.Search` returns is an entry of the list, at the position returned, with the
identifier asked for — and no earlier entry has that identifier (first match) -/
theorem search_spec : ∀ (l : List Server) (sid idx : Nat) (e : Server), search l sid = some (idx, e) →
    l[idx]? = some e ∧ e.sid = sid ∧ ∀ j, j < idx → ∀ x, l[j]? = some x → x.sid ≠ sid := by
  intro l sid
  induction l with
  | nil => intro idx e h; cases h
  | cons x xs ih =>
    intro idx e h
    rw [search_cons] at h
    split at h
    · next hx => cases h; exact ⟨rfl, hx, fun j hj => absurd hj (Nat.not_lt_zero j)⟩
    · next hx =>
      obtain ⟨⟨i, e'⟩, hs, h⟩ := Option.map_eq_some_iff.mp h
      cases h
      obtain ⟨a1, a2, a3⟩ := ih _ _ hs
      refine ⟨a1, a2, fun j hj y hy => ?_⟩
      cases j with
      | zero => cases hy; exact hx
      | succ j' => exact a3 j' (Nat.lt_of_succ_lt_succ hj) y hy

theorem search_of_distinct : ∀ (l : List Server) (idx : Nat) (e : Server),
    (l.map (·.sid)).Nodup → l[idx]? = some e → search l e.sid = some (idx, e) := by
  intro l
  induction l with
  | nil => intro idx e _ h; cases h
  | cons x xs ih =>
    intro idx e hn h
    rw [List.map_cons, List.nodup_cons] at hn
    rw [search_cons]
    cases idx with
    | zero => cases h; rw [if_pos rfl]
    | succ i =>
      have hne : x.sid ≠ e.sid := fun heq => hn.1 (heq ▸ List.mem_map_of_mem (List.mem_of_getElem? h))
      rw [if_neg hne, ih i e hn.2 h]; rfl

theorem forall_mem_sidsOf_node {P : Nat → Prop} (nid sid : Nat) (c s : TM) :
    (∀ x ∈ sidsOf (.node nid sid c s), P x) ↔ P sid ∧ (∀ x ∈ sidsOf c, P x) ∧ ∀ x ∈ sidsOf s, P x := by
  simp only [sidsOf, List.forall_mem_cons, List.forall_mem_append]

/-- what `MakeTreeFromList` builds: the nodes of the description, in its structure and order, each
placed where `Roster.Search` finds its server -/
theorem makeForest_spec (ro : List Server) :
    ∀ f f', makeForest ro f = .ok f' → copyTree f' = f ∧ Placed ro f' := by
  intro f
  fun_induction makeForest ro f with
  | case1 => intro f' h; cases h; exact ⟨rfl, trivial⟩
  | case6 nid sid c s idx e hs hk c' hc s' hss ihc ihs =>
    intro f' h; cases h
    obtain ⟨c1, c2⟩ := ihc c' hc
    obtain ⟨s1, s2⟩ := ihs s' hss
    exact ⟨by rw [copyTree, c1, s1], ⟨e, hs, rfl, Bool.eq_false_iff.mpr hk⟩, c2, s2⟩
  | _ => intro f' h; cases h

theorem makeTree_some {tm : TreeMarshal} {r : Roster} (h1 : r.id = tm.rosterId) (h2 : tm.children.len = 1) :
    makeTree tm (some r) = (makeForest r.list tm.children).map fun f =>
      { id := tm.treeId, roster := some r, root := (aggregate f).1 } := by
  simp only [makeTree, h1, h2, ne_eq, not_true_eq_false, if_false]
  cases makeForest r.list tm.children <;> rfl

theorem makeTree_none (tm : TreeMarshal) : makeTree tm none = .error .noRoster := rfl

theorem makeTree_rosterId {tm : TreeMarshal} {ro : Roster} (h : ro.id ≠ tm.rosterId) :
    makeTree tm (some ro) = .error .rosterId := if_pos h

theorem makeTree_notOneRoot {tm : TreeMarshal} {ro : Roster} (h1 : ro.id = tm.rosterId) (h2 : tm.children.len ≠ 1) :
    makeTree tm (some ro) = .error .notOneRoot := (if_neg (not_not_intro h1)).trans (if_pos h2)

theorem makeTree_ok_iff_makeForest {tm : TreeMarshal} {ro : Option Roster} {t : Tree} : makeTree tm ro = .ok t ↔
    ∃ r f, ro = some r ∧ r.id = tm.rosterId ∧ tm.children.len = 1 ∧ makeForest r.list tm.children = .ok f ∧
      t = { id := tm.treeId, roster := some r, root := (aggregate f).1 } := by
  constructor
  · intro h
    cases ro with
    | none => cases h
    | some r =>
      by_cases h1 : r.id = tm.rosterId
      · by_cases h2 : tm.children.len = 1
        · rw [makeTree_some h1 h2] at h
          cases hf : makeForest r.list tm.children with
          | error e => rw [hf] at h; cases h
          | ok f => rw [hf] at h; cases h; exact ⟨r, f, rfl, h1, h2, hf, rfl⟩
        · rw [makeTree_notOneRoot h1 h2] at h; cases h
      · rw [makeTree_rosterId h1] at h; cases h
  · rintro ⟨r, f, rfl, h1, h2, hf, rfl⟩
    rw [makeTree_some h1 h2, hf]; rfl

theorem makeTree_ok_ids {tm : TreeMarshal} {ro : Option Roster} {t : Tree} (h : makeTree tm ro = .ok t) :
    t.id = tm.treeId ∧ t.roster = ro ∧ ∃ r, ro = some r ∧ r.id = tm.rosterId := by
  obtain ⟨r, f, rfl, h1, _, _, rfl⟩ := makeTree_ok_iff_makeForest.mp h
  exact ⟨rfl, rfl, r, rfl, h1⟩

theorem newTreeFromMarshal_marshal {B} (cd : Codec B) (hcodec : ∀ x, cd.decTM (cd.encTM x) = some x)
    (t : Tree) (ro : Option Roster) : newTreeFromMarshal cd (marshal cd t) ro = makeTree (makeTreeMarshal t) ro := by
  rw [newTreeFromMarshal, marshal, hcodec]

theorem binaryUnmarshal_binaryMarshal {B} (cd : Codec B) (hcodec2 : ∀ x, cd.decTBM (cd.encTBM x) = some x) (t : Tree) :
    binaryUnmarshal cd (binaryMarshal cd t) = newTreeFromMarshal cd (marshal cd t) t.roster := by
  rw [binaryUnmarshal, binaryMarshal, hcodec2]

theorem aggregate_node (nid sid key idx agg : Nat) (c s : TN) :
    aggregate (.node nid sid key idx agg c s) =
      (.node nid sid key idx (key + (aggregate c).2) (aggregate c).1 (aggregate s).1, key + (aggregate c).2 + (aggregate s).2) := rfl

theorem aggregate_clearAgg (f : TN) : aggregate (clearAgg f) = aggregate f := by
  induction f with
  | nil => rfl
  | node nid sid key idx agg c s ihc ihs => rw [clearAgg, aggregate_node, ihc, ihs]; rfl

theorem aggregate_sum (f : TN) : (aggregate f).2 = keySum f := by
  induction f with
  | nil => rfl
  | node nid sid key idx agg c s ihc ihs => rw [aggregate_node, keySum, ihc, ihs]

theorem aggregate_idem (f : TN) : aggregate (aggregate f).1 = aggregate f := by
  induction f with
  | nil => rfl
  | node nid sid key idx agg c s ihc ihs => rw [aggregate_node, aggregate_node, ihc, ihs]

theorem copyTree_aggregate (f : TN) : copyTree (aggregate f).1 = copyTree f := by
  induction f with
  | nil => rfl
  | node nid sid key idx agg c s ihc ihs => rw [aggregate_node, copyTree, copyTree, ihc, ihs]

theorem nodesOK_aggregate (ro : List Server) (f : TN) (h : NodesOK ro f) : NodesOK ro (aggregate f).1 := by
  induction f with
  | nil => trivial
  | node nid sid key idx agg c s ihc ihs => exact ⟨h.1, ihc h.2.1, ihs h.2.2⟩

theorem placed_aggregate (ro : List Server) (f : TN) (h : Placed ro f) : Placed ro (aggregate f).1 := by
  induction f with
  | nil => trivial
  | node nid sid key idx agg c s ihc ihs => exact ⟨h.1, ihc h.2.1, ihs h.2.2⟩

theorem keySum_aggregate (f : TN) : keySum (aggregate f).1 = keySum f := by
  induction f with
  | nil => rfl
  | node nid sid key idx agg c s ihc ihs => rw [aggregate_node, keySum, keySum, ihc, ihs]

theorem aggOK_aggregate (f : TN) : AggOK (aggregate f).1 := by
  induction f with
  | nil => trivial
  | node nid sid key idx agg c s ihc ihs => exact ⟨by rw [aggregate_sum, keySum_aggregate], ihc, ihs⟩

theorem placed_of_nodesOK (ro : List Server) (hd : (ro.map (·.sid)).Nodup) : ∀ f, NodesOK ro f → Placed ro f := by
  intro f
  induction f with
  | nil => exact fun _ => trivial
  | node nid sid key idx agg c s ihc ihs =>
    exact fun ⟨h1, h2, h3⟩ => ⟨⟨_, search_of_distinct ro idx ⟨sid, key, false⟩ hd h1, rfl, rfl⟩, ihc h2, ihs h3⟩

theorem usable_of_placed (ro : List Server) : ∀ f, Placed ro f → ∀ sid ∈ sidsOf (copyTree f), Usable ro sid := by
  intro f
  induction f with
  | nil => exact fun _ _ h => nomatch h
  | node nid sid key idx agg c s ihc ihs =>
    intro ⟨⟨e, hs, _, hk⟩, hc, hss⟩
    rw [copyTree, forall_mem_sidsOf_node]
    exact ⟨⟨idx, e, hs, hk⟩, ihc hc, ihs hss⟩

theorem nodeEqual_iff : ∀ a b : TN, nodeEqual a b = true ↔ copyTree a = copyTree b := by
  intro a
  induction a with
  | nil => intro b; cases b <;> simp [nodeEqual, copyTree]
  | node nid sid key idx agg c s ihc ihs =>
    intro b
    cases b with
    | nil => simp [nodeEqual, copyTree]
    | node nid' sid' key' idx' agg' c' s' =>
      simp only [nodeEqual, copyTree, Bool.and_eq_true, beq_iff_eq, ihc c', ihs s', TM.node.injEq, and_assoc]

end C06


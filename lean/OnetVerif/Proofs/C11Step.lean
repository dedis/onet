import OnetVerif.Model.C11
import OnetVerif.Proofs.Sched
import OnetVerif.Proofs.Lists
/-! The one-tree model of C11 as a step relation: `Move s a s'` lists the outcomes of `step`, one constructor per enabled
case with the facts its tests established (`ThMove` for an arrival thread), so that a theorem about every step is a `cases`
on the move; and what replacing thread `i` and `flushAll` do to `countP`. -/
namespace C11

theorem run_skips : Sched.Skips step run :=
  ⟨fun _ => rfl, fun s a as => by rw [run]; cases step s a <;> rfl⟩

/-- the index is the thread before the step -/
inductive ThMove (s : St) (i : Nat) : Th → St → Prop
  /-- `getAndRefresh` finds the tree -/
  | hit {tok m : Nat} {pc : Pc} (hpc : pc = .lookup ∨ pc = .flushed) (hp : s.present = true) :
      ThMove s i ⟨tok, m, pc⟩ { s with armed := false, thr := s.thr.set i ⟨tok, m, .found⟩ }
  /-- … or not: `requestTree` -/
  | miss {tok m : Nat} {pc : Pc} (hpc : pc = .lookup ∨ pc = .flushed) (hp : s.present = false) :
      ThMove s i ⟨tok, m, pc⟩ { s with armed := false, requested := true, thr := s.thr.set i ⟨tok, m, .parked⟩ }
  | drop {tok m : Nat} (hm : s.thr.countP holdsMux = 0) (hd : tok ∈ s.doneToks ∨ tok ∉ s.live ∧ badTok tok = true) :
      ThMove s i ⟨tok, m, .found⟩
        { s with armed := if s.live = [] then true else s.armed, thr := s.thr.set i ⟨tok, m, .fin⟩ }
  | hand {tok m : Nat} (hm : s.thr.countP holdsMux = 0) (hd : tok ∉ s.doneToks) (hl : tok ∈ s.live) :
      ThMove s i ⟨tok, m, .found⟩ { s with handed := s.handed ++ [(tok, m)], thr := s.thr.set i ⟨tok, m, .fin⟩ }
  | create {tok m : Nat} (hm : s.thr.countP holdsMux = 0) (hd : tok ∉ s.doneToks) (hl : tok ∉ s.live)
      (hb : badTok tok = false) :
      ThMove s i ⟨tok, m, .found⟩ { s with live := s.live ++ [tok], used := true, thr := s.thr.set i ⟨tok, m, .set⟩ }
  | settle {tok m : Nat} :
      ThMove s i ⟨tok, m, .set⟩
        { s with present := true, armed := false, requested := false,
                 settled := if tok ∈ s.live then s.settled ++ [tok] else s.settled,
                 thr := flushAll (s.thr.set i ⟨tok, m, .bind⟩) }
  | bound {tok m : Nat} :
      ThMove s i ⟨tok, m, .bind⟩
        { s with constructed := s.constructed ++ [tok],
                 handed := if m = 0 then s.handed else s.handed ++ [(tok, m)],
                 thr := s.thr.set i ⟨tok, m, .fin⟩ }

theorem stepTh_move {s s' : St} {i : Nat} {t : Th} (h : stepTh s i t = some s') : ThMove s i t s' := by
  obtain ⟨tok, m, pc⟩ := t
  have look : (pc = .lookup ∨ pc = .flushed) → ThMove s i ⟨tok, m, pc⟩ (lookupStep s i ⟨tok, m, pc⟩) := by
    intro hpc
    unfold lookupStep
    split
    · exact .hit hpc ‹_›
    · exact .miss hpc (Bool.eq_false_iff.2 ‹_›)
  revert h
  -- the branches of `stepTh` in its order; those that give `none` go by `rintro ⟨⟩`
  fun_cases stepTh s i ⟨tok, m, pc⟩ <;> rintro ⟨⟩
  · exact look (.inl ‹_›)       -- at `.lookup`
  · exact look (.inr ‹_›)       -- at `.flushed`
  all_goals subst ‹Th.pc _ = _›
  -- at `.found`: the token is done; is listed; names no node of the tree; else a creation begins
  · exact .drop (Nat.eq_zero_of_not_pos ‹_›) (.inl ‹_›)
  · exact .hand (Nat.eq_zero_of_not_pos ‹_›) ‹_› ‹_›
  · exact .drop (Nat.eq_zero_of_not_pos ‹_›) (.inr ⟨‹_›, ‹_›⟩)
  · exact .create (Nat.eq_zero_of_not_pos ‹_›) ‹_› ‹_› (Bool.eq_false_iff.2 ‹_›)
  · exact .settle
  · exact .bound

inductive Move (s : St) : Act → St → Prop
  | arrive (tok m : Nat) : Move s (.arrive tok m) { s with thr := s.thr ++ [⟨tok, m, .lookup⟩] }
  | thread {i : Nat} {t : Th} {s' : St} (ht : s.thr[i]? = some t) (hs : stepTh s i t = some s') : Move s (.thread i) s'
  | done {tok : Nat} (hs : tok ∈ s.settled) (hr : s.thr.countP (regTok tok) = 0) :
      Move s (.done tok) { s with live := s.live.filter (· != tok), settled := s.settled.filter (· != tok),
                                  doneToks := s.doneToks ++ [tok],
                                  armed := if s.live.filter (· != tok) = [] then true else s.armed }
  | again {tok : Nat} (hn : ¬ (tok ∈ s.settled ∧ s.thr.countP (regTok tok) = 0)) (hd : tok ∈ s.doneToks) :
      Move s (.done tok) s
  | expire (ha : s.armed = true) : Move s .expire { s with present := false, armed := false, requested := false }
  | treeResp (hr : s.requested = true) (hp : s.present = false) :
      Move s .treeResp { s with present := true, armed := false, requested := false, thr := flushAll s.thr }
  | ctorFail {i tok m : Nat} (n : Bool) (ht : s.thr[i]? = some ⟨tok, m, .bind⟩) :
      Move s (.ctorFail i n) { s with live := s.live.filter (· != tok), settled := s.settled.filter (· != tok),
                                      doneToks := s.doneToks ++ [tok], constructed := s.constructed ++ [tok],
                                      armed := if s.live.filter (· != tok) = [] then true else s.armed,
                                      thr := s.thr.set i ⟨tok, m, .fin⟩ }
  | localStart {tok : Nat} (hb : badTok tok = false) (hl : tok ∉ s.live) (hd : tok ∉ s.doneToks)
      (hc : tok ∉ s.constructed) :
      Move s (.localStart tok) { s with live := s.live ++ [tok], used := true, thr := s.thr ++ [⟨tok, 0, .set⟩] }
  | peerReq : Move s .peerReq { s with peerAsked := s.peerAsked + 1,
                                       peerAnswered := if s.present then s.peerAnswered + 1 else s.peerAnswered }
  | refused {tok : Nat} (hs : tok ∈ s.settled) (hr : s.thr.countP (regTok tok) = 0) : Move s (.doneRefused tok) s

theorem step_move {s s' : St} {a : Act} (h : step s a = some s') : Move s a s' := by
  revert h
  -- `rintro ⟨⟩` fails on the branch `stepTh s i t = some s'`, which `.thread` takes as it is
  fun_cases step s a <;> try rintro ⟨⟩
  · exact .arrive _ _
  · exact .thread ‹_›
  · next h _ => exact .done h.1 h.2
  · exact .again ‹_› ‹_›
  · exact .expire ‹_›
  · next h => exact .treeResp h.1 h.2
  · next t ht hpc _ =>
    obtain ⟨tok, m, pc⟩ := t
    cases (hpc : pc = .bind)
    exact .ctorFail _ ht
  · next hn =>
    exact .localStart (Bool.eq_false_iff.2 fun hb => hn (.inl hb)) (fun hl => hn (.inr (.inl hl)))
      (fun hd => hn (.inr (.inr (.inl hd)))) (fun hc => hn (.inr (.inr (.inr hc))))
  · exact .peerReq
  · next h => exact .refused h.1 h.2

theorem thread_move {s s' : St} {i : Nat} {t : Th} (ht : s.thr[i]? = some t) (hs : step s (.thread i) = some s') :
    ThMove s i t s' := by
  cases step_move hs with
  | thread ht' hs' =>
    cases ht.symm.trans ht'
    exact stepTh_move hs'

section counts
variable {p : Th → Bool} {l : List Th} {i : Nat} {t t' : Th}

theorem count_look {tok m : Nat} {pc : Pc} (ht : l[i]? = some ⟨tok, m, pc⟩) (hpc : pc = .lookup ∨ pc = .flushed)
    (hl : p t' = p ⟨tok, m, .lookup⟩) (hf : p t' = p ⟨tok, m, .flushed⟩) : (l.set i t').countP p = l.countP p := by
  rcases hpc with rfl | rfl
  · exact List.count_keep ht hl
  · exact List.count_keep ht hf

theorem at_pos (ht : l[i]? = some t) (t' : Th) : 0 < (l.set i t').countP (at_ t'.pc) :=
  List.countP_pos_iff.2 ⟨t', List.mem_set (List.lt_length_of_getElem? ht) t', beq_self_eq_true _⟩

theorem reg_create {tok m : Nat} (ht : l[i]? = some ⟨tok, m, .found⟩) (x : Nat) :
    (l.set i ⟨tok, m, .set⟩).countP (regTok x) = l.countP (regTok x) + (if tok = x then 1 else 0) := by
  simpa [regTok] using List.countP_set' (p := regTok x) (t' := ⟨tok, m, .set⟩) ht

theorem reg_bound {tok m : Nat} (ht : l[i]? = some ⟨tok, m, .bind⟩) (x : Nat) :
    (l.set i ⟨tok, m, .fin⟩).countP (regTok x) + (if tok = x then 1 else 0) = l.countP (regTok x) := by
  simpa [regTok] using List.countP_set' (p := regTok x) (t' := ⟨tok, m, .fin⟩) ht

theorem flushT_pc (t : Th) : (flushT t).pc ≠ .parked := by
  unfold flushT
  split
  · exact Pc.noConfusion
  · exact ‹_›

theorem count_flush (hp : ∀ tok m, p ⟨tok, m, .flushed⟩ = p ⟨tok, m, .parked⟩) (l : List Th) :
    (flushAll l).countP p = l.countP p := by
  rw [flushAll, List.countP_map]
  refine List.countP_congr fun t _ => ?_
  obtain ⟨tok, m, pc⟩ := t
  unfold Function.comp flushT
  split
  · cases (‹_› : pc = .parked); rw [hp tok m]
  · rfl

theorem flushAll_no_parked (l : List Th) : (flushAll l).countP (at_ .parked) = 0 := by
  rw [List.countP_eq_zero]
  intro t ht
  obtain ⟨u, _, rfl⟩ := List.mem_map.1 ht
  simpa [at_] using flushT_pc u

theorem flushAll_flushed (h : 0 < l.countP (at_ .parked)) : 0 < (flushAll l).countP (at_ .flushed) := by
  obtain ⟨t, ht, hpc⟩ := List.countP_pos_iff.1 h
  refine List.countP_pos_iff.2 ⟨flushT t, List.mem_map_of_mem ht, ?_⟩
  have : t.pc = .parked := by simpa [at_] using hpc
  simp [at_, flushT, this]

end counts

end C11

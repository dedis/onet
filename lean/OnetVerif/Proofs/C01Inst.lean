import OnetVerif.Model.C01
import OnetVerif.Proofs.Sched
import OnetVerif.Proofs.Lists
/-! Property C01, the `transmitMux` region (`Model/C01Inst.lean`): the invariant and the proof that every step keeps
it.  Core-only. -/
namespace C01.Inst

def carries (tok m : Nat) (t : Th) : Bool := t.tok == tok && t.m == m && t.pc != .fin
def atCtor (t : Th) : Bool := t.pc == .ctor

structure Inv (s : St) : Prop where
  /-- the constructor ran at most once per token -/
  nodup : s.created.Nodup
  instCreated : ∀ tok ∈ s.inst, tok ∈ s.created
  createdInst : ∀ tok ∈ s.created, tok ∈ s.inst ∨ s.mux = some tok ∨ tok ∈ s.doneToks
  muxCreated : ∀ tok, s.mux = some tok → tok ∈ s.created ∧ tok ∉ s.inst ∧ tok ∉ s.doneToks
  ctorMux : ∀ t ∈ s.thr, t.pc = .ctor → s.mux = some t.tok
  ctorCount : s.thr.countP atCtor = (if s.mux.isSome then 1 else 0)
  handedInst : ∀ p ∈ s.handed, p.1 ∈ s.inst ∨ p.1 ∈ s.doneToks
  doneCreated : ∀ tok ∈ s.doneToks, tok ∈ s.created ∧ tok ∉ s.inst
  droppedDone : ∀ p ∈ s.dropped, p.1 ∈ s.doneToks
  cons : ∀ tok m, s.arrived.count (tok, m)
      = s.handed.count (tok, m) + s.dropped.count (tok, m) + s.thr.countP (carries tok m)

theorem inv_init : Inv {} := by constructor <;> simp

theorem run_skips : Sched.Skips step run := ⟨fun _ => rfl, fun s a as => by rw [run]; cases step s a <;> rfl⟩

theorem carries_iff {tk mm tok m : Nat} {a : Pc} :
    carries tk mm ⟨tok, m, a⟩ = true ↔ (tok, m) = (tk, mm) ∧ a ≠ .fin := by
  simp [carries, and_assoc]

theorem atCtor_move {l : List Th} {i tok0 m0 : Nat} {a : Pc} (h : l[i]? = some ⟨tok0, m0, a⟩) (b : Pc) :
    (l.set i ⟨tok0, m0, b⟩).countP atCtor + (if a = .ctor then 1 else 0)
      = l.countP atCtor + (if b = .ctor then 1 else 0) := by
  simpa [atCtor] using List.countP_set' (p := atCtor) (t' := ⟨tok0, m0, b⟩) h

theorem carries_stay {l : List Th} {i tok0 m0 : Nat} {a b : Pc} (h : l[i]? = some ⟨tok0, m0, a⟩) (ha : a ≠ .fin)
    (hb : b ≠ .fin) (tk mm : Nat) : (l.set i ⟨tok0, m0, b⟩).countP (carries tk mm) = l.countP (carries tk mm) := by
  have := List.countP_set' (p := carries tk mm) (t' := ⟨tok0, m0, b⟩) h
  simp only [carries_iff, ne_eq, ha, hb, not_false_iff, and_true] at this
  omega

theorem carries_fin {l : List Th} {i tok0 m0 : Nat} {a : Pc} (h : l[i]? = some ⟨tok0, m0, a⟩) (ha : a ≠ .fin)
    (l' : List (Nat × Nat)) (tk mm : Nat) :
    (l' ++ [(tok0, m0)]).count (tk, mm) + (l.set i ⟨tok0, m0, .fin⟩).countP (carries tk mm)
      = l'.count (tk, mm) + l.countP (carries tk mm) := by
  have := List.countP_set' (p := carries tk mm) (t' := ⟨tok0, m0, .fin⟩) h
  simp only [carries_iff, ne_eq, ha, not_true, not_false_iff, and_true, and_false, if_false] at this
  rw [List.count_snoc]
  omega

theorem inv_step (s s' : St) (a : Act) (hI : Inv s) (hs : step s a = some s') : Inv s' := by
  cases a <;> simp only [step] at hs
  case arrive tok m =>
    cases hs
    refine { hI with ctorMux := ?_, ctorCount := ?_, cons := fun tk mm => ?_ } <;> dsimp only
    · exact List.forall_mem_concat hI.ctorMux nofun
    · rw [List.countP_append]; exact hI.ctorCount
    · have := hI.cons tk mm
      rw [List.count_snoc, List.countP_append, List.countP_singleton]
      simp only [carries_iff, ne_eq, reduceCtorEq, not_false_iff, and_true]
      omega
  case done tok =>
    split at hs <;> cases hs
    rename_i hin
    have keep : ∀ tk, tk ∈ s.inst → tk ∈ s.inst.filter (· != tok) ∨ tk ∈ s.doneToks ++ [tok] := by
      intro tk h
      by_cases e : tk = tok
      · right; rw [e]; exact List.mem_append_right _ (List.mem_singleton_self _)
      · left; exact List.mem_filter.mpr ⟨h, by simpa using e⟩
    refine { hI with
      instCreated := ?_, createdInst := ?_, muxCreated := ?_, handedInst := ?_, doneCreated := ?_,
      droppedDone := ?_ } <;> dsimp only
    · exact fun tk h => hI.instCreated tk (List.mem_filter.mp h).1
    · intro tk h
      rcases hI.createdInst tk h with h' | h' | h'
      · exact (keep tk h').imp_right .inr
      · exact .inr (.inl h')
      · exact .inr (.inr (List.mem_append_left _ h'))
    · intro tk h
      obtain ⟨h1, h2, h3⟩ := hI.muxCreated tk h
      refine ⟨h1, fun hc' => h2 (List.mem_filter.mp hc').1, fun hc' => ?_⟩
      rcases List.mem_append.mp hc' with hc' | hc'
      · exact h3 hc'
      · rw [List.mem_singleton.mp hc'] at h2; exact h2 hin
    · intro p hp
      rcases hI.handedInst p hp with h' | h'
      · exact keep _ h'
      · exact .inr (List.mem_append_left _ h')
    · intro tk h
      rcases List.mem_append.mp h with h | h
      · exact ⟨(hI.doneCreated tk h).1, fun hc' => (hI.doneCreated tk h).2 (List.mem_filter.mp hc').1⟩
      · rw [List.mem_singleton.mp h]
        exact ⟨hI.instCreated _ hin, fun hc' => by simpa using (List.mem_filter.mp hc').2⟩
    · exact fun p hp => List.mem_append_left _ (hI.droppedDone p hp)
  case thread i =>
    rcases ht : s.thr[i]? with _ | ⟨tok0, m0, pc0⟩ <;> simp only [ht] at hs
    · cases hs
    have hmove := atCtor_move ht
    cases pc0 <;> simp only [stepTh] at hs
    case fin => cases hs
    case wait =>
      simp only [reduceCtorEq, if_false, Nat.add_zero] at hmove
      by_cases hfree : s.mux.isSome = true
      · rw [if_pos hfree] at hs; cases hs
      rw [if_neg hfree] at hs
      by_cases hdone : tok0 ∈ s.doneToks
      · rw [if_pos hdone] at hs; cases hs
        -- late message for a finished instance: dropped
        refine { hI with ctorMux := ?_, ctorCount := ?_, droppedDone := ?_, cons := fun tk mm => ?_ } <;> dsimp only
        · exact List.forall_mem_set hI.ctorMux fun h => nomatch h
        · rw [hmove]; exact hI.ctorCount
        · exact List.forall_mem_concat hI.droppedDone hdone
        · have := hI.cons tk mm; have := carries_fin ht (by decide) s.dropped tk mm
          omega
      rw [if_neg hdone] at hs
      by_cases hin : tok0 ∈ s.inst
      · rw [if_pos hin] at hs; cases hs
        -- the instance exists: hand the message over
        refine { hI with ctorMux := ?_, ctorCount := ?_, handedInst := ?_, cons := fun tk mm => ?_ } <;> dsimp only
        · exact List.forall_mem_set hI.ctorMux fun h => nomatch h
        · rw [hmove]; exact hI.ctorCount
        · exact List.forall_mem_concat hI.handedInst (.inl hin)
        · have := hI.cons tk mm; have := carries_fin ht (by decide) s.handed tk mm
          omega
      rw [if_neg hin] at hs; cases hs
      -- no instance: list one and run the constructor with the lock held
      have hmux := Option.not_isSome_iff_eq_none.mp hfree
      have hnc : tok0 ∉ s.created := by
        intro h
        rcases hI.createdInst tok0 h with h' | h' | h'
        · exact hin h'
        · rw [hmux] at h'; cases h'
        · exact hdone h'
      refine { hI with
        nodup := ?_, instCreated := ?_, createdInst := ?_, muxCreated := ?_, ctorMux := ?_, ctorCount := ?_,
        doneCreated := ?_, cons := fun tk mm => ?_ } <;> dsimp only
      · refine List.nodup_append.mpr ⟨hI.nodup, List.pairwise_singleton _ _, ?_⟩
        intro a ha b hb; rw [List.mem_singleton.mp hb]; exact fun e => hnc (e ▸ ha)
      · exact fun tk h => List.mem_append_left _ (hI.instCreated tk h)
      · intro tk h
        rcases List.mem_append.mp h with h | h
        · rcases hI.createdInst tk h with h' | h' | h'
          · exact .inl h'
          · rw [hmux] at h'; cases h'
          · exact .inr (.inr h')
        · rw [List.mem_singleton.mp h]; exact .inr (.inl rfl)
      · intro tk h; cases h
        exact ⟨List.mem_append_right _ (List.mem_singleton_self _), hin, hdone⟩
      · exact List.forall_mem_set (fun t h hp => nomatch hmux ▸ hI.ctorMux t h hp) fun _ => rfl
      · rw [hmove, hI.ctorCount, hmux]; rfl
      · exact fun tk h => ⟨List.mem_append_left _ (hI.doneCreated tk h).1, (hI.doneCreated tk h).2⟩
      · rw [carries_stay ht (by decide) (by decide)]; exact hI.cons tk mm
    case ctor =>
      cases hs
      simp only [if_true] at hmove
      have hm : s.mux = some tok0 := hI.ctorMux _ (List.mem_of_getElem? ht) rfl
      obtain ⟨hcr, hni, hnd⟩ := hI.muxCreated tok0 hm
      have hzero : (s.thr.set i ⟨tok0, m0, .fin⟩).countP atCtor = 0 := by
        have h1 : s.thr.countP atCtor = 1 := by rw [hI.ctorCount, hm]; rfl
        have := hmove .fin
        simp only [reduceCtorEq, if_false] at this; omega
      refine { hI with
        instCreated := ?_, createdInst := ?_, muxCreated := ?_, ctorMux := ?_, ctorCount := ?_, handedInst := ?_,
        doneCreated := ?_, cons := fun tk mm => ?_ } <;> dsimp only
      · exact List.forall_mem_concat hI.instCreated hcr
      · intro tk h
        rcases hI.createdInst tk h with h' | h' | h'
        · exact .inl (List.mem_append_left _ h')
        · rw [hm] at h'; cases h'; exact .inl (List.mem_append_right _ (List.mem_singleton_self _))
        · exact .inr (.inr h')
      · exact fun tk h => nomatch h
      · intro t ht' hp
        have : 0 < (s.thr.set i ⟨tok0, m0, .fin⟩).countP atCtor :=
          List.countP_pos_iff.mpr ⟨t, ht', by simp [atCtor, hp]⟩
        omega
      · exact hzero
      · exact List.forall_mem_concat (fun p hp => (hI.handedInst p hp).imp_left (List.mem_append_left _))
          (.inl (List.mem_append_right _ (List.mem_singleton_self _)))
      · intro tk h
        refine ⟨(hI.doneCreated tk h).1, fun hc' => ?_⟩
        rcases List.mem_append.mp hc' with hc' | hc'
        · exact (hI.doneCreated tk h).2 hc'
        · rw [List.mem_singleton.mp hc'] at h; exact hnd h
      · have := hI.cons tk mm; have := carries_fin ht (by decide) s.handed tk mm
        omega

end C01.Inst

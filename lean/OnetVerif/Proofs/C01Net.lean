import OnetVerif.Model.C01
import OnetVerif.Proofs.Sched
import OnetVerif.Proofs.Lists
/-! Property C01, routers and connection tables (`Model/C01Net.lean`): conservation of envelopes (`Cons`) and liveness
of connections (`Live`) as step invariants, by cases on the relations `Step` and `Region` read off `step` and `stepTh`;
the state without undecodable frames (`noJunk`) commutes with `step`.  Core-only. -/
namespace C01.Net

theorem run_skips : Sched.Skips step run := ⟨fun _ => rfl, fun s a as => by rw [run]; cases step s a <;> rfl⟩

/-- `stepTh` without the thread list: from pc, to pc, the rest of the state afterwards -/
inductive Region (s : St) (src dst v : Nat) : SPc → SPc → St → Prop
  | self : src = dst → Region s src dst v .lookup .done { s with dispatched := s.dispatched ++ [(src, src, v)] }
  | reuse {k : Nat} : src ≠ dst → (s.table src dst).head? = some k → Region s src dst v .lookup (.xmit k) s
  | fresh : src ≠ dst → (s.table src dst).head? = none → Region s src dst v .lookup .dial s
  | dial : Region s src dst v .dial (.reg s.nconn)
      { s with nconn := s.nconn + 1, dialed := s.dialed ++ [(s.nconn, src, dst)] }
  | register {k : Nat} : Region s src dst v (.reg k) (.xmit k) { s with table := addConn s.table src dst k }
  | write {k : Nat} : Region s src dst v (.xmit k) .done { s with wire := s.wire ++ [⟨k, src, dst, v⟩] }

theorem stepTh_region (s : St) (i src dst v : Nat) {a : SPc} (hnd : a ≠ .done) :
    ∃ b s₁, Region s src dst v a b s₁ ∧
      stepTh s i ⟨src, dst, v, a⟩ = { s₁ with thr := s.thr.set i ⟨src, dst, v, b⟩ } := by
  fun_cases stepTh s i ⟨src, dst, v, a⟩ <;> subst ‹Th.pc _ = _›
  · exact ⟨_, _, .self ‹_›, rfl⟩
  · exact ⟨_, _, .reuse ‹_› ‹_›, rfl⟩
  · exact ⟨_, _, .fresh ‹_› ‹_›, rfl⟩
  · exact ⟨_, _, .dial, rfl⟩
  · exact ⟨_, _, .register, rfl⟩
  · exact ⟨_, _, .write, rfl⟩
  · exact absurd rfl hnd

/-- one constructor per way `step` answers `some`, with its guard -/
inductive Step (s : St) : Act → St → Prop
  | send (src dst v : Nat) :
      Step s (.send src dst v) { s with sent := s.sent ++ [(src, dst, v)], thr := s.thr ++ [⟨src, dst, v, .lookup⟩] }
  | thread {i src dst v : Nat} {p p' : SPc} {s₁ : St} : s.thr[i]? = some ⟨src, dst, v, p⟩ → p ≠ .done →
      Region s src dst v p p' s₁ → Step s (.thread i) { s₁ with thr := s.thr.set i ⟨src, dst, v, p'⟩ }
  | accept {j k a b : Nat} : s.dialed[j]? = some (k, a, b) →
      Step s (.accept j) { s with dialed := s.dialed.eraseIdx j, table := addConn s.table b a k }
  | recv {j : Nat} {f : Flight} : s.wire[j]? = some f → f.k ∈ s.table f.dst f.src →
      Step s (.recv j) { s with wire := s.wire.eraseIdx j, dispatched := s.dispatched ++ [(f.dst, f.src, f.v)] }
  | junk {src dst k : Nat} : src ≠ dst → (s.table src dst).head? = some k →
      Step s (.junk src dst) { s with junk := s.junk ++ [⟨k, src, dst, 0⟩] }
  | recvJunk {j : Nat} {f : Flight} : s.junk[j]? = some f → f.k ∈ s.table f.dst f.src →
      Step s (.recvJunk j) { s with junk := s.junk.eraseIdx j }

theorem Step.of_eq {s s' : St} {a : Act} (hs : step s a = some s') : Step s a s' := by
  revert hs
  fun_cases step s a <;> rintro ⟨⟩
  · exact .send _ _ _
  · next i t ht hnd =>
    obtain ⟨src, dst, v, p⟩ := t
    obtain ⟨p', s₁, hr, e⟩ := stepTh_region s i src dst v hnd
    rw [e]
    exact .thread ht hnd hr
  · exact .accept ‹_›
  · exact .recv ‹_› ‹_›
  · exact .junk ‹_› ‹_›
  · exact .recvJunk ‹_› ‹_›

theorem step_recv_eq_none {s : St} {j : Nat} :
    step s (.recv j) = none ↔ ∀ f, s.wire[j]? = some f → f.k ∉ s.table f.dst f.src := by
  constructor
  · intro h f hf hk
    simp only [step, hf, if_pos hk] at h
    cases h
  · intro h
    simp only [step]
    split
    · rename_i f hf; exact if_neg (h f hf)
    · rfl

theorem step_recvJunk_eq_none {s : St} {j : Nat} :
    step s (.recvJunk j) = none ↔ ∀ f, s.junk[j]? = some f → f.k ∉ s.table f.dst f.src := by
  constructor
  · intro h f hf hk
    simp only [step, hf, if_pos hk] at h
    cases h
  · intro h
    simp only [step]
    split
    · rename_i f hf; exact if_neg (h f hf)
    · rfl

/-- the `Send` call `t` still has envelope `(a → b, v)` in its hands -/
def carrying (a b v : Nat) (t : Th) : Bool := t.src == a && t.dst == b && t.v == v && t.pc != .done
/-- envelope `(a → b, v)` in flight -/
def flying (a b v : Nat) (f : Flight) : Bool := f.src == a && f.dst == b && f.v == v

/-- conservation: every `Send(a → b, v)` is in exactly one place — dispatched at `b` with identity `a`,
in flight towards `b`, or still in the hands of its `Send` call -/
def Cons (s : St) : Prop :=
  ∀ a b v, s.sent.count (a, b, v) =
    s.dispatched.count (b, a, v) + s.wire.countP (flying a b v) + s.thr.countP (carrying a b v)

theorem carrying_iff {a b v : Nat} {t : Th} :
    carrying a b v t = true ↔ (t.src = a ∧ t.dst = b ∧ t.v = v) ∧ t.pc ≠ .done := by
  simp [carrying, and_assoc]

theorem flying_iff {a b v : Nat} {f : Flight} : flying a b v f = true ↔ f.src = a ∧ f.dst = b ∧ f.v = v := by
  simp [flying, and_assoc]

/-- the right side of `Cons` for a set `P` of envelopes `(src, dst, v)` instead of a single one -/
def held (P : Nat × Nat × Nat → Bool) (s : St) : Nat :=
  s.dispatched.countP (fun d => P (d.2.1, d.1, d.2.2)) + s.wire.countP (fun f => P (f.src, f.dst, f.v))
    + s.thr.countP fun t => P (t.src, t.dst, t.v) && t.pc != .done

theorem held_eq (s : St) (a b v : Nat) :
    held (· == (a, b, v)) s =
      s.dispatched.count (b, a, v) + s.wire.countP (flying a b v) + s.thr.countP (carrying a b v) := by
  unfold held List.count
  congr 3 <;> funext x <;> rw [Bool.eq_iff_iff]
  · simp [Prod.ext_iff, and_left_comm]
  · simp [flying_iff]
  · simp [carrying_iff]

/-- for a variable `P` the unit a step takes and the unit it gives are the same term: `omega` has nothing to compare -/
theorem Step.conserves {s s' : St} {a : Act} (h : Step s a s') (P : Nat × Nat × Nat → Bool) :
    s'.sent.countP P + held P s = s.sent.countP P + held P s' := by
  cases h with
  | accept | junk | recvJunk => rfl
  | send src dst w =>
    simp only [held, List.countP_append, List.countP_singleton, Bool.and_eq_true, bne_iff_ne, ne_eq, reduceCtorEq,
      not_false_iff, and_true]
    omega
  | recv hf =>
    have := List.countP_eraseIdx' (p := fun f => P (f.src, f.dst, f.v)) hf
    simp only [held, List.countP_append, List.countP_singleton]
    omega
  | @thread i src dst v p p' s₁ ht hnd hr =>
    have := List.countP_set' (p := fun t => P (t.src, t.dst, t.v) && t.pc != .done) (t' := ⟨src, dst, v, p'⟩) ht
    simp only [Bool.and_eq_true, bne_iff_ne, ne_eq, hnd, not_false_iff, and_true] at this
    cases hr with
    | self hself =>
      subst hself
      simp only [held, List.countP_append, List.countP_singleton, not_true, and_false, if_false] at this ⊢
      omega
    | reuse | fresh | dial | register =>
      simp only [reduceCtorEq, not_false_iff, and_true] at this
      rw [held, held, ← Nat.add_right_cancel this]
    | write =>
      simp only [held, List.countP_append, List.countP_singleton, not_true, and_false, if_false] at this ⊢
      omega

theorem cons_step (s s' : St) (a : Act) (hc : Cons s) (hs : step s a = some s') : Cons s' := fun a b v => by
  have h := (Step.of_eq hs).conserves (· == (a, b, v))
  rw [held_eq, held_eq, ← hc a b v] at h
  exact Nat.add_right_cancel (h.trans (Nat.add_comm ..))

/-! Three kinds of evidence that a server has, or is about to get, its end of a connection.  Each survives every
step, and whatever a step adds — a table entry, a frame, a pending dial, a call at `reg` or `xmit` — comes with
evidence. -/

/-- `x` dialled `y` on connection `k` and has registered it or is about to -/
def Own (s : St) (k x y : Nat) : Prop := k ∈ s.table x y ∨ ∃ t ∈ s.thr, t.src = x ∧ t.dst = y ∧ t.pc = .reg k
/-- `y` was dialled by `x` on connection `k`: its listener callback is pending or has run -/
def Acc (s : St) (k x y : Nat) : Prop := (k, x, y) ∈ s.dialed ∨ k ∈ s.table y x
/-- `x` has or is about to get its end of connection `k` with `y`, whichever side dialled -/
def End (s : St) (k x y : Nat) : Prop :=
  k ∈ s.table x y ∨ (k, y, x) ∈ s.dialed ∨ ∃ t ∈ s.thr, t.src = x ∧ t.dst = y ∧ t.pc = .reg k

theorem Own.end_ {s : St} {k x y : Nat} (h : Own s k x y) : End s k x y := h.imp_right .inr
theorem Acc.end_ {s : St} {k x y : Nat} (h : Acc s k x y) : End s k y x := h.elim (fun h => .inr (.inl h)) .inl

/-- nothing gets stuck between two servers: every connection has (or is about to get) both ends -/
structure Live (s : St) : Prop where
  /-- a call that dialled `k` and has not registered it yet: the listener callback is pending or has run -/
  regPending : ∀ t ∈ s.thr, ∀ k, t.pc = .reg k → (k, t.src, t.dst) ∈ s.dialed ∨ k ∈ s.table t.dst t.src
  /-- a call about to write on `k` has `k` in its own table -/
  xmitReg : ∀ t ∈ s.thr, ∀ k, t.pc = .xmit k → k ∈ s.table t.src t.dst
  /-- a table entry has its counterpart at the peer: registered, waiting for the listener callback, or
  dialled by the peer and about to be registered there -/
  tableMate : ∀ a b k, k ∈ s.table a b →
    k ∈ s.table b a ∨ (k, a, b) ∈ s.dialed ∨ ∃ t ∈ s.thr, t.src = b ∧ t.dst = a ∧ t.pc = .reg k
  /-- a pending dial: the dialler has registered the connection or is about to -/
  dialMate : ∀ k a b, (k, a, b) ∈ s.dialed → k ∈ s.table a b ∨ ∃ t ∈ s.thr, t.src = a ∧ t.dst = b ∧ t.pc = .reg k
  /-- a frame in flight — an envelope or a frame its destination cannot decode — will be read: its destination
  has the connection, or will have it -/
  flightMate : ∀ f, f ∈ s.wire ∨ f ∈ s.junk → f.k ∈ s.table f.dst f.src ∨ (f.k, f.src, f.dst) ∈ s.dialed ∨
    ∃ t ∈ s.thr, t.src = f.dst ∧ t.dst = f.src ∧ t.pc = .reg f.k

theorem live_init : Live {} := by
  constructor <;> simp

theorem mem_addConn (tb : Nat → Nat → List Nat) (s p k a b x : Nat) :
    x ∈ addConn tb s p k a b ↔ x ∈ tb a b ∨ (a = s ∧ b = p ∧ x = k) := by
  unfold addConn
  by_cases h : a = s ∧ b = p
  · obtain ⟨rfl, rfl⟩ := h; simp
  · simp only [h, if_false]
    constructor
    · exact fun hx => .inl hx
    · rintro (hx | ⟨e1, e2, _⟩)
      · exact hx
      · exact absurd ⟨e1, e2⟩ h

theorem addConn_prefix (tb : Nat → Nat → List Nat) (s p k x y : Nat) : tb x y <+: addConn tb s p k x y := by
  unfold addConn
  split
  · rename_i h; rw [h.1, h.2]; exact List.prefix_append _ _
  · exact List.prefix_rfl

/-- nothing fails in this model, so no table entry is ever removed -/
theorem Step.table_prefix {s s' : St} {a : Act} (h : Step s a s') (x y : Nat) : s.table x y <+: s'.table x y := by
  cases h with
  | thread _ _ hr =>
    cases hr with
    | register => exact addConn_prefix ..
    | _ => exact List.prefix_rfl
  | accept => exact addConn_prefix ..
  | _ => exact List.prefix_rfl

theorem Step.mem_table {s s' : St} {a : Act} (h : Step s a s') {k x y : Nat} (hk : k ∈ s.table x y) :
    k ∈ s'.table x y :=
  (h.table_prefix x y).subset hk

theorem Step.acc {s s' : St} {a : Act} (h : Step s a s') {k x y : Nat} : Acc s k x y → Acc s' k x y := by
  intro hA
  obtain hd | ht := hA
  case inr => exact .inr (h.mem_table ht)
  cases h with
  | @accept j k' a b hj =>
    by_cases e : (k, x, y) = (k', a, b)
    · cases e; exact .inr ((mem_addConn ..).mpr (.inr ⟨rfl, rfl, rfl⟩))
    · exact .inl (List.mem_eraseIdx_of_ne hj hd e)
  | thread _ _ hr =>
    cases hr with
    | dial => exact .inl (List.mem_append_left _ hd)
    | _ => exact .inl hd
  | _ => exact .inl hd

theorem Step.own {s s' : St} {a : Act} (h : Step s a s') {k x y : Nat} : Own s k x y → Own s' k x y := by
  rintro (ht | ⟨t, hm, e1, e2, e3⟩)
  · exact .inl (h.mem_table ht)
  cases h with
  | send => exact .inr ⟨t, List.mem_append_left _ hm, e1, e2, e3⟩
  | @thread i src dst v p p' s₁ ht0 _ hr =>
    by_cases ht : t = ⟨src, dst, v, p⟩
    · -- the call at `reg k` is the one that moves: it registers `k`
      subst ht
      cases e3
      cases hr
      exact .inl ((mem_addConn ..).mpr (.inr ⟨e1.symm, e2.symm, rfl⟩))
    · refine .inr ⟨t, List.mem_set_of_ne ht0 hm ht _, e1, e2, e3⟩
  | _ => exact .inr ⟨t, hm, e1, e2, e3⟩

theorem Step.end_ {s s' : St} {a : Act} (h : Step s a s') {k x y : Nat} : End s k x y → End s' k x y := by
  rintro (h1 | h2 | h3)
  · exact .inl (h.mem_table h1)
  · exact (h.acc (.inl h2)).end_
  · exact (h.own (.inr h3)).end_

theorem Step.table_origin {s s' : St} {a : Act} (h : Step s a s') {k x y : Nat} (hk : k ∈ s'.table x y) :
    End s k x y := by
  cases h with
  | @accept j k' a b hj =>
    rcases (mem_addConn ..).mp hk with hk | ⟨rfl, rfl, rfl⟩
    · exact .inl hk
    · exact .inr (.inl (List.mem_of_getElem? hj))
  | thread ht _ hr =>
    cases hr with
    | register =>
      rcases (mem_addConn ..).mp hk with hk | ⟨rfl, rfl, rfl⟩
      · exact .inl hk
      · exact .inr (.inr ⟨_, List.mem_of_getElem? ht, rfl, rfl, rfl⟩)
    | _ => exact .inl hk
  | _ => exact .inl hk

theorem Step.thr_origin {s s' : St} {a : Act} (h : Step s a s') {t : Th} (ht : t ∈ s'.thr) :
    t ∈ s.thr ∨ ((∀ k, t.pc = .reg k → (k, t.src, t.dst) ∈ s'.dialed) ∧
      ∀ k, t.pc = .xmit k → k ∈ s'.table t.src t.dst) := by
  cases h with
  | send =>
    rcases List.mem_append.mp ht with ht | ht
    · exact .inl ht
    · rw [List.mem_singleton.mp ht]; exact .inr ⟨nofun, nofun⟩
  | thread _ _ hr =>
    rcases List.mem_or_eq_of_mem_set ht with ht | rfl
    · exact .inl ht
    right
    cases hr with
    | reuse _ hk => exact ⟨nofun, fun k e => by cases e; exact List.mem_of_mem_head? hk⟩
    | dial => exact ⟨fun k e => by cases e; exact List.mem_append_right _ (List.mem_singleton_self _), nofun⟩
    | register => exact ⟨nofun, fun k e => by cases e; exact (mem_addConn ..).mpr (.inr ⟨rfl, rfl, rfl⟩)⟩
    | _ => exact ⟨nofun, nofun⟩
  | _ => exact .inl ht

theorem Step.dialed_origin {s s' : St} {a : Act} (h : Step s a s') {k x y : Nat} (hk : (k, x, y) ∈ s'.dialed) :
    (k, x, y) ∈ s.dialed ∨ ∃ t ∈ s'.thr, t.src = x ∧ t.dst = y ∧ t.pc = .reg k := by
  cases h with
  | accept => exact .inl (List.mem_of_mem_eraseIdx hk)
  | thread ht _ hr =>
    cases hr with
    | dial =>
      rcases List.mem_append.mp hk with hk | hk
      · exact .inl hk
      · cases List.mem_singleton.mp hk
        exact .inr ⟨_, List.mem_set (List.lt_length_of_getElem? ht) _, rfl, rfl, rfl⟩
    | _ => exact .inl hk
  | _ => exact .inl hk

theorem Step.flight_origin {s s' : St} {a : Act} (h : Step s a s')
    (hx : ∀ t ∈ s.thr, ∀ k, t.pc = .xmit k → k ∈ s.table t.src t.dst) {f : Flight} (hf : f ∈ s'.wire ∨ f ∈ s'.junk) :
    (f ∈ s.wire ∨ f ∈ s.junk) ∨ f.k ∈ s.table f.src f.dst := by
  cases h with
  | recv => exact .inl (hf.imp_left List.mem_of_mem_eraseIdx)
  | recvJunk => exact .inl (hf.imp_right List.mem_of_mem_eraseIdx)
  | junk _ hk =>
    rcases hf with hf | hf
    · exact .inl (.inl hf)
    rcases List.mem_append.mp hf with hf | hf
    · exact .inl (.inr hf)
    · rw [List.mem_singleton.mp hf]; exact .inr (List.mem_of_mem_head? hk)
  | thread ht _ hr =>
    cases hr with
    | write =>
      rcases hf with hf | hf
      · rcases List.mem_append.mp hf with hf | hf
        · exact .inl (.inl hf)
        · rw [List.mem_singleton.mp hf]; exact .inr (hx _ (List.mem_of_getElem? ht) _ rfl)
      · exact .inl (.inr hf)
    | _ => exact .inl hf
  | _ => exact .inl hf

theorem live_step (s s' : St) (a : Act) (hL : Live s) (hs : step s a = some s') : Live s' := by
  have h := Step.of_eq hs
  refine { regPending := fun t ht k hk => ?_, xmitReg := fun t ht k hk => ?_, tableMate := fun a b k hk => ?_,
           dialMate := fun k a b hk => ?_, flightMate := fun f hf => ?_ }
  · exact (h.thr_origin ht).elim (fun ho => h.acc (hL.regPending t ho k hk)) fun hn => .inl (hn.1 k hk)
  · exact (h.thr_origin ht).elim (fun ho => h.mem_table (hL.xmitReg t ho k hk)) fun hn => hn.2 k hk
  · rcases h.table_origin hk with ho | ho | ⟨t, ht, rfl, rfl, e3⟩
    · exact h.end_ (hL.tableMate a b k ho)
    · exact (h.own (hL.dialMate k b a ho)).end_
    · exact (h.acc (hL.regPending t ht k e3)).end_
  · exact (h.dialed_origin hk).elim (fun ho => h.own (hL.dialMate k a b ho)) .inr
  · exact (h.flight_origin hL.xmitReg hf).elim (fun ho => h.end_ (hL.flightMate f ho)) fun hk =>
      h.end_ (hL.tableMate _ _ _ hk)

/-- the state without the undecodable frames -/
def noJunk (s : St) : St := { s with junk := [] }
/-- the two actions that write / read an undecodable frame -/
def isJunk : Act → Bool
  | .junk _ _ => true
  | .recvJunk _ => true
  | _ => false

theorem stepTh_noJunk (s : St) (i : Nat) (t : Th) : stepTh (noJunk s) i t = noJunk (stepTh s i t) := by
  obtain ⟨src, dst, v, pc⟩ := t
  cases pc with
  | lookup =>
    simp only [stepTh, noJunk]
    split
    · rfl
    · split <;> rfl
  | dial => rfl
  | reg k => rfl
  | xmit k => rfl
  | done => rfl

theorem step_noJunk (s : St) (a : Act) (ha : isJunk a = false) : step (noJunk s) a = (step s a).map noJunk := by
  cases a with
  | send src dst v => rfl
  | thread i =>
    simp only [step]
    have : (noJunk s).thr = s.thr := rfl
    rw [this]
    cases s.thr[i]? with
    | none => rfl
    | some t =>
      simp only
      split
      · rfl
      · simp [stepTh_noJunk]
  | accept j =>
    simp only [step]
    have : (noJunk s).dialed = s.dialed := rfl
    rw [this]
    cases s.dialed[j]? with
    | none => rfl
    | some x => obtain ⟨k, a, b⟩ := x; rfl
  | recv j =>
    simp only [step]
    have : (noJunk s).wire = s.wire := rfl
    rw [this]
    cases s.wire[j]? with
    | none => rfl
    | some f =>
      simp only
      have : (noJunk s).table = s.table := rfl
      rw [this]
      split <;> rfl
  | junk src dst => simp [isJunk] at ha
  | recvJunk j => simp [isJunk] at ha

theorem step_junk_only (s s' : St) (a : Act) (ha : isJunk a = true) (hs : step s a = some s') : noJunk s' = noJunk s := by
  cases Step.of_eq hs with
  | junk | recvJunk => rfl
  | _ => cases ha

end C01.Net

import OnetVerif.Model.C06
/-! The containers of the C06 model.  The association lists (`lookup` / `insert` / `erase`: the tree store and the table
of parked descriptions) as maps; the families of overlays and inboxes over the server numbers (`updN`) and over the
two sites (`upd`), and the second read as the first on servers 0 and 1 (`lift`).  Core only. -/

theorem List.map_eraseIdx {α β : Type _} (f : α → β) : ∀ (l : List α) (i : Nat), (l.eraseIdx i).map f = (l.map f).eraseIdx i
  | [], _ => rfl
  | _ :: _, 0 => rfl
  | a :: l, i + 1 => congrArg (f a :: ·) (List.map_eraseIdx f l i)

theorem List.mem_map_pair {α β : Type _} {a b : α} {m : β} {l : List β} :
    (a, m) ∈ l.map (fun m => (b, m)) ↔ a = b ∧ m ∈ l := by
  rw [List.mem_map]
  exact ⟨fun ⟨x, hx, e⟩ => by cases e; exact ⟨rfl, hx⟩, fun ⟨e, hx⟩ => ⟨m, hx, e ▸ rfl⟩⟩

theorem Option.mem_getD_nil {β : Type _} {o : Option (List β)} {x : β} (h : x ∈ o.getD []) : ∃ sl, o = some sl ∧ x ∈ sl := by
  cases o with
  | none => cases h
  | some sl => exact ⟨sl, rfl, h⟩

namespace C06

section
variable {α : Type _}

theorem lookup_cons (k' : Nat) (v : α) (rest : List (Nat × α)) (k : Nat) :
    lookup ((k', v) :: rest) k = if k' = k then some v else lookup rest k := rfl

theorem insert_cons (k' : Nat) (v' : α) (rest : List (Nat × α)) (k : Nat) (v : α) :
    insert ((k', v') :: rest) k v = if k' = k then (k, v) :: rest else (k', v') :: insert rest k v := rfl

theorem erase_cons (k' : Nat) (v' : α) (rest : List (Nat × α)) (k : Nat) :
    erase ((k', v') :: rest) k = if k' = k then erase rest k else (k', v') :: erase rest k := by
  unfold erase
  rw [List.filter_cons]
  by_cases h : k' = k
  · rw [if_pos h, if_neg (by simpa using h)]
  · rw [if_neg h, if_pos (by simpa using h)]

theorem lookup_insert (l : List (Nat × α)) (k : Nat) (v : α) (j : Nat) :
    lookup (insert l k v) j = if k = j then some v else lookup l j := by
  induction l with
  | nil => rfl
  | cons p rest ih =>
    obtain ⟨k', v'⟩ := p
    rw [insert_cons]
    by_cases h : k' = k
    · subst h
      by_cases hj : k' = j <;> simp only [lookup_cons, hj, if_true, if_false]
    · rw [if_neg h, lookup_cons, lookup_cons, ih]
      by_cases hj : k' = j
      · subst hj; rw [if_pos rfl, if_neg (Ne.symm h), if_pos rfl]
      · rw [if_neg hj, if_neg hj]

theorem lookup_erase (l : List (Nat × α)) (k j : Nat) :
    lookup (erase l k) j = if k = j then none else lookup l j := by
  induction l with
  | nil => exact (ite_self _).symm
  | cons p rest ih =>
    obtain ⟨k', v'⟩ := p
    rw [erase_cons]
    by_cases h : k' = k
    · subst h
      rw [if_pos rfl, ih, lookup_cons]
      by_cases hj : k' = j
      · simp only [if_pos hj]
      · simp only [if_neg hj]
    · rw [if_neg h, lookup_cons, lookup_cons, ih]
      by_cases hj : k' = j
      · subst hj; rw [if_pos rfl, if_neg (Ne.symm h), if_pos rfl]
      · rw [if_neg hj, if_neg hj]

theorem lookup_mem (l : List (Nat × α)) (k : Nat) (v : α) (h : lookup l k = some v) : (k, v) ∈ l := by
  induction l with
  | nil => cases h
  | cons p rest ih =>
    obtain ⟨k', v'⟩ := p
    rw [lookup_cons] at h
    split at h
    · next hk => cases h; rw [hk]; exact List.mem_cons_self
    · exact List.mem_cons_of_mem _ (ih h)

theorem mem_insert (l : List (Nat × α)) (k : Nat) (v : α) (p : Nat × α) (h : p ∈ insert l k v) :
    p = (k, v) ∨ p ∈ l := by
  induction l with
  | nil => exact Or.inl (List.mem_singleton.mp h)
  | cons q rest ih =>
    obtain ⟨k', v'⟩ := q
    rw [insert_cons] at h
    split at h
    · exact (List.mem_cons.mp h).imp_right (List.mem_cons_of_mem _)
    · rcases List.mem_cons.mp h with h | h
      · exact Or.inr (h ▸ List.mem_cons_self)
      · exact (ih h).imp_right (List.mem_cons_of_mem _)

theorem mem_erase (l : List (Nat × α)) (k : Nat) (p : Nat × α) (h : p ∈ erase l k) : p ∈ l :=
  (List.mem_filter.mp h).1

end

theorem forall_updN {α : Type} {P : α → Prop} {f : Nat → α} {v : α} (u : Nat) (hv : P v) (hf : ∀ x, P (f x)) :
    ∀ x, P (updN f u v x) := by
  intro x
  rw [updN]
  split
  · exact hv
  · exact hf x

def Site.idx : Site → Nat
  | .A => 0
  | .B => 1

theorem Site.other_other (s : Site) : s.other.other = s := by cases s <;> rfl

theorem Site.idx_inj {s s' : Site} : s'.idx = s.idx ↔ s' = s := by cases s <;> cases s' <;> decide

theorem Site.idx_ne_other (s : Site) : s.idx ≠ s.other.idx := by cases s <;> decide

def lift {α : Type} (d : α) (g : Site → α) : Nat → α := fun k => if k = 0 then g .A else if k = 1 then g .B else d

theorem lift_idx {α : Type} (d : α) (g : Site → α) (s : Site) : lift d g s.idx = g s := by cases s <;> rfl

theorem lift_cases {α : Type} (d : α) (g : Site → α) (k : Nat) :
    (∃ s : Site, k = s.idx ∧ lift d g k = g s) ∨ ((∀ s : Site, k ≠ s.idx) ∧ lift d g k = d) := by
  unfold lift
  split
  · next h => exact Or.inl ⟨.A, h, rfl⟩
  · split
    · next h => exact Or.inl ⟨.B, h, rfl⟩
    · next h0 h1 => exact Or.inr ⟨fun s => by cases s <;> assumption, rfl⟩

theorem forall_lift {α : Type} {P : α → Prop} {d : α} (hd : P d) (g : Site → α) : (∀ k, P (lift d g k)) ↔ ∀ s, P (g s) := by
  refine ⟨fun h s => lift_idx d g s ▸ h s.idx, fun h k => ?_⟩
  rcases lift_cases d g k with ⟨s, _, e⟩ | ⟨_, e⟩
  · rw [e]; exact h s
  · rw [e]; exact hd

theorem lift_upd {α : Type} (d : α) (g : Site → α) (s : Site) (v : α) :
    updN (lift d g) s.idx v = lift d (upd g s v) := by
  funext k
  rcases lift_cases d (upd g s v) k with ⟨s', rfl, e⟩ | ⟨hk, e⟩
  · rw [e, updN, lift_idx, upd]
    by_cases h : s' = s
    · rw [if_pos h, if_pos (congrArg _ h)]
    · rw [if_neg h, if_neg (mt Site.idx_inj.mp h)]
  · rw [e, updN, if_neg (hk s)]
    rcases lift_cases d g k with ⟨s', h, _⟩ | ⟨_, e'⟩
    · exact absurd h (hk s')
    · exact e'

def fromPeer (f : Site → List Msg) (s : Site) : List (Nat × Msg) := (f s).map fun m => (s.other.idx, m)

theorem fromPeer_upd (f : Site → List Msg) (s : Site) (v : List Msg) :
    fromPeer (upd f s v) = upd (fromPeer f) s (v.map fun m => (s.other.idx, m)) := by
  funext s'
  unfold fromPeer
  rw [upd, upd]
  split
  · next h => rw [h]
  · rfl

end C06

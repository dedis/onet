import OnetVerif.Model.C03
/-! Property C03 — the lemmas behind the theorems of `Props/C03.lean` about interface-typed fields (which generator
or constructor instantiates a point or scalar), the type registry, and the field numbers of the protobuf library. -/
namespace C03

/-! ### interface-typed fields -/

/-- a tagged value is instantiated by the generator registered for its tag — whatever the suite of
the connection, even none -/
theorem iface_tagged (gs : Gens) (ctor : Option Grp) (id bytes : List Nat) (g' : Grp)
    (hid : id.length = 8) (hb : bytes ≠ []) (hg : gs.get id = some g') :
    decIface gs ctor (encIface gs (some id) bytes) = some (g', bytes) := by
  have he : encIface gs (some id) bytes = id ++ bytes := by rw [encIface, hg]; rfl
  have hlen : 8 < (id ++ bytes).length := by
    rw [List.length_append, hid]; exact Nat.lt_add_of_pos_right (List.length_pos_iff.mpr hb)
  rw [he, decIface, if_pos hlen, ← hid, List.take_left, hg, List.drop_left]

/-- an untagged value (no `MarshalID`, or no generator for it) is instantiated by the constructor
table of the connection's suite -/
theorem iface_untagged (gs : Gens) (ctor : Option Grp) (mid : Option (List Nat)) (bytes : List Nat)
    (hm : ∀ id, mid = some id → gs.get id = none)
    (hp : 8 < bytes.length → gs.get (bytes.take 8) = none) :
    decIface gs ctor (encIface gs mid bytes) = ctor.map (·, bytes) := by
  have he : encIface gs mid bytes = bytes := by
    cases mid with
    | none => rfl
    | some id => simp [encIface, hm id rfl]
  rw [he]
  unfold decIface
  by_cases h8 : 8 < bytes.length
  · rw [if_pos h8, hp h8]
  · rw [if_neg h8]

theorem marshalID_length (g : Grp) (id : List Nat) (h : g.marshalID = some id) : id.length = 8 := by
  -- a literal id of eight bytes, or (the nist points) none
  cases g with
  | p256P | resP => cases h
  | _ => obtain rfl := Option.some.inj h; rfl

/-- the types `init()` registers a generator for come back under their own tag -/
def Grp.selfTagged (g : Grp) : Bool :=
  match g.marshalID with
  | some id => onetGens.get id == some g
  | none => false

theorem grp_cases (g : Grp) : g.selfTagged = true ∨ g.marshalID = none ∨ g = .p256S ∨ g = .resS := by
  cases g <;> decide +kernel

/-! ### the type registry -/

theorem typeIdOf_length (t : GoType) : (typeIdOf t).length = 16 := Sha1.uuid5_length _ _

theorem registry_get_put_same (r : Registry) (id : List Nat) (t : GoType) : (r.put id t).get id = some t := by
  simp [Registry.get, Registry.put]

theorem registry_get_put_other (r : Registry) (id id' : List Nat) (t : GoType) (h : id' ≠ id) :
    (r.put id t).get id' = r.get id' := by
  have : (id == id') = false := by simpa using fun e => h e.symm
  simp [Registry.get, Registry.put, this]

theorem registerAll_cons (r : Registry) (u : GoType) (ts : List GoType) :
    registerAll r (u :: ts) = registerAll (r.put (typeIdOf u) u) ts := by
  simp [registerAll, registerMessage]

namespace Fields

mutual
theorem idsOf_untagged : ∀ (f : SField) (id : Nat), untaggedOf f = true →
    idsOf id f = (List.range' (id + 1) (leavesOf f), id + leavesOf f)
  | .plain tag, id, h => by
    obtain rfl : tag = 0 := eq_of_beq (show (tag == 0) = true from h)
    rfl
  | .emb tag fs, id, h => by
    have h' : (tag == 0) = true ∧ untaggedAll fs = true := Bool.and_eq_true_iff.mp h
    obtain rfl : tag = 0 := eq_of_beq h'.1
    exact idsAll_untagged fs id h'.2
termination_by structural f => f
theorem idsAll_untagged : ∀ (fs : List SField) (id : Nat), untaggedAll fs = true →
    idsAll id fs = (List.range' (id + 1) (leavesAll fs), id + leavesAll fs)
  | [], id, _ => rfl
  | f :: fs, id, h => by
    have h' : untaggedOf f = true ∧ untaggedAll fs = true := Bool.and_eq_true_iff.mp h
    show ((idsOf id f).1 ++ (idsAll (idsOf id f).2 fs).1, (idsAll (idsOf id f).2 fs).2) =
      (List.range' (id + 1) (leavesOf f + leavesAll fs), id + (leavesOf f + leavesAll fs))
    rw [idsOf_untagged f id h'.1, idsAll_untagged fs (id + leavesOf f) h'.2, Nat.add_right_comm id _ 1,
      ← List.range'_append_1, Nat.add_assoc id (leavesOf f)]
termination_by structural fs => fs
end

theorem seek_skip (n : Nat) (pre l : List Nat) (h : ∀ p ∈ pre, p < n) : seek n (pre ++ l) = seek n l := by
  induction pre with
  | nil => rfl
  | cons p pre ih =>
    have hp : p < n := h p (by simp)
    simp only [List.cons_append, seek, hp, if_true]
    exact ih (fun q hq => h q (by simp [hq]))

theorem findsAll_suffix (entries : List Nat) : ∀ (pre : List Nat), entries.Pairwise (· < ·) →
    (∀ p ∈ pre, ∀ e ∈ entries, p < e) → findsAll (pre ++ entries) entries = true := by
  induction entries with
  | nil => intro _ _ _; rfl
  | cons n es ih =>
    intro pre hs hpre
    have h1 : seek n (pre ++ n :: es) = (true, n :: es) := by
      rw [seek_skip n pre (n :: es) (fun p hp => hpre p hp n (by simp))]
      simp [seek]
    simp only [findsAll, h1, Bool.true_and]
    have hs' := List.pairwise_cons.mp hs
    exact ih [n] hs'.2 (fun p hp e he => by
      have : p = n := by simpa using hp
      subst this
      exact hs'.1 e he)

end Fields

end C03

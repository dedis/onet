import OnetVerif.Model.C05Inst
import OnetVerif.Proofs.Sched
/-! The instance model of C05 (`Model/C05Inst.lean`): its moves, the invariant of its steps and what every schedule
preserves; the server of instances and its projection on one of them. -/
namespace C05

/-- the message whose handler is running, if any -/
def cur (s : St) : List Nat := match s.pc with | .handling m => [m] | _ => []

structure Inv (s : St) : Prop where
  order  : s.accepted = s.finished ++ cur s ++ s.queue
  start  : s.started = s.finished ++ cur s
  wake   : s.pc = .waiting → s.queue ≠ [] → s.token = true

/-- `run` without the `Option`, which is always `some` (`run_eq_runT`) -/
def runT (s : St) : List Act → St
  | [] => s
  | a :: as => match step s a with
      | some s' => runT s' as
      | none => runT s as

theorem runT_skips : Sched.Skips step runT := ⟨fun _ => rfl, fun s a as => by rw [runT]; cases step s a <;> rfl⟩

theorem run_eq_runT (as : List Act) (s : St) : run s as = some (runT s as) := by
  induction as generalizing s with
  | nil => rfl
  | cons a as ih =>
    rw [run, runT]
    cases step s a with
    | none => exact ih s
    | some s' => exact ih s'

/-- the moves of `step`, one per branch of the source -/
inductive Move (s : St) : Act → St → Prop
  | refuse (m) : s.closing = true → Move s (.accept m) s
  | accept (m) : s.closing = false →
      Move s (.accept m) { s with queue := s.queue ++ [m], token := true, accepted := s.accepted ++ [m] }
  | close : Move s .close { s with closing := true, token := true }
  | stop : s.pc = .top → s.closing = true → Move s .reader { s with pc := .stopped }
  | pop (m q) : s.pc = .top → s.closing = false → s.queue = m :: q →
      Move s .reader { s with queue := q, pc := .handling m, started := s.started ++ [m] }
  | sleep : s.pc = .top → s.closing = false → s.queue = [] → Move s .reader { s with pc := .waiting }
  | finish (m) : s.pc = .handling m → Move s .reader { s with pc := .top, finished := s.finished ++ [m] }
  | wake : s.pc = .waiting → s.token = true → Move s .reader { s with pc := .top, token := s.closing }

theorem step_move {s s' : St} {a : Act} (h : step s a = some s') : Move s a s' := by
  revert h
  fun_cases step s a <;> rintro ⟨⟩
  · exact .refuse _ ‹_›
  · exact .accept _ (Bool.eq_false_iff.mpr ‹_›)
  · exact .close
  · exact .stop ‹_› ‹_›
  · exact .pop _ _ ‹_› (Bool.eq_false_iff.mpr ‹_›) ‹_›
  · exact .sleep ‹_› (Bool.eq_false_iff.mpr ‹_›) ‹_›
  · exact .finish _ ‹_›
  · exact .wake ‹_› ‹_›

theorem step_accept (s : St) (m : Nat) : step s (.accept m) =
    some (if s.closing then s else { s with queue := s.queue ++ [m], token := true, accepted := s.accepted ++ [m] }) := by
  simp only [step]; split <;> rfl

theorem step_accept_getD (s : St) (m : Nat) : step s (.accept m) = some ((step s (.accept m)).getD s) := by
  rw [step_accept]; rfl

theorem step_accept_pc (c : St) (p : RPc) (m : Nat) :
    step { c with pc := p } (.accept m) = (step c (.accept m)).map fun t => { t with pc := p } := by
  simp only [step]; split <;> rfl

theorem reader_blocked {s : St} (h : step s .reader = none) :
    (s.pc = .waiting ∧ s.token = false) ∨ s.pc = .stopped := by
  revert h
  fun_cases step s .reader <;> rintro ⟨⟩
  · exact .inl ⟨‹_›, Bool.eq_false_iff.mpr ‹_›⟩
  · exact .inr ‹_›

theorem length_cur_le (s : St) : (cur s).length ≤ 1 := by
  unfold cur; split
  · exact Nat.le_refl 1
  · exact Nat.zero_le 1

theorem inv_init : Inv {} := ⟨rfl, rfl, fun h => nomatch h⟩

theorem inv_step (s s' : St) (a : Act) (h : Inv s) (hs : step s a = some s') : Inv s' := by
  obtain ⟨ho, hst, hw⟩ := h
  cases step_move hs with
  | refuse => exact ⟨ho, hst, hw⟩
  | accept m => exact ⟨(congrArg (· ++ [m]) ho).trans (List.append_assoc _ _ _), hst, fun _ _ => rfl⟩
  | close => exact ⟨ho, hst, fun _ _ => rfl⟩
  | stop hpc | wake hpc =>
    simp only [cur, hpc] at ho hst
    exact ⟨ho, hst, fun hp => nomatch hp⟩
  | pop m q hpc _ hq =>
    simp only [cur, hpc, hq, List.append_nil] at ho hst
    exact ⟨ho.trans (List.append_cons _ m q), congrArg (· ++ [m]) hst, fun hp => nomatch hp⟩
  | sleep hpc _ hq =>
    simp only [cur, hpc] at ho hst
    exact ⟨ho, hst, fun _ hne => absurd hq hne⟩
  | finish m hpc =>
    simp only [cur, hpc] at ho hst
    exact ⟨ho.trans (congrArg (· ++ s.queue) (List.append_nil _).symm), hst.trans (List.append_nil _).symm,
      fun hp => nomatch hp⟩

/-- a stopped reader belongs to a closed instance (the reader only returns after `closeDispatch`) -/
def Stop (s : St) : Prop := s.pc = .stopped → s.closing = true

theorem stop_step (s s' : St) (a : Act) (h : Stop s) (hs : step s a = some s') : Stop s' := by
  cases step_move hs with
  | refuse | accept => exact h
  | close => exact fun _ => rfl
  | stop _ hc => exact fun _ => hc
  | pop | sleep | finish | wake => exact fun hp => nomatch hp

theorem closing_mono {s s' : St} {a : Act} (hs : step s a = some s') (hc : s.closing = true) : s'.closing = true := by
  cases step_move hs with
  | close => rfl
  | refuse | accept | stop | pop | sleep | finish | wake => exact hc

theorem step_closing {s s' : St} {a : Act} (hs : step s a = some s') (ha : a ≠ .close) : s'.closing = s.closing := by
  cases step_move hs with
  | close => exact absurd rfl ha
  | refuse | accept | stop | pop | sleep | finish | wake => rfl

theorem reachable {as : List Act} {s : St} (hr : run {} as = some s) : Inv s ∧ Stop s := by
  cases (run_eq_runT as {}).symm.trans hr
  exact runT_skips.inv (P := fun s => Inv s ∧ Stop s)
    (fun s s' a h hs => ⟨inv_step s s' a h.1 hs, stop_step s s' a h.2 hs⟩) as {} ⟨inv_init, fun hp => nomatch hp⟩

theorem Inv.started_prefix {s : St} (h : Inv s) : s.started <+: s.accepted :=
  ⟨s.queue, by rw [h.start, h.order]⟩

theorem Inv.one_running {s : St} (h : Inv s) :
    ∃ running, s.started = s.finished ++ running ∧ running.length ≤ 1 :=
  ⟨cur s, h.start, length_cur_le s⟩

/-- `c05_quiescent_all_handled` from the invariants alone -/
theorem quiescent_of_inv (s : St) (h : Inv s) (hstop : Stop s)
    (hblocked : step s .reader = none) (hc : s.closing = false) :
    s.finished = s.accepted ∧ s.queue = [] := by
  rcases reader_blocked hblocked with ⟨hpc, ht⟩ | hpc
  · have hq : s.queue = [] := Decidable.byContradiction fun hne => nomatch ht.symm.trans (h.wake hpc hne)
    have ho := h.order
    simp only [cur, hpc, hq, List.append_nil] at ho
    exact ⟨ho.symm, hq⟩
  · exact nomatch (hstop hpc).symm.trans hc

/-- a server schedule: disabled actions are skipped -/
def srun (s : Server) : List SAct → Server
  | [] => s
  | a :: as => match sstep s a with
      | some s' => srun s' as
      | none => srun s as

/-- the actions of a server schedule that concern instance `j` -/
def proj (j : Nat) : List SAct → List Act
  | [] => []
  | .at i a :: as => if i = j then a :: proj j as else proj j as

theorem srun_skips : Sched.Skips sstep srun := ⟨fun _ => rfl, fun s a as => by rw [srun]; cases sstep s a <;> rfl⟩

theorem sstep_getD (s : Server) (i j : Nat) (a : Act) :
    (sstep s (.at i a)).getD s j = if i = j then (step (s j) a).getD (s j) else s j := by
  show ((step (s i) a).map _).getD s j = _
  by_cases hij : i = j
  · subst hij
    rw [if_pos rfl]
    cases step (s i) a with
    | none => rfl
    | some t => exact if_pos rfl
  · rw [if_neg hij]
    cases step (s i) a with
    | none => rfl
    | some t => exact if_neg (Ne.symm hij)

end C05

import OnetVerif.Model.C11Store
/-! The tree store's step, field by field (`step1_eq`) and what follows from that for the stored tree, the scheduled
removal and the generations; what the whole store's `step` does at one id; invariants along `run1`. -/
namespace C11.Store

theorem step1_eq (t : St1) (o : Op1) : step1 t o =
    { slot := match o with
        | .register => (match t.slot with | .absent => .requested | x => x)
        | .unregister => (match t.slot with | .requested => .absent | x => x)
        | .set c => .present c
        | .reap g => if g ∈ t.firing ∧ t.armed = some g then .absent else t.slot
        | _ => t.slot
      armed := match o with
        | .refresh | .set _ | .close => none
        | .remove => if t.closed then t.armed else some (t.armed.getD t.gen)
        | .reap g => if g ∈ t.firing ∧ t.armed = some g then none else t.armed
        | _ => t.armed
      gen := match o with
        | .remove => if t.closed then t.gen else (match t.armed with | some _ => t.gen | none => t.gen + 1)
        | _ => t.gen
      firing := match o with
        | .timer => (match t.armed with | some g => if g ∈ t.firing then t.firing else t.firing ++ [g] | none => t.firing)
        | .reap g => if g ∈ t.firing then t.firing.filter (· != g) else t.firing
        | _ => t.firing
      closed := match o with
        | .close => true
        | _ => t.closed } := by
  obtain ⟨sl, ar, gn, fi, cl⟩ := t
  cases o with
  | register | unregister => cases sl <;> rfl
  | remove => cases cl <;> cases ar <;> rfl
  | timer =>
    cases ar with
    | none => rfl
    | some g => simp only [step1]; split <;> rfl
  | reap g =>
    simp only [step1]
    by_cases hg : g ∈ fi
    · by_cases ha : ar = some g
      · simp only [if_pos hg, if_pos ha, if_pos (And.intro hg ha)]
      · simp only [if_pos hg, if_neg ha, if_neg fun h : _ ∧ _ => ha h.2]
    · simp only [if_neg hg, if_neg fun h : _ ∧ _ => hg h.1]
  | _ => rfl

theorem step1_gen_le (t : St1) (o : Op1) : t.gen ≤ (step1 t o).gen := by
  rw [step1_eq]
  cases o with
  | remove =>
    dsimp only
    split
    · exact Nat.le_refl _
    · split
      · exact Nat.le_refl _
      · exact Nat.le_succ _
  | _ => exact Nat.le_refl _

theorem step1_firing {t : St1} {o : Op1} {g : Nat} (h : g ∈ (step1 t o).firing) :
    g ∈ t.firing ∨ (o = .timer ∧ t.armed = some g) := by
  rw [step1_eq] at h
  cases o with
  | timer =>
    dsimp only at h
    split at h
    · split at h
      · exact .inl h
      · rcases List.mem_append.1 h with h | h
        · exact .inl h
        · rw [List.mem_singleton.1 h]; exact .inr ⟨rfl, ‹_›⟩
    · exact .inl h
  | reap g' =>
    dsimp only at h
    split at h
    · exact .inl (List.mem_filter.1 h).1
    · exact .inl h
  | _ => exact .inl h

theorem step1_armed_some {t : St1} {o : Op1} {a : Nat} (h : (step1 t o).armed = some a) :
    t.armed = some a ∨ (a = t.gen ∧ (step1 t o).gen = t.gen + 1) := by
  rw [step1_eq] at h ⊢
  cases o with
  | remove =>
    dsimp only at h ⊢
    by_cases hc : t.closed = true
    · rw [if_pos hc] at h; exact .inl h
    · rw [if_neg hc] at h ⊢
      cases ha : t.armed with
      | some g => rw [ha] at h; exact .inl h
      | none => rw [ha] at h; cases h; exact .inr ⟨rfl, rfl⟩
  | reap g =>
    dsimp only at h
    split at h
    · cases h
    · exact .inl h
  | refresh | set c | close => cases h
  | _ => exact .inl h

theorem reap_unarmed (t : St1) (g : Nat) (h : t.armed = none) :
    (step1 t (.reap g)).slot = t.slot ∧ (step1 t (.reap g)).armed = none ∧
    (step1 t (.reap g)).closed = t.closed := by
  have hn : ¬ (g ∈ t.firing ∧ t.armed = some g) := fun hc => by rw [h] at hc; cases hc.2
  rw [step1_eq]
  exact ⟨if_neg hn, (if_neg hn).trans h, rfl⟩

theorem timer_unarmed (t : St1) (h : t.armed = none) : step1 t .timer = t := by
  simp [step1, h]

theorem remove_closed (t : St1) (h : t.closed = true) : step1 t .remove = t := by
  simp [step1, h]

theorem step1_present {t : St1} {c : Nat} (h : t.slot = .present c) (o : Op1) (hset : ∀ c', o ≠ .set c')
    (hreap : ∀ g, o = .reap g → ¬ (g ∈ t.firing ∧ t.armed = some g)) : (step1 t o).slot = .present c := by
  rw [step1_eq]
  cases o with
  | register | unregister => dsimp only; rw [h]
  | set c' => exact absurd rfl (hset c')
  | reap g => exact (if_neg (hreap g rfl)).trans h
  | _ => exact h

theorem step1_unarmed {t : St1} (h : t.armed = none) (o : Op1) (hrem : o = .remove → t.closed = true) :
    (step1 t o).armed = none := by
  rw [step1_eq]
  cases o with
  | remove => exact (if_pos (hrem rfl)).trans h
  | reap g =>
    dsimp only
    split
    · rfl
    · exact h
  | refresh | set c | close => rfl
  | _ => exact h

theorem step1_stays_closed {t : St1} (h : t.closed = true) (o : Op1) : (step1 t o).closed = true := by
  rw [step1_eq]
  cases o with
  | close => rfl
  | _ => exact h

theorem run1_inv {P : St1 → Prop} {Q : Op1 → Prop} (hstep : ∀ t o, Q o → P t → P (step1 t o)) :
    ∀ (ops : List Op1) (t : St1), (∀ o ∈ ops, Q o) → P t → P (run1 t ops)
  | [], _, _, h => h
  | o :: os, t, hq, h =>
    run1_inv hstep os _ (fun o' ho' => hq o' (List.mem_cons_of_mem _ ho')) (hstep t o (hq o (List.mem_cons_self ..)) h)

theorem step_on (s : St) (id : Nat) {o : Op1} (h : o ≠ .close) :
    step s (.on id o) = { s with at_ := upd s.at_ id (step1 (s.at_ id) o) } := by
  cases o with
  | close => exact absurd rfl h
  | _ => rfl

theorem at_step (s : St) (o : Op) (id : Nat) :
    (step s o).at_ id = match restrict id o with
      | some o1 => step1 (s.at_ id) o1
      | none => s.at_ id := by
  cases o with
  | close => rfl
  | on j o' =>
    simp only [restrict]
    by_cases hc : o' = .close
    · subst hc; rw [if_neg fun h => h.2 rfl]; rfl
    · rw [step_on s j hc]
      by_cases e : j = id
      · subst e; rw [if_pos ⟨rfl, hc⟩]; exact if_pos rfl
      · rw [if_neg fun h => e h.1]; exact if_neg fun h => e h.symm

end C11.Store

import OnetVerif.Proofs.C20Lemmas
import OnetVerif.Proofs.GenRt
/-! Helper lemmas for the equivalence theorems `c20_gen_*` (Props/C20.lean) between the definitions
regenerated from the Go source (`Gen/C20.lean`) and the hand-written model: the tests the translation spells with
`len`, `strings.Count` and nested `if`s, and `R.ofGen`.  Core-only. -/
namespace C20
open Gen.Rt

theorem ite_or' {α : Sort _} {a b : Prop} [Decidable a] [Decidable b] (x y : α) :
    (if a ∨ b then x else y) = if a then x else if b then x else y := by
  by_cases a <;> by_cases b <;> simp [*]

theorem len_eq_zero' {α : Type} (xs : List α) : len xs = 0 ↔ xs = [] := by
  cases xs <;> simp [len]
  omega

/-- `strings.Count(s, ".") == 0` ⇔ no dot in `s` -/
theorem count_zero (c : Nat) (s : Str) : (Int.ofNat (List.count c s) == 0) = !s.contains c := by
  by_cases h : c ∈ s
  · have : List.count c s ≠ 0 := fun e => List.count_eq_zero.mp e h
    simpa [h] using this
  · simp [h, List.count_eq_zero.mpr h]

theorem len_splitByte_eq_one (c : Nat) (s : Str) : (len (splitByte c s) == 1) = !s.contains c := by
  rw [← count_zero, len, length_splitByte]
  exact Bool.eq_iff_iff.mpr (by simp only [beq_iff_eq, Int.ofNat_eq_natCast]; omega)

/-- how the result of a generated definition for a Go function returning `(string, error)` reads as
the model's three-valued result: outer `none` = panic, inner `none` = a non-nil error -/
def R.ofGen : Option (Option Str) → R
  | none => .panic
  | some none => .err
  | some (some s) => .ok s

end C20

import OnetVerif.Model.C16Core
/-! C16 helper definitions and lemmas: bucket names owned by a service, independence of service
names, the per-service specification (`Spec`, with `lastSaved` for its main map after a history), the
abstraction from a database to it, the `int32` of the version cell. Core only. -/
namespace C16

/-- `b` is neither `a ++ "version"` nor `a ++ "_" ++ x` -/
def NoExt (a b : Bytes) : Prop := b ≠ a ++ sVersion ∧ ∀ x, b ≠ a ++ [cUnderscore] ++ x

/-- the premise of the property on two service names: different, and neither is a
"version"/"_" extension of the other -/
def Indep (a b : Bytes) : Prop := a ≠ b ∧ NoExt a b ∧ NoExt b a

theorem Indep.symm {a b : Bytes} (h : Indep a b) : Indep b a := ⟨fun e => h.1 e.symm, h.2.2, h.2.1⟩

/-- the bucket names a service's context can name -/
inductive Owns (svc : Bytes) : Bytes → Prop
  | main : Owns svc (mainName svc)
  | version : Owns svc (versionName svc)
  | extra (x : Bytes) : Owns svc (extraName svc x)

/-- what follows the service name in a bucket name -/
def Ext (t : Bytes) : Prop := t = [] ∨ t = sVersion ∨ ∃ x, t = cUnderscore :: x

theorem Owns.ext {a n : Bytes} : Owns a n → ∃ t, Ext t ∧ n = a ++ t
  | .main => ⟨[], .inl rfl, (List.append_nil a).symm⟩
  | .version => ⟨sVersion, .inr (.inl rfl), rfl⟩
  | .extra x => ⟨cUnderscore :: x, .inr (.inr ⟨x, rfl⟩), List.append_assoc a [cUnderscore] x⟩

/-- holds because `'_'` does not occur in `"version"` -/
theorem Ext.of_append {w t u : Bytes} (ht : Ext t) (hu : Ext u) (h : t = w ++ u) : Ext w := by
  rcases ht with rfl | rfl | ⟨x, rfl⟩
  · exact .inl (List.nil_eq_append_iff.mp h).1
  · rcases hu with rfl | rfl | ⟨x, rfl⟩
    · exact .inr (.inl (h.trans (List.append_nil w)).symm)
    · exact .inl (List.append_left_eq_self.mp h.symm)
    · have : cUnderscore ∈ sVersion := h ▸ List.mem_append_right w List.mem_cons_self
      exact absurd this (by decide)
  · cases w with
    | nil => exact .inl rfl
    | cons c w => exact .inr (.inr ⟨w, (List.cons.inj h).1 ▸ rfl⟩)

theorem NoExt.ne {a b : Bytes} (hne : a ≠ b) (h : NoExt a b) {w : Bytes} (hw : Ext w) : b ≠ a ++ w := by
  rcases hw with rfl | rfl | ⟨x, rfl⟩
  · exact fun e => hne (e.trans (List.append_nil a)).symm
  · exact h.1
  · exact fun e => h.2 x (e.trans (List.append_assoc a [cUnderscore] x).symm)

theorem names_disjoint {a b : Bytes} (h : Indep a b) {n : Bytes} (ha : Owns a n) (hb : Owns b n) : False := by
  obtain ⟨t, ht, rfl⟩ := ha.ext
  obtain ⟨u, hu, e⟩ := hb.ext
  -- one of the two service names is a prefix of the other; what follows it is an extension
  rcases List.append_eq_append_iff.mp e with ⟨w, hw, htu⟩ | ⟨w, hw, hut⟩
  · exact h.2.1.ne h.1 (ht.of_append hu htu) hw
  · exact h.2.2.ne (Ne.symm h.1) (hu.of_append ht hut) hw

theorem main_ne_version (s : Bytes) : mainName s ≠ versionName s :=
  fun h => absurd (List.self_eq_append_right.mp h) (by decide)

theorem main_ne_extra (s x : Bytes) : mainName s ≠ extraName s x :=
  fun h => nomatch List.self_eq_append_right.mp (h.trans (List.append_assoc s [cUnderscore] x))

theorem version_ne_extra (s x : Bytes) : versionName s ≠ extraName s x :=
  fun h => absurd (List.cons.inj (List.append_cancel_left (h.trans (List.append_assoc s [cUnderscore] x)))).1
    (by decide)

theorem extra_inj (s x y : Bytes) : extraName s x = extraName s y ↔ x = y :=
  ⟨List.append_cancel_left, congrArg _⟩

def PairwiseIndep (S : List Bytes) : Prop := ∀ a ∈ S, ∀ b ∈ S, a ≠ b → Indep a b

theorem noExt_of_not_prefix {a b : Bytes} (h : ¬ a <+: b) : NoExt a b :=
  ⟨fun e => h ⟨sVersion, e.symm⟩, fun x e => h ⟨[cUnderscore] ++ x, by rw [e, List.append_assoc]⟩⟩

theorem pairwiseIndep_of_not_prefix {S : List Bytes} (h : ∀ a ∈ S, ∀ b ∈ S, a ≠ b → ¬ a <+: b) :
    PairwiseIndep S :=
  fun a ha b hb hne => ⟨hne, noExt_of_not_prefix (h a ha b hb hne), noExt_of_not_prefix (h b hb a ha (Ne.symm hne))⟩

/-- replace (or create) bucket `n` -/
def update (db : Db) (n : Bytes) (b : Bucket) : Db := fun m => if m = n then some b else db m

theorem update_same (db : Db) (n : Bytes) (b : Bucket) : update db n b n = some b := if_pos rfl
theorem update_other (db : Db) (n m : Bytes) (b : Bucket) (h : m ≠ n) : update db n b m = db m := if_neg h

theorem update_isSome (db : Db) (n m : Bytes) (b : Bucket) (h : (db m).isSome) : (update db n b m).isSome := by
  unfold update; split
  · rfl
  · exact h

theorem createBucket_eq (db : Db) (n : Bytes) : createBucket db n = update db n ((db n).getD fun _ => none) := rfl

/-- what is stored under `k` in bucket `n` (nothing if the bucket does not exist) -/
def content (db : Db) (n k : Bytes) : Option Bytes := (db n).bind (· k)

theorem content_update (db : Db) (n m k : Bytes) (b : Bucket) :
    content (update db n b) m k = if m = n then b k else content db m k := by
  unfold content update; split <;> rfl

theorem content_create (db : Db) (n m k : Bytes) : content (createBucket db n) m k = content db m k := by
  rw [createBucket_eq, content_update]; split
  next h => subst h; unfold content; cases db m <;> rfl
  next => rfl

/-- the main and the version bucket of the service exist (true from `newContext` on) -/
def Ready (db : Db) (s : Bytes) : Prop := (db (mainName s)).isSome ∧ (db (versionName s)).isSome

theorem ready_update (db : Db) (n : Bytes) (b : Bucket) (t : Bytes) (h : Ready db t) : Ready (update db n b) t :=
  ⟨update_isSome _ _ _ _ h.1, update_isSome _ _ _ _ h.2⟩

theorem ready_newContext (db : Db) (s : Bytes) : Ready (newContext db s) s :=
  ⟨update_isSome _ _ _ _ (by rw [createBucket_eq, update_same]; rfl),
   by rw [newContext, createBucket_eq, update_same]; rfl⟩

theorem ready_newContext_other (db : Db) (s t : Bytes) (h : Ready db t) : Ready (newContext db s) t :=
  ready_update _ _ _ t (ready_update _ _ _ t h)

theorem ready_startServer (db : Db) (l : List Bytes) (t : Bytes) (h : Ready db t ∨ t ∈ l) :
    Ready (startServer db l) t := by
  induction l generalizing db with
  | nil => exact h.resolve_right List.not_mem_nil
  | cons s l ih =>
    refine ih _ (h.elim (fun h => .inl (ready_newContext_other db s t h)) fun h => ?_)
    rcases List.mem_cons.mp h with rfl | h
    · exact .inl (ready_newContext db t)
    · exact .inr h

theorem ready_startServer_self (db : Db) (l : List Bytes) : ∀ t ∈ l, Ready (startServer db l) t :=
  fun t ht => ready_startServer db l t (.inr ht)

theorem content_startServer (db : Db) (l : List Bytes) (m k : Bytes) :
    content (startServer db l) m k = content db m k := by
  induction l generalizing db with
  | nil => rfl
  | cons s l ih => exact (ih _).trans ((content_create ..).trans (content_create ..))

/-- a restart leaves alone every bucket that is not a main or version bucket of a started service -/
theorem startServer_other (db : Db) (l : List Bytes) (m : Bytes)
    (h : ∀ s ∈ l, m ≠ mainName s ∧ m ≠ versionName s) : startServer db l m = db m := by
  induction l generalizing db with
  | nil => rfl
  | cons s l ih =>
    have hs := h s List.mem_cons_self
    exact (ih _ fun t ht => h t (List.mem_cons_of_mem _ ht)).trans
      ((update_other _ _ _ _ hs.2).trans (update_other _ _ _ _ hs.1))

/-! ### The specification: one map (plus version cell, plus named buckets) per service -/

structure Spec where
  main : Bytes → Bytes → Option Bytes
  ver : Bytes → Option Bytes
  extra : Bytes → Bytes → Option Bucket

def validKey (k : Bytes) : Prop := ¬ (k = [] ∨ k.length > maxKeySize)
instance (k : Bytes) : Decidable (validKey k) := by unfold validKey; infer_instance

theorem dbVersionKey_valid : validKey dbVersionKey := by decide

/-- the same calls on the specification -/
def specStep (known : List Bytes) (σ : Spec) (s : Bytes) : Op → Spec × Res
  | .save k raw =>
    if validKey k then
      ({ σ with main := fun s' k' => if s' = s ∧ k' = k then some raw else σ.main s' k' }, .ok)
    else (σ, .errTx)
  | .saveBad _ => (σ, .errMarshal)
  | .load k =>
    (σ, match σ.main s k with
        | none => .nothing
        | some raw => if decodable known raw then .val raw else .errUnmarshal)
  | .loadRaw k =>
    (σ, match σ.main s k with
        | none => .nothing
        | some raw => .val raw)
  | .saveVersion v => ({ σ with ver := fun s' => if s' = s then some (encodeVersion v) else σ.ver s' }, .ok)
  | .loadVersion =>
    (σ, match σ.ver s with
        | none => .ver 0
        | some [] => .ver 0
        | some b =>
          match decodeVersion b with
          | some v => .ver v
          | none => .errVersion)
  | .addBucket x =>
    ({ σ with extra := fun s' x' =>
        if s' = s ∧ x' = x then some ((σ.extra s x).getD fun _ => none) else σ.extra s' x' },
     .name (extraName s x))
  | .bput x k v =>
    match σ.extra s x with
    | none => (σ, .noBucket)
    | some b =>
      if validKey k then
        ({ σ with extra := fun s' x' =>
            if s' = s ∧ x' = x then some (fun k' => if k' = k then some v else b k') else σ.extra s' x' }, .ok)
      else (σ, .errTx)
  | .bget x k =>
    match σ.extra s x with
    | none => (σ, .noBucket)
    | some b =>
      (σ, match b k with
          | none => .nothing
          | some v => .val v)
  | .bdel x k =>
    match σ.extra s x with
    | none => (σ, .noBucket)
    | some b =>
      ({ σ with extra := fun s' x' =>
          if s' = s ∧ x' = x then some (fun k' => if k' = k then none else b k') else σ.extra s' x' }, .ok)

/-- a history on the specification: restarts are invisible -/
def specRun (known : List Bytes) (σ : Spec) : List Ev → Spec × List Res
  | [] => (σ, [])
  | .call svc op :: rest =>
    let r := specStep known σ svc op
    let r' := specRun known r.1 rest
    (r'.1, r.2 :: r'.2)
  | .restart _ :: rest => specRun known σ rest

/-- the value the specification holds under `(s, k)` after a history: the one of the latest
successful `Save` by `s` under `k`, else what was there before -/
def lastSaved (s k : Bytes) : List Ev → Option Bytes → Option Bytes
  | [], acc => acc
  | .call s' (.save k' raw) :: r, acc =>
    if s' = s ∧ k' = k ∧ validKey k' then lastSaved s k r (some raw) else lastSaved s k r acc
  | _ :: r, acc => lastSaved s k r acc

private theorem specStep_main (known : List Bytes) (σ : Spec) (s' : Bytes) (op : Op) (s k : Bytes) :
    (specStep known σ s' op).1.main s k =
      match op with
      | .save k' raw => if s' = s ∧ k' = k ∧ validKey k' then some raw else σ.main s k
      | _ => σ.main s k := by
  cases op with
  | save k' raw =>
    dsimp only [specStep]
    by_cases hk : validKey k'
    · rw [if_pos hk]
      by_cases e : s = s' ∧ k = k'
      · exact (if_pos e).trans (if_pos ⟨e.1.symm, e.2.symm, hk⟩).symm
      · exact (if_neg e).trans (if_neg fun h => e ⟨h.1.symm, h.2.1.symm⟩).symm
    · rw [if_neg hk]; exact (if_neg fun h => hk h.2.2).symm
  | bput x k' v =>
    dsimp only [specStep]
    cases σ.extra s' x with
    | none => rfl
    | some b =>
      dsimp only
      by_cases hk : validKey k'
      · rw [if_pos hk]
      · rw [if_neg hk]
  | bget x k' => dsimp only [specStep]; cases σ.extra s' x <;> rfl
  | bdel x k' => dsimp only [specStep]; cases σ.extra s' x <;> rfl
  | _ => rfl

theorem spec_main_run (known : List Bytes) (σ : Spec) (evs : List Ev) (s k : Bytes) :
    (specRun known σ evs).1.main s k = lastSaved s k evs (σ.main s k) := by
  induction evs generalizing σ with
  | nil => rfl
  | cons e evs ih =>
    cases e with
    | restart l => exact ih σ
    | call s' op =>
      show (specRun known (specStep known σ s' op).1 evs).1.main s k = _
      rw [ih, specStep_main]
      cases op with
      | save k' raw => simp only [lastSaved]; split <;> rfl
      | _ => rfl

/-- what the services see of a database -/
def abs (db : Db) : Spec where
  main := fun s k => content db (mainName s) k
  ver := fun s => content db (versionName s) dbVersionKey
  extra := fun s x => db (extraName s x)

/-- two specification states agree on the services in `S` -/
def AgreeOn (S : List Bytes) (σ₁ σ₂ : Spec) : Prop :=
  ∀ s ∈ S, σ₁.main s = σ₂.main s ∧ σ₁.ver s = σ₂.ver s ∧ σ₁.extra s = σ₂.extra s

/-- `AgreeOn` at one service (`agreeOn_iff`) -/
def SameAt (s : Bytes) (σ₁ σ₂ : Spec) : Prop :=
  σ₁.main s = σ₂.main s ∧ σ₁.ver s = σ₂.ver s ∧ σ₁.extra s = σ₂.extra s

theorem agreeOn_iff {S : List Bytes} {σ₁ σ₂ : Spec} : AgreeOn S σ₁ σ₂ ↔ ∀ s ∈ S, SameAt s σ₁ σ₂ := Iff.rfl

theorem SameAt.refl (s : Bytes) (σ : Spec) : SameAt s σ σ := ⟨rfl, rfl, rfl⟩

theorem SameAt.symm {s : Bytes} {a b : Spec} (h : SameAt s a b) : SameAt s b a :=
  ⟨h.1.symm, h.2.1.symm, h.2.2.symm⟩

theorem SameAt.trans {s : Bytes} {a b c : Spec} (h1 : SameAt s a b) (h2 : SameAt s b c) : SameAt s a c :=
  ⟨h1.1.trans h2.1, h1.2.1.trans h2.2.1, h1.2.2.trans h2.2.2⟩

theorem AgreeOn.refl (S : List Bytes) (σ : Spec) : AgreeOn S σ σ :=
  agreeOn_iff.mpr fun s _ => SameAt.refl s σ

theorem AgreeOn.trans {S : List Bytes} {a b c : Spec} (h1 : AgreeOn S a b) (h2 : AgreeOn S b c) : AgreeOn S a c :=
  agreeOn_iff.mpr fun s hs => SameAt.trans (agreeOn_iff.mp h1 s hs) (agreeOn_iff.mp h2 s hs)

/-! ### The version cell (`SaveVersion`, `LoadVersion`) -/

/-- `int32(v)` -/
def toInt32 (v : Int) : Int := (v + 2147483648) % 4294967296 - 2147483648

theorem le32_digits (u : Nat) :
    u % 256 + 256 * (u / 256 % 256) + 65536 * (u / 65536 % 256) + 16777216 * (u / 16777216 % 256)
      = u % 4294967296 := by
  rw [show 4294967296 = 16777216 * 256 from rfl, Nat.mod_mul, show 16777216 = 65536 * 256 from rfl,
    Nat.mod_mul, show 65536 = 256 * 256 from rfl, Nat.mod_mul]

theorem wrap32_cast (v : Int) : (wrap32 v : Int) = v % 4294967296 :=
  Int.toNat_of_nonneg (Int.emod_nonneg _ (by decide))

theorem toInt32_eq (v : Int) : toInt32 v = Int.bmod v 4294967296 :=
  .symm <| (Int.bmod_eq_iff (by decide)).mpr
    ⟨Int.le_sub_left_of_add_le (Int.emod_nonneg _ (by decide)),
     Int.sub_left_lt_of_lt_add (Int.emod_lt_of_pos _ (by decide)),
     by rw [toInt32, Int.sub_sub, Int.add_comm 2147483648]; exact Int.dvd_emod_sub_self⟩

theorem decode_encode_version (v : Int) : decodeVersion (encodeVersion v) = some (toInt32 v) := by
  have hu : wrap32 v < 4294967296 := Int.ofNat_lt.mp (wrap32_cast v ▸ Int.emod_lt_of_pos _ (by decide))
  have hlt : (wrap32 v : Int) < 2147483648 ↔ wrap32 v < 2147483648 := Int.ofNat_lt
  -- the four bytes are the base-256 digits of `u = wrap32 v < 2^32`: decoded they sum to `u` again (`le32_digits`)
  have hdec : decodeVersion (encodeVersion v) =
      some (if wrap32 v < 2147483648 then (wrap32 v : Int) else (wrap32 v : Int) - 4294967296) := by
    simp only [encodeVersion, decodeVersion, Nat.mod_mod, le32_digits, Nat.mod_eq_of_lt hu]
  -- and `Int.bmod v 2^32` unfolds to that sign test on `v % 2^32`, which is `u` read as an integer
  rw [hdec, toInt32_eq]
  simp only [← hlt, wrap32_cast]
  rfl

end C16

/-! Lower-case hexadecimal text of a byte string (Go's `encoding/hex`, `%x`) with characters and bytes as `Nat`s: one
encoder and one decoder, and what several properties need of them — length, decoding what was encoded (in either case
of the letters), injectivity on bytes.  A model keeps its own encoder and decoder; where a property uses these facts it
first proves its own functions equal to `Hex.enc` and `Hex.dec`.  Core only. -/
namespace Hex

def digit (n : Nat) : Nat := if n < 10 then 48 + n else 87 + n

def enc : List Nat → List Nat
  | [] => []
  | b :: r => digit (b / 16) :: digit (b % 16) :: enc r

/-- `0-9`, `a-f`, `A-F` -/
def val (c : Nat) : Option Nat :=
  if 48 ≤ c ∧ c ≤ 57 then some (c - 48)
  else if 97 ≤ c ∧ c ≤ 102 then some (c - 87)
  else if 65 ≤ c ∧ c ≤ 70 then some (c - 55)
  else none

/-- pairs of digits; an odd length or a character that is no digit is an error -/
def dec : List Nat → Option (List Nat)
  | [] => some []
  | [_] => none
  | a :: b :: r =>
    match val a, val b, dec r with
    | some x, some y, some t => some ((x * 16 + y) :: t)
    | _, _, _ => none

theorem val_digit : ∀ n < 16, val (digit n) = some n := by decide

theorem digit_inj {a b : Nat} (ha : a < 16) (hb : b < 16) (h : digit a = digit b) : a = b :=
  Option.some.inj (by rw [← val_digit a ha, h, val_digit b hb])

theorem enc_length (l : List Nat) : (enc l).length = 2 * l.length := by
  induction l with
  | nil => rfl
  | cons b r ih => rw [enc, List.length_cons, List.length_cons, ih, List.length_cons, Nat.mul_succ]

/-- `f`: another spelling of the digits (upper case) -/
theorem dec_map_enc (f : Nat → Nat) (hf : ∀ n < 16, val (f (digit n)) = some n) {l : List Nat}
    (hl : ∀ b ∈ l, b < 256) : dec ((enc l).map f) = some l := by
  induction l with
  | nil => rfl
  | cons b r ih =>
    rw [enc, List.map_cons, List.map_cons, dec, hf _ (Nat.div_lt_of_lt_mul (hl b (.head _))),
      hf _ (Nat.mod_lt _ (by decide)), ih fun x hx => hl x (.tail _ hx)]
    exact congrArg (some <| · :: r) (Nat.div_add_mod' b 16)

theorem dec_enc {l : List Nat} (hl : ∀ b ∈ l, b < 256) : dec (enc l) = some l := by
  rw [← dec_map_enc id val_digit hl, List.map_id]

theorem enc_inj {a b : List Nat} (ha : ∀ x ∈ a, x < 256) (hb : ∀ x ∈ b, x < 256) (h : enc a = enc b) : a = b :=
  Option.some.inj (by rw [← dec_enc ha, h, dec_enc hb])

end Hex

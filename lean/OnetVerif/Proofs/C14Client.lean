import OnetVerif.Proofs.C14Model
/-! Property C14, the client side — the invariants of the client models `KCl`, `Par`, `QPar`, `MCl`: who is between `Lock` and
`Unlock` (or has won) and what the connections then carry.  `Cl` has no invariant of its own: its runs are runs of `KCl`
(`clRun_toK`). -/
namespace C14

/-! ### the client: kept and single-use connections, failures, redial -/

def KPc.holding : KPc → Prop
  | .locked _ => True
  | .dialing _ => True
  | .ready _ _ => True
  | .written _ _ => True
  | _ => False

def KPc.lockRef : KPc → Option Nat
  | .ref l => some l
  | .locked l => some l
  | .dialing l => some l
  | .ready l _ => some l
  | .written l _ => some l
  | _ => none

/-- every connection other than `c` carries nothing -/
def QuietBut (conns : List KConn) (c : Option Nat) : Prop :=
  ∀ (j : Nat) k, conns[j]? = some k → some j ≠ c → k.up = [] ∧ k.down = []

/-- the connection in the client's map exists and can carry a request -/
def CurAlive (y : KCl) : Prop :=
  ∀ c, y.cur = some c → ∃ k, y.conns[c]? = some k ∧ k.dead = false ∧ k.closed = false

/-- who is between `Lock` and `Unlock`, and what the connections carry -/
def KHolder (respond : Bytes → Option Bytes) (y : KCl) : Prop :=
  ∃ h : Option Nat,
    (∀ (j : Nat) q pc, y.callers[j]? = some (q, pc) → pc.holding → h = some j) ∧
    match h with
    | none => (y.locks = [] ∨ y.locks = [false]) ∧ QuietBut y.conns none ∧ CurAlive y
    | some i => y.locks = [true] ∧ ∃ q,
        ((y.callers[i]? = some (q, .locked 0) ∨ y.callers[i]? = some (q, .dialing 0)) ∧
          QuietBut y.conns none ∧ CurAlive y) ∨
        (∃ c, y.callers[i]? = some (q, .ready 0 c) ∧ y.cur = some c ∧ QuietBut y.conns none ∧ CurAlive y) ∨
        (∃ c k, y.callers[i]? = some (q, .written 0 c) ∧ y.cur = some c ∧ QuietBut y.conns (some c) ∧
          y.conns[c]? = some k ∧ k.closed = false ∧
          ((k.up = [q] ∧ k.down = [] ∧ k.dead = false) ∨
           (k.up = [] ∧ k.down = [respond q] ∧ k.dead = (respond q).isNone)))

/-- invariant of `Client.Send` as it is: finished callers hold what the server owes to their own
request; one lock object per destination; at most one caller between `Lock` and `Unlock`, and only
its connection carries anything: its request, or the answer to it -/
structure KInv (respond : Bytes → Option Bytes) (y : KCl) : Prop where
  fin : ∀ (i : Nat) q res, y.callers[i]? = some (q, .finished res) → res = respond q
  lockObj : (y.curLock = none ∧ y.locks = []) ∨ (y.curLock = some 0 ∧ ∃ b, y.locks = [b])
  refs : ∀ (i : Nat) q pc l, y.callers[i]? = some (q, pc) → pc.lockRef = some l → l = 0 ∧ y.curLock = some 0
  holder : KHolder respond y

variable {respond : Bytes → Option Bytes} {y y' y0 : KCl} {i j : Nat} {q : Bytes} {pc pc' : KPc}

theorem curAlive_congr (h1 : y'.cur = y.cur) (h2 : y'.conns = y.conns) (h : CurAlive y) : CurAlive y' := by
  intro c hc; rw [h1] at hc; rw [h2]; exact h c hc

theorem quietBut_set {conns : List KConn} {c : Nat} {k : KConn} (h : QuietBut conns (some c)) :
    QuietBut (conns.set c k) (some c) := by
  intro j k' hj hne
  rcases List.getElem?_set_eq hj with ⟨rfl, _⟩ | ⟨_, he⟩
  · exact absurd rfl hne
  · exact h j k' he hne

theorem quietBut_weaken {conns : List KConn} {c : Nat} (h : QuietBut conns none) : QuietBut conns (some c) :=
  fun j k hj _ => h j k hj (by simp)

theorem quietBut_all {conns : List KConn} {c : Nat} {k : KConn} (h : QuietBut conns (some c)) (hk : conns[c]? = some k)
    (hu : k.up = []) (hd : k.down = []) : QuietBut conns none := by
  intro j k' hj _
  by_cases hjc : j = c
  · subst hjc; rw [hk] at hj; cases hj; exact ⟨hu, hd⟩
  · exact h j k' hj (by simpa using hjc)

theorem quietBut_closeAt {conns : List KConn} {c : Nat} (h : QuietBut conns none) : QuietBut (closeAt conns c) none := by
  intro j k hj hne
  obtain ⟨k0, hk0, hu, hd⟩ := closeAt_get hj
  rw [hu, hd]; exact h j k0 hk0 hne

theorem holder_set {cs : List (Bytes × KPc)} {h h' : Option Nat}
    (hone : ∀ (j : Nat) q pc, cs[j]? = some (q, pc) → pc.holding → h = some j)
    (hpc : pc.holding → h' = some i) (hoth : ∀ j, i ≠ j → h = some j → h' = some j) :
    ∀ (j : Nat) q' pc', (cs.set i (q, pc))[j]? = some (q', pc') → pc'.holding → h' = some j := by
  intro j q' pc' hj hp
  rcases List.getElem?_set_eq hj with ⟨rfl, he⟩ | ⟨hne, he⟩
  · cases he; exact hpc hp
  · exact hoth j hne (hone j q' pc' he hp)

theorem fin_set {cs : List (Bytes × KPc)} (hfin : ∀ (j : Nat) q res, cs[j]? = some (q, .finished res) → res = respond q)
    (hpc : ∀ res, pc = .finished res → res = respond q) :
    ∀ (j : Nat) q' res, (cs.set i (q, pc))[j]? = some (q', .finished res) → res = respond q' := by
  intro j q' res hj
  rcases List.getElem?_set_eq hj with ⟨_, he⟩ | ⟨_, he⟩
  · simp only [Prod.mk.injEq] at he
    obtain ⟨rfl, he⟩ := he
    exact hpc res he.symm
  · exact hfin j q' res he

theorem refs_set {cs : List (Bytes × KPc)} {cl cl' : Option Nat}
    (hrefs : ∀ (j : Nat) q pc l, cs[j]? = some (q, pc) → pc.lockRef = some l → l = 0 ∧ cl = some 0)
    (hcl : cl = some 0 → cl' = some 0)
    (hpc : ∀ l, pc.lockRef = some l → l = 0 ∧ cl' = some 0) :
    ∀ (j : Nat) q' pc' l, (cs.set i (q, pc))[j]? = some (q', pc') → pc'.lockRef = some l → l = 0 ∧ cl' = some 0 := by
  intro j q' pc' l hj hl
  rcases List.getElem?_set_eq hj with ⟨_, he⟩ | ⟨_, he⟩
  · simp only [Prod.mk.injEq] at he
    obtain ⟨_, rfl⟩ := he
    exact hpc l hl
  · have := hrefs j q' pc' l he hl
    exact ⟨this.1, hcl this.2⟩

/-- the alternatives of `KHolder`, by program counter -/
def KPhase (respond : Bytes → Option Bytes) (y : KCl) (q : Bytes) : KPc → Prop
  | .locked l => l = 0 ∧ QuietBut y.conns none ∧ CurAlive y
  | .dialing l => l = 0 ∧ QuietBut y.conns none ∧ CurAlive y
  | .ready l c => l = 0 ∧ y.cur = some c ∧ QuietBut y.conns none ∧ CurAlive y
  | .written l c => l = 0 ∧ y.cur = some c ∧ QuietBut y.conns (some c) ∧ ∃ k, y.conns[c]? = some k ∧ k.closed = false ∧
      ((k.up = [q] ∧ k.down = [] ∧ k.dead = false) ∨
       (k.up = [] ∧ k.down = [respond q] ∧ k.dead = (respond q).isNone))
  | _ => False

theorem KPhase.holder (h : KPhase respond y q pc) : pc.holding ∧ pc.lockRef = some 0 := by
  cases pc with
  | locked l | dialing l | ready l c | written l c => exact ⟨trivial, congrArg some h.1⟩
  | start | ref l | finished r => exact h.elim

theorem KPhase.congr (hcn : y'.conns = y.conns) (hcu : y'.cur = y.cur) (h : KPhase respond y q pc) :
    KPhase respond y' q pc := by
  unfold KPhase CurAlive at *
  rw [hcn, hcu]
  exact h

theorem kHolder_iff : KHolder respond y ↔ ∃ h : Option Nat,
    (∀ (j : Nat) q pc, y.callers[j]? = some (q, pc) → pc.holding → h = some j) ∧
    match h with
    | none => (y.locks = [] ∨ y.locks = [false]) ∧ QuietBut y.conns none ∧ CurAlive y
    | some i => y.locks = [true] ∧ ∃ q pc, y.callers[i]? = some (q, pc) ∧ KPhase respond y q pc := by
  refine exists_congr fun h => and_congr_right fun _ => ?_
  cases h with
  | none => exact Iff.rfl
  | some i =>
    refine and_congr_right fun _ => ⟨?_, ?_⟩
    · rintro ⟨q, (⟨hc | hc, hq, ha⟩ | ⟨c, hc, hcur, hq, ha⟩ | ⟨c, k, hc, hcur, hq, hk, hcl, hor⟩)⟩
      · exact ⟨q, _, hc, rfl, hq, ha⟩
      · exact ⟨q, _, hc, rfl, hq, ha⟩
      · exact ⟨q, _, hc, rfl, hcur, hq, ha⟩
      · exact ⟨q, _, hc, rfl, hcur, hq, k, hk, hcl, hor⟩
    · rintro ⟨q, pc, hc, hp⟩
      refine ⟨q, ?_⟩
      cases pc with
      | locked l => obtain ⟨rfl, hq, ha⟩ := hp; exact Or.inl ⟨Or.inl hc, hq, ha⟩
      | dialing l => obtain ⟨rfl, hq, ha⟩ := hp; exact Or.inl ⟨Or.inr hc, hq, ha⟩
      | ready l c => obtain ⟨rfl, hcur, hq, ha⟩ := hp; exact Or.inr (Or.inl ⟨c, hc, hcur, hq, ha⟩)
      | written l c =>
        obtain ⟨rfl, hcur, hq, k, hk, hcl, hor⟩ := hp
        exact Or.inr (Or.inr ⟨c, k, hc, hcur, hq, hk, hcl, hor⟩)
      | start | ref l | finished r => exact hp.elim

theorem KInv.phase (hI : KInv respond y)
    (hc : y.callers[i]? = some (q, pc)) (hp : pc.holding) :
    y.locks = [true] ∧ (∀ (j : Nat) q pc, y.callers[j]? = some (q, pc) → pc.holding → some i = some j) ∧
      KPhase respond y q pc := by
  obtain ⟨h, hone, hm⟩ := kHolder_iff.mp hI.holder
  cases hone i q pc hc hp
  obtain ⟨hlk, q', pc', hc', hph⟩ := hm
  rw [hc] at hc'
  cases hc'
  exact ⟨hlk, hone, hph⟩

theorem KInv.busy (hI : KInv respond y) {c : Nat} {k : KConn} (hk : y.conns[c]? = some k)
    (hne : ¬(k.up = [] ∧ k.down = [])) : ∃ (i : Nat) (q : Bytes), y.callers[i]? = some (q, .written 0 c) := by
  have quiet : ¬QuietBut y.conns none := fun hq => hne (hq c k hk (by simp))
  obtain ⟨h, _, hm⟩ := kHolder_iff.mp hI.holder
  cases h with
  | none => exact absurd hm.2.1 quiet
  | some i =>
    obtain ⟨_, q, pc, hc, hph⟩ := hm
    cases pc with
    | locked l | dialing l => exact absurd hph.2.1 quiet
    | ready l c' => exact absurd hph.2.2.1 quiet
    | start | ref l | finished r => exact hph.elim
    | written l c' =>
      obtain rfl := hph.1
      by_cases hcc : c = c'
      · subst hcc; exact ⟨i, q, hc⟩
      · exact absurd (hph.2.2.1 c k hk (by simpa using hcc)) hne

theorem KInv.advance (hI : KInv respond y) (hc : y.callers[i]? = some (q, pc)) (hp : pc.holding)
    (hcs : y'.callers = y.callers.set i (q, pc')) (hlk : y'.locks = y.locks) (hcl : y'.curLock = y.curLock)
    (hph : KPhase respond y' q pc') : KInv respond y' ∧ y'.callers.map (·.1) = y.callers.map (·.1) := by
  obtain ⟨hl, hone, hph0⟩ := hI.phase hc hp
  have hcl0 := (hI.refs i q pc 0 hc hph0.holder.2).2
  refine ⟨⟨?_, ?_, ?_, kHolder_iff.mpr ⟨some i, ?_, ?_, q, pc', ?_, hph⟩⟩, ?_⟩
  · rw [hcs]; exact fin_set hI.fin (fun r hr => by subst hr; exact hph.holder.1.elim)
  · rw [hcl, hlk]; exact hI.lockObj
  · rw [hcs, hcl]
    exact refs_set hI.refs (fun h => h) (fun l hl => by rw [hph.holder.2] at hl; cases hl; exact ⟨rfl, hcl0⟩)
  · rw [hcs]; exact holder_set hone (fun _ => rfl) (fun _ _ e => e)
  · rw [hlk]; exact hl
  · rw [hcs]; exact List.getElem?_set_self_of_some hc
  · rw [hcs]; exact List.map_fst_set hc

theorem KInv.enter (hI : KInv respond y)
    (hc : y.callers[i]? = some (q, .start)) (hcs : y'.callers = y.callers.set i (q, .ref 0))
    (hcn : y'.conns = y.conns) (hcu : y'.cur = y.cur) (hcl : y'.curLock = some 0)
    (hl : (y.curLock = some 0 ∧ y'.locks = y.locks) ∨ (y.locks = [] ∧ y'.locks = [false])) :
    KInv respond y' ∧ y'.callers.map (·.1) = y.callers.map (·.1) := by
  refine ⟨⟨?_, Or.inr ⟨hcl, ?_⟩, ?_, ?_⟩, ?_⟩
  · rw [hcs]; exact fin_set hI.fin (fun r hr => by cases hr)
  · rcases hl with ⟨h0, hl⟩ | ⟨_, hl⟩
    · rcases hI.lockObj with ⟨hn, _⟩ | ⟨_, hb⟩
      · rw [hn] at h0; cases h0
      · rw [hl]; exact hb
    · exact ⟨false, hl⟩
  · rw [hcs, hcl]
    exact refs_set hI.refs (fun _ => rfl) (fun l hl => by cases hl; exact ⟨rfl, rfl⟩)
  · obtain ⟨h, hone, hm⟩ := kHolder_iff.mp hI.holder
    refine kHolder_iff.mpr ⟨h, by rw [hcs]; exact holder_set hone (fun hp => hp.elim) (fun _ _ e => e), ?_⟩
    cases h with
    | none =>
      refine ⟨?_, by rw [hcn]; exact hm.2.1, curAlive_congr hcu hcn hm.2.2⟩
      rcases hl with ⟨_, hl⟩ | ⟨_, hl⟩
      · rw [hl]; exact hm.1
      · exact Or.inr hl
    | some j =>
      obtain ⟨hlk, q', pc', hc', hph⟩ := hm
      refine ⟨?_, q', pc', ?_, hph.congr hcn hcu⟩
      · rcases hl with ⟨_, hl⟩ | ⟨he, _⟩
        · rw [hl]; exact hlk
        · rw [he] at hlk; cases hlk
      · rw [hcs]
        exact List.get_set_other hc hc' (fun e => by cases e; exact hph.holder.1)
  · rw [hcs]; exact List.map_fst_set hc

/-- `y0` is `y` with the answer taken off the connection -/
theorem KInv.finish (hI : KInv respond y) (hc : y.callers[i]? = some (q, pc)) (hp : pc.holding)
    (hcs : y0.callers = y.callers) (hlk0 : y0.locks = y.locks) (hcl0 : y0.curLock = y.curLock)
    (hq : QuietBut y0.conns none) (ha : (respond q).isSome = true → CurAlive y0) :
    KInv respond (KCl.finish .fixed y0 i q 0 (respond q)) ∧
      (KCl.finish .fixed y0 i q 0 (respond q)).callers.map (·.1) = y.callers.map (·.1) := by
  obtain ⟨hlk, hone, hph⟩ := hI.phase hc hp
  have hcl := (hI.refs i q pc 0 hc hph.holder.2).2
  obtain ⟨h1, h2, h3, _, h5⟩ := finish_fixed y0 i q 0 (respond q)
  refine ⟨⟨?_, ?_, ?_, none, ?_, ?_, ?_, ?_⟩, ?_⟩
  · rw [h1, hcs]; exact fin_set hI.fin (fun r hr => by cases hr; rfl)
  · right; rw [h3, h2, hcl0, hlk0, hcl, hlk]; exact ⟨rfl, false, rfl⟩
  · rw [h1, h3, hcs, hcl0]; exact refs_set hI.refs (fun h => h) (fun l hl => by cases hl)
  · rw [h1, hcs]; exact holder_set hone (fun hp => hp.elim) (fun j hne e => by cases e; exact absurd rfl hne)
  · right; rw [h2, hlk0, hlk]; rfl
  · rcases h5 with ⟨_, _, hcn⟩ | ⟨_, ⟨c, _, hcn⟩ | ⟨_, hcn⟩⟩
    · rw [hcn]; exact hq
    · rw [hcn]; exact quietBut_closeAt hq
    · rw [hcn]; exact hq
  · rcases h5 with ⟨hs, hcu, hcn⟩ | ⟨hcu, _⟩
    · exact curAlive_congr hcu hcn (ha hs)
    · intro c hc'; rw [hcu] at hc'; cases hc'
  · rw [h1, hcs]; exact List.map_fst_set hc

theorem kStep_inv (respond : Bytes → Option Bytes) (y y' : KCl) (a : KAct)
    (h : kStep .fixed respond y a = some y') (hI : KInv respond y) :
    KInv respond y' ∧ y'.callers.map (·.1) = y.callers.map (·.1) := by
  cases a with
  | server c =>
    simp only [kStep] at h
    split at h
    · cases h
    · rename_i k hk
      split at h
      · cases h
      · split at h
        · cases h
        · rename_i q0 rest hup
          cases h
          obtain ⟨i, q, hc⟩ := hI.busy hk (fun e => by rw [hup] at e; cases e.1)
          obtain ⟨hlk, hone, _, hcur, hq, k1, hk1, hcl, hor⟩ := hI.phase hc trivial
          cases hk.symm.trans hk1
          rcases hor with ⟨hu, hd, hdd⟩ | ⟨hu, _, _⟩
          · rw [hup] at hu; cases hu
            exact ⟨⟨hI.fin, hI.lockObj, hI.refs, kHolder_iff.mpr ⟨some i, hone, hlk, _, _, hc, rfl, hcur,
              quietBut_set hq, _, List.getElem?_set_self_of_some hk, hcl, Or.inr ⟨rfl, by rw [hd]; rfl, rfl⟩⟩⟩, rfl⟩
          · rw [hup] at hu; cases hu
  | caller i =>
    simp only [kStep] at h
    split at h
    · cases h
    · -- start: fetch the lock object, or make it
      rename_i q hc
      split at h
      · rename_i l hcl
        cases h
        rcases hI.lockObj with ⟨hn, _⟩ | ⟨hs, _⟩
        · rw [hn] at hcl; cases hcl
        · rw [hs] at hcl; cases hcl
          exact hI.enter hc rfl rfl rfl hs (Or.inl ⟨hs, rfl⟩)
      · rename_i hcl
        cases h
        rcases hI.lockObj with ⟨_, he⟩ | ⟨hs, _⟩
        · exact hI.enter hc (by rw [he]; rfl) rfl rfl (by rw [he]; rfl) (Or.inr ⟨he, by rw [he]; rfl⟩)
        · rw [hs] at hcl; cases hcl
    · -- ref: take the lock
      rename_i q l hc
      split at h
      · rename_i hfree
        cases h
        obtain ⟨rfl, hcl⟩ := hI.refs i q _ l hc rfl
        have hlk : y.locks = [false] := by
          rcases hI.lockObj with ⟨hn, _⟩ | ⟨_, b, hb⟩
          · rw [hn] at hcl; cases hcl
          · rw [hb] at hfree; simp at hfree; rw [hb, hfree]
        obtain ⟨hh, hone, hm⟩ := hI.holder
        cases hh with
        | some k => rw [hm.1] at hlk; cases hlk
        | none =>
          exact ⟨⟨fin_set hI.fin (fun r hr => by cases hr), Or.inr ⟨hcl, true, by rw [hlk]; rfl⟩,
            refs_set hI.refs (fun h => h) (fun l' hl' => by cases hl'; exact ⟨rfl, hcl⟩),
            kHolder_iff.mpr ⟨some i, holder_set hone (fun _ => rfl) (fun _ _ e => by cases e), by rw [hlk]; rfl,
              q, _, List.getElem?_set_self_of_some hc, rfl, hm.2.1, hm.2.2⟩⟩, List.map_fst_set hc⟩
      · cases h
    · -- locked: look the connection up
      rename_i q l hc
      obtain ⟨_, _, rfl, hq, ha⟩ := hI.phase hc trivial
      split at h
      · rename_i c hcur
        cases h
        exact hI.advance hc trivial rfl rfl rfl ⟨rfl, hcur, hq, ha⟩
      · cases h
        exact hI.advance hc trivial rfl rfl rfl ⟨rfl, hq, ha⟩
    · -- dialing: a new connection
      rename_i q l hc
      obtain ⟨_, _, rfl, hq, _⟩ := hI.phase hc trivial
      cases h
      refine hI.advance hc trivial rfl rfl rfl ⟨rfl, rfl, ?_, ?_⟩
      · intro j k hj hne
        rw [List.getElem?_append] at hj
        split at hj
        · exact hq j k hj hne
        · rw [List.getElem?_singleton] at hj
          split at hj
          · cases hj; exact ⟨rfl, rfl⟩
          · cases hj
      · intro c hc'
        cases hc'
        exact ⟨{}, List.getElem?_concat_length, rfl, rfl⟩
    · -- ready: write the request
      rename_i q l c hc
      obtain ⟨_, _, rfl, hcur, hq, ha⟩ := hI.phase hc trivial
      obtain ⟨k0, hk0, hd0, hc0⟩ := ha c hcur
      simp only [hk0, hc0, Bool.false_eq_true, if_false, Option.some.injEq] at h
      subst h
      obtain ⟨hu, hdn⟩ := hq c k0 hk0 (by simp)
      exact hI.advance hc trivial rfl rfl rfl ⟨rfl, hcur, quietBut_set (quietBut_weaken hq), _,
        List.getElem?_set_self_of_some hk0, rfl, Or.inl ⟨by rw [hu]; rfl, hdn, hd0⟩⟩
    · -- written: read the answer, leave
      rename_i q l c hc
      obtain ⟨_, _, rfl, hcur, hq, k0, hk0, hc0, hor⟩ := hI.phase hc trivial
      simp only [hk0, hc0, Bool.false_eq_true, if_false] at h
      rcases hor with ⟨_, hd, hdd⟩ | ⟨hu, hd, hdd⟩
      · simp [hd, hdd] at h
      · simp only [hd, Option.some.injEq] at h
        subst h
        refine hI.finish hc trivial rfl rfl rfl (quietBut_all (quietBut_set hq) (List.getElem?_set_self_of_some hk0) hu rfl) ?_
        intro hs c' hc'
        rw [show y.cur = some c from hcur] at hc'; cases hc'
        refine ⟨_, List.getElem?_set_self_of_some hk0, ?_, rfl⟩
        rw [show k0.dead = _ from hdd]
        cases hr : respond q with
        | none => rw [hr] at hs; cases hs
        | some r => rfl
    · cases h

theorem kInv_idle (hpc : ∀ (i : Nat) q pc, y.callers[i]? = some (q, pc) → pc = .start ∨ pc = .ref 0 ∧ y.curLock = some 0)
    (hlo : y.curLock = none ∧ y.locks = [] ∨ y.curLock = some 0 ∧ y.locks = [false])
    (hq : QuietBut y.conns none) (ha : CurAlive y) : KInv respond y := by
  refine ⟨?_, hlo.imp id (And.imp_right fun h => ⟨_, h⟩), ?_, none, ?_, hlo.imp (·.2) (·.2), hq, ha⟩
  · intro i q res hc; rcases hpc i q _ hc with e | ⟨e, _⟩ <;> cases e
  · intro i q pc l hc hl
    rcases hpc i q pc hc with rfl | ⟨rfl, h0⟩ <;> cases hl
    exact ⟨rfl, h0⟩
  · intro j q pc hc hp; rcases hpc j q pc hc with rfl | ⟨rfl, _⟩ <;> exact hp.elim

theorem kInv_fresh (respond : Bytes → Option Bytes) (keep : Bool) (reqs : List Bytes) :
    KInv respond { keep := keep, callers := reqs.map (fun q => (q, KPc.start)) } := by
  refine kInv_idle (fun i q pc hc => ?_) (Or.inl ⟨rfl, rfl⟩) (fun j k hj => by simp at hj) (fun c hc => by simp at hc)
  rw [List.getElem?_map] at hc
  obtain ⟨r, _, e⟩ := Option.map_eq_some_iff.mp hc
  cases e
  exact Or.inl rfl

theorem kRun_inv (respond : Bytes → Option Bytes) (sched : List KAct) (y : KCl) (hi : KInv respond y) :
    KInv respond (kRun .fixed respond y sched) ∧
      (kRun .fixed respond y sched).callers.map (·.1) = y.callers.map (·.1) :=
  (kRun_skips .fixed respond).inv (P := fun y' => KInv respond y' ∧ y'.callers.map (·.1) = y.callers.map (·.1))
    (fun y₁ y₂ a h₁ hs => ⟨(kStep_inv respond y₁ y₂ a hs h₁.1).1, (kStep_inv respond y₁ y₂ a hs h₁.1).2.trans h₁.2⟩)
    sched y ⟨hi, rfl⟩

theorem KInv.in_flight (hI : KInv respond y) (c : Nat) (k : KConn)
    (hk : y.conns[c]? = some k) :
    k.up.length + k.down.length ≤ 1 ∧ (k.up ≠ [] ∨ k.down ≠ [] → y.cur = some c) := by
  by_cases hq : k.up = [] ∧ k.down = []
  · simp [hq.1, hq.2]
  · obtain ⟨i, q, hc⟩ := hI.busy hk hq
    obtain ⟨_, _, _, hcur, _, k', hk', _, hor⟩ := hI.phase hc trivial
    cases hk.symm.trans hk'
    refine ⟨?_, fun _ => hcur⟩
    rcases hor with ⟨hu, hd, _⟩ | ⟨hu, hd, _⟩ <;> simp [hu, hd]

theorem KPhase.moves (h1 : y.callers[j]? = some (q, pc)) (hph : KPhase respond y q pc) : ∃ a, kStep .fixed respond y a ≠ none := by
  cases pc with
  | start | ref l | finished r => exact hph.elim
  | locked l =>
    refine ⟨.caller j, ?_⟩
    simp only [kStep, h1]
    split <;> simp
  | dialing l => exact ⟨.caller j, by simp [kStep, h1]⟩
  | ready l c =>
    obtain ⟨k, hk, _, hcl⟩ := hph.2.2.2 c hph.2.1
    exact ⟨.caller j, by simp [kStep, h1, hk, hcl]⟩
  | written l c =>
    obtain ⟨_, _, _, k, hk, hcl, hor⟩ := hph
    rcases hor with ⟨hu, hd, hdd⟩ | ⟨hu, hd, hdd⟩
    · exact ⟨.server c, by simp [kStep, hk, hcl, hdd, hu]⟩
    · exact ⟨.caller j, by simp [kStep, h1, hk, hcl, hd]⟩

theorem KInv.progress (hI : KInv respond y)
    (hc : y.callers[i]? = some (q, pc)) (hnf : ∀ res, pc ≠ .finished res) : ∃ a, kStep .fixed respond y a ≠ none := by
  cases pc with
  | finished res => exact absurd rfl (hnf res)
  | locked l | dialing l | ready l c | written l c => exact (hI.phase hc trivial).2.2.moves hc
  | start =>
    refine ⟨.caller i, ?_⟩
    simp only [kStep, hc]
    split <;> simp
  | ref l =>
    obtain ⟨rfl, hcl⟩ := hI.refs i q _ l hc rfl
    obtain ⟨h, hone, hm⟩ := kHolder_iff.mp hI.holder
    cases h with
    | none =>
      have hlk : y.locks = [false] := by
        rcases hm.1 with he | he
        · rcases hI.lockObj with ⟨hn, _⟩ | ⟨_, b, hb⟩
          · rw [hn] at hcl; cases hcl
          · rw [he] at hb; cases hb
        · exact he
      exact ⟨.caller i, by simp [kStep, hc, hlk]⟩
    | some j =>
      obtain ⟨_, q', pc', h1, hph⟩ := hm
      exact hph.moves h1

/-! ### the client on one kept connection (`Cl`)

A state of `Cl` read as a state of `KCl`: lock object 0 and connection 0 (in the map) exist; a caller before `Lock` has
fetched the lock object, a caller past `Lock` has found the connection.  A step of `Cl` is then one step of `KCl`, or two
(`Lock` returns, the connection is looked up). -/

def Pc.toK : Pc → KPc
  | .start => .ref 0
  | .locked => .ready 0 0
  | .written => .written 0 0
  | .finished r => .finished (some r)

def Cl.toK (c : Cl) : KCl :=
  { keep := true, callers := c.callers.map fun e => (e.1, e.2.toK), locks := [c.lock], curLock := some 0,
    conns := [{ up := c.up, down := c.down.map some }], cur := some 0 }

theorem Cl.toK_get {c : Cl} {i : Nat} {q : Bytes} {pc : Pc} (hc : c.callers[i]? = some (q, pc)) :
    c.toK.callers[i]? = some (q, pc.toK) := by
  rw [Cl.toK, List.getElem?_map, hc]; rfl

theorem clStep_toK {f : Bytes → Bytes} {c c' : Cl} {a : ClAct} (h : clStep true f c a = some c') :
    ∃ as, kRun .fixed (fun q => some (f q)) c.toK as = c'.toK := by
  cases a with
  | server =>
    simp only [clStep] at h
    split at h
    · cases h
    · rename_i q qs hup
      cases h
      exact ⟨[.server 0], by simp [kRun, kStep, Cl.toK, hup]⟩
  | caller i =>
    simp only [clStep] at h
    split at h
    · cases h
    · -- start: `Lock` returns, then the connection is found in the map
      rename_i q hc
      split at h
      · cases h
      · rename_i hlk
        cases h
        simp only [Bool.true_and, Bool.not_eq_true] at hlk
        refine ⟨[.caller i, .caller i], ?_⟩
        have h1 : kStep .fixed (fun q => some (f q)) c.toK (.caller i) =
            some { c.toK with locks := [true], callers := c.toK.callers.set i (q, .locked 0) } := by
          simp [kStep, Cl.toK_get hc, Pc.toK]
          simp [Cl.toK, hlk]
        simp only [kRun, h1]
        -- the second step, from the state of `h1`: the caller at `locked 0` finds connection 0; then both sides are one record
        simp only [kStep, List.getElem?_set_self_of_some (Cl.toK_get hc)]
        simp [Cl.toK, List.map_set, Pc.toK]
    · -- locked: write the request
      rename_i q hc
      cases h
      exact ⟨[.caller i], by simp [kRun, kStep, Cl.toK, hc, Pc.toK, List.map_set]⟩
    · -- written: read the reply
      rename_i q hc
      split at h
      · cases h
      · rename_i r rs hdn
        cases h
        exact ⟨[.caller i], by simp [kRun, kStep, Cl.toK, hc, hdn, Pc.toK, List.map_set, KCl.finish, KVariant.fixed]⟩
    · cases h

theorem clRun_toK (f : Bytes → Bytes) (sched : List ClAct) (c : Cl) :
    ∃ as, kRun .fixed (fun q => some (f q)) c.toK as = (clRun true f c sched).toK := by
  induction sched generalizing c with
  | nil => exact ⟨[], rfl⟩
  | cons a as ih =>
    rw [(clRun_skips true f).cons]
    cases hs : clStep true f c a with
    | none => exact ih c
    | some c' =>
      obtain ⟨bs, hb⟩ := clStep_toK hs
      obtain ⟨bs', hb'⟩ := ih c'
      exact ⟨bs ++ bs', by rw [(kRun_skips _ _).append, hb, hb']; rfl⟩

theorem kInv_toK (f : Bytes → Bytes) (c : Cl)
    (hfresh : c.lock = false ∧ c.up = [] ∧ c.down = [] ∧ ∀ (i : Nat) q pc, c.callers[i]? = some (q, pc) → pc = .start) :
    KInv (fun q => some (f q)) c.toK := by
  obtain ⟨hl, hu, hd, hst⟩ := hfresh
  refine kInv_idle (fun i q pc hc => ?_) (Or.inr ⟨rfl, by rw [Cl.toK, hl]⟩) ?_ ?_
  · simp only [Cl.toK, List.getElem?_map] at hc
    obtain ⟨⟨q', pc'⟩, he, e⟩ := Option.map_eq_some_iff.mp hc
    cases hst i q' pc' he
    cases e
    exact Or.inr ⟨rfl, rfl⟩
  · intro j k hj _
    simp only [Cl.toK, hu, hd, List.map_nil, List.getElem?_singleton] at hj
    split at hj <;> cases hj
    exact ⟨rfl, rfl⟩
  · intro c' hc'
    cases hc'
    exact ⟨_, rfl, rfl, rfl⟩

/-! ### the client: several nodes asked at once -/

/-- node `i` answers `replies[i]`; `none`: it cannot be reached -/
def Par.Inv (replies : List (Option Bytes)) (p : Par) : Prop :=
  p.replies = replies.map (·.getD []) ∧
  (∀ (i : Nat) pc, p.pcs[i]? = some pc →
    pc ≠ .decoding ∧ pc ≠ .announce ∧ (replies[i]? = some none → pc = .finished)) ∧
  match p.winner with
  | none => p.done = false
  | some i => p.done = true ∧ ∃ r, replies[i]? = some (some r) ∧ p.ret = some r

theorem parInitF_inv (replies : List (Option Bytes)) : (parInitF replies).Inv replies := by
  refine ⟨rfl, fun i pc hpc => ?_, rfl⟩
  simp only [parInitF, List.getElem?_map] at hpc
  obtain ⟨o, hr, e⟩ := Option.map_eq_some_iff.mp hpc
  rw [hr]
  cases o <;> cases e <;> simp

theorem parStep_inv {replies : List (Option Bytes)} {p p' : Par} {i : Nat} (h : parStep true p i = some p')
    (hi : p.Inv replies) : p'.Inv replies := by
  obtain ⟨hr, hpcs, hw⟩ := hi
  have move : ∀ q pc₀, p.pcs[i]? = some pc₀ → pc₀ ≠ .finished → q ≠ .decoding → q ≠ .announce →
      ∀ (j : Nat) pc, (p.pcs.set i q)[j]? = some pc →
        pc ≠ .decoding ∧ pc ≠ .announce ∧ (replies[j]? = some none → pc = .finished) := by
    intro q pc₀ h0 hnf h1 h2 j pc hj
    rw [List.getElem?_set] at hj
    split at hj
    · subst j
      split at hj
      · cases hj
        exact ⟨h1, h2, fun hn => absurd ((hpcs i pc₀ h0).2.2 hn) hnf⟩
      · cases hj
    · exact hpcs j pc hj
  unfold parStep at h
  split at h
  · rename_i hpc _
    cases h
    exact ⟨hr, move _ _ hpc (by simp) (by simp) (by simp), hw⟩
  · rename_i r hpc hri
    rw [if_pos rfl] at h
    split at h
    · cases h
      exact ⟨hr, move _ _ hpc (by simp) (by simp) (by simp), hw⟩
    · cases h
      refine ⟨hr, move _ _ hpc (by simp) (by simp) (by simp), rfl, ?_⟩
      -- the reply decoded is the one node `i` gave, and node `i` is not one of the unreachable ones
      rw [hr, List.getElem?_map] at hri
      obtain ⟨o, ho, e⟩ := Option.map_eq_some_iff.mp hri
      cases o with
      | none => exact absurd ((hpcs i _ hpc).2.2 ho) (by simp)
      | some r' => cases e; exact ⟨r', ho, rfl⟩
  · rename_i hpc _
    exact absurd rfl (hpcs i _ hpc).1
  · rename_i hpc _
    exact absurd rfl (hpcs i _ hpc).2.1
  · cases h

def QPar.Inv (p : QPar) : Prop :=
  p.panic = false ∧ (p.inCS.isSome = true → p.done = false)

theorem qStep_inv {p : QPar} (a : QAct) (hi : p.Inv) : (qStep true p a).Inv := by
  obtain ⟨hp, hcs⟩ := hi
  unfold QPar.Inv
  cases a with
  | enter i =>
    by_cases hc : (p.panic || p.inCS.isSome || p.done) = true
    · simp only [qStep, hc, if_true]
      exact ⟨hp, hcs⟩
    · simp only [qStep, hc, Bool.false_eq_true, if_false]
      simp only [Bool.or_eq_true, not_or, Bool.not_eq_true] at hc
      exact ⟨hp, fun _ => hc.2⟩
  | leave =>
    cases hc : p.inCS with
    | none =>
      simp only [qStep, hc]
      exact ⟨hp, fun h => by cases h⟩
    | some i =>
      have hd : p.done = false := hcs (by rw [hc]; rfl)
      simp only [qStep, hc, hp, hd, Bool.false_eq_true, if_false]
      exact ⟨trivial, fun h => by cases h⟩
  | quit =>
    simp only [qStep, hp, Bool.false_or, if_true]
    split
    · exact ⟨hp, hcs⟩
    · split
      · exact ⟨hp, hcs⟩
      · rename_i hn
        exact ⟨rfl, fun h => absurd h hn⟩

theorem qRun_inv (sched : List QAct) (p : QPar) (hi : p.Inv) : (qRun true p sched).Inv := by
  induction sched generalizing p with
  | nil => exact hi
  | cons a as ih => exact ih _ (qStep_inv a hi)

/-! ### which connection a request travels on (any number of destinations) -/

/-- every stored connection is stored under the key of the destination it was dialed for -/
def MCl.Keyed {K D : Type} (key : D → K) (c : MCl K D) : Prop := ∀ e ∈ c.conns, e.1 = key e.2

theorem MCl.find_keyed {K D : Type} [DecidableEq K] {key : D → K} {c : MCl K D} (h : c.Keyed key)
    {k : K} {d : D} (hf : c.find k = some d) : key d = k := by
  unfold MCl.find at hf
  cases hfe : c.conns.find? (fun e => e.1 = k) with
  | none => simp [hfe] at hf
  | some e =>
    simp only [hfe, Option.map_some, Option.some.injEq] at hf
    have hm := List.mem_of_find?_eq_some hfe
    have hk := List.find?_some hfe
    simp only [decide_eq_true_eq] at hk
    rw [← hf, ← h e hm, hk]

theorem mSend_keyed {K D : Type} [DecidableEq K] (key : D → K) (keep : Bool) (c : MCl K D) (d : D) (ok : Bool)
    (h : c.Keyed key) : (mSend key keep c d ok).1.Keyed key := by
  have h1 : (match c.find (key d) with | some _ => c | none => (⟨(key d, d) :: c.conns⟩ : MCl K D)).Keyed key := by
    cases c.find (key d) with
    | some _ => exact h
    | none =>
      intro e he
      simp only [List.mem_cons] at he
      rcases he with rfl | he
      · rfl
      · exact h e he
  unfold mSend
  simp only
  split
  · exact h1
  · intro e he
    simp only [MCl.drop, List.mem_filter] at he
    exact h1 e he.1

theorem mSend_reply {K D : Type} [DecidableEq K] {key : D → K} (hinj : ∀ a b, key a = key b → a = b) (keep : Bool)
    {c : MCl K D} (hc : c.Keyed key) (d : D) (ok : Bool) :
    (mSend key keep c d ok).2 = none ∨ (mSend key keep c d ok).2 = some d := by
  unfold mSend
  cases ok with
  | false => exact Or.inl rfl
  | true =>
    right
    cases hf : c.find (key d) with
    | none => rfl
    | some d' => simp only [if_true]; rw [hinj _ _ (MCl.find_keyed hc hf)]

theorem mOps_close_last {K D : Type} [DecidableEq K] (key : D → K) (keep : Bool) (pre : List (MOp D)) (c : MCl K D) :
    (mOps key keep c (pre ++ [.close])).1.conns = [] := by
  induction pre generalizing c with
  | nil => rfl
  | cons o rest ih => cases o <;> exact ih _

end C14

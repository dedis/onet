import OnetVerif.Model.C09
import OnetVerif.Proofs.Lists
/-! Lemmas for property C09 next to the model, core only: `removeSwap` on a table whose numbers are distinct (also used
by Props/C10.lean); `connect`, `sendOn` and the steps of a receive loop as equations; the send entry points, whose loops
leave in `calls` the log of the router sends they made (`SendLog`). -/
namespace C09

theorem removeSwap_eq {l : List Conn} {c : Conn} (hc : c ∈ l) :
    ∃ init last, l.filter (·.peer == c.peer) = init ++ [last] ∧
      removeSwap l c = l.filter (·.peer != c.peer) ++ init.map fun x => if x.id == c.id then last else x := by
  have hcm : c ∈ l.filter (·.peer == c.peer) := List.mem_filter.mpr ⟨hc, beq_self_eq_true _⟩
  have hany : (l.filter (·.peer == c.peer)).any (·.id == c.id) = true :=
    List.any_eq_true.mpr ⟨c, hcm, beq_self_eq_true _⟩
  simp only [removeSwap, hany, if_true]
  cases hrev : (l.filter (·.peer == c.peer)).reverse with
  | nil => rw [List.reverse_eq_nil_iff.mp hrev] at hcm; cases hcm
  | cons last rest =>
    have hm := List.reverse_eq_cons_iff.mp hrev
    refine ⟨rest.reverse, last, hm, ?_⟩
    show _ ++ (List.map _ _).dropLast = _
    rw [hm, List.map_append, List.map_singleton, List.dropLast_concat]

theorem swap_perm (init : List Conn) (last c : Conn) (hn : ((init ++ [last]).map (·.id)).Nodup)
    (hc : c ∈ init ++ [last]) :
    (c :: init.map fun x => if x.id == c.id then last else x).Perm (init ++ [last]) := by
  induction init with
  | nil => cases List.mem_singleton.mp hc; exact .refl _
  | cons a t ih =>
    rw [List.cons_append, List.map_cons, List.nodup_cons] at hn
    rw [List.map_cons, List.cons_append]
    by_cases ha : a.id = c.id
    · -- `a` is the lost entry: `last` takes its place, everything else has another number and stays
      have other : ∀ y ∈ t ++ [last], y.id ≠ c.id := fun y hy e => hn.1 (ha ▸ e ▸ List.mem_map_of_mem hy)
      have hmap : (t.map fun x => if x.id == c.id then last else x) = t :=
        (List.map_congr_left fun y hy => by
          simp only [beq_iff_eq, other y (List.mem_append_left _ hy), if_false]).trans (List.map_id' t)
      rcases List.mem_cons.mp hc with rfl | hm
      · rw [hmap, if_pos (beq_self_eq_true _)]
        exact (List.perm_append_singleton last t).symm.cons c
      · exact absurd rfl (other c hm)
    · rcases List.mem_cons.mp hc with rfl | hm
      · exact absurd rfl ha
      · rw [if_neg (by simpa using ha)]
        exact (List.Perm.swap a c _).trans ((ih hn.2 hm).cons a)

/-- overwriting by the last entry of the slice and cutting the slice only reorders: `mem_removeSwap`,
`removeSwap_nodup` are read off this -/
theorem removeSwap_perm (l : List Conn) (c : Conn) (hc : c ∈ l) (hn : (l.map (·.id)).Nodup) :
    (c :: removeSwap l c).Perm l := by
  obtain ⟨init, last, hm, he⟩ := removeSwap_eq hc
  have hcm : c ∈ init ++ [last] := hm ▸ List.mem_filter.mpr ⟨hc, beq_self_eq_true _⟩
  have hmn : ((init ++ [last]).map (·.id)).Nodup := hm ▸ hn.sublist (List.filter_sublist.map _)
  rw [he]
  -- `c` back into its peer's slice, the slice back beside the other peers' entries
  exact List.perm_middle.symm.trans (((swap_perm init last c hmn hcm).append_left _).trans
    (hm ▸ List.perm_append_comm.trans (List.filter_append_perm (·.peer == c.peer) l)))

theorem mem_removeSwap (l : List Conn) (c : Conn) (hc : c ∈ l) (hn : (l.map (·.id)).Nodup) (x : Conn) :
    x ∈ removeSwap l c ↔ x ∈ l ∧ x.id ≠ c.id := by
  have hp := removeSwap_perm l c hc hn
  have hn' := List.nodup_cons.mp ((hp.map (·.id)).nodup_iff.mpr hn)
  refine ⟨fun hx => ⟨hp.subset (List.mem_cons_of_mem c hx), fun e => hn'.1 (List.mem_map.mpr ⟨x, hx, e⟩)⟩,
    fun ⟨hx, hne⟩ => ?_⟩
  rcases List.mem_cons.mp (hp.mem_iff.mpr hx) with rfl | hx
  · exact absurd rfl hne
  · exact hx

theorem removeSwap_nodup (l : List Conn) (c : Conn) (hc : c ∈ l) (hn : (l.map (·.id)).Nodup) :
    ((removeSwap l c).map (·.id)).Nodup :=
  (List.nodup_cons.mp (((removeSwap_perm l c hc hn).map (·.id)).nodup_iff.mpr hn)).2

theorem filter_other_append (l x : List Conn) (q : Peer) (hx : ∀ c ∈ x, c.peer ≠ q) :
    (l ++ x).filter (·.peer == q) = l.filter (·.peer == q) :=
  List.filter_append_left _ l x fun c hc => beq_false_of_ne (hx c hc)

theorem removeSwap_other (l : List Conn) (c : Conn) (hc : c ∈ l) (q : Peer) (h : q ≠ c.peer) :
    (removeSwap l c).filter (·.peer == q) = l.filter (·.peer == q) := by
  obtain ⟨init, last, hm, he⟩ := removeSwap_eq hc
  have hmine : ∀ y ∈ init ++ [last], y.peer ≠ q := fun y hy e => by
    rw [← hm] at hy
    exact h (e ▸ eq_of_beq (List.mem_filter.mp hy).2)
  rw [he, filter_other_append, List.filter_filter]
  · exact List.filter_congr fun x _ => by
      by_cases hx : x.peer = q
      · simp [hx, h]
      · simp [hx]
  · intro y hy
    obtain ⟨z, hz, rfl⟩ := List.mem_map.mp hy
    split
    · exact hmine last (List.mem_append_right _ (List.mem_singleton_self last))
    · exact hmine z (List.mem_append_left _ hz)

theorem connect_up (s : St) (p : Peer) (h : s.up.contains p = true) :
    connect s p = ({ s with conns := s.conns ++ [{ id := s.next, peer := p, alive := true }],
                            next := s.next + 1, dials := s.dials + 1 },
                   some { id := s.next, peer := p, alive := true }) := by
  unfold connect; rw [if_pos h]

theorem connect_down (s : St) (p : Peer) (h : s.up.contains p = false) :
    connect s p = ({ s with dials := s.dials + s.dpc, waits := s.waits + s.wpc }, none) := by
  unfold connect; rw [if_neg (by rw [h]; exact Bool.false_ne_true)]

theorem sendOn_alive (s : St) {c : Conn} (m : Nat) (b : Bool) (h : c.alive = true) :
    sendOn s c m b = ({ s with delivered := s.delivered ++ [(c.peer, m)] }, true) := by
  rw [sendOn, if_pos h]

theorem sendOn_stale (s : St) {c : Conn} (m : Nat) (b : Bool) (h : c.alive = false) : sendOn s c m b = (s, b) := by
  rw [sendOn, if_neg (by rw [h]; nofun)]

theorem connect_some_peer {s s2 : St} {p : Peer} {c' : Conn} (h : connect s p = (s2, some c')) :
    c'.peer = p := by
  unfold connect at h
  split at h
  · cases h
    rfl
  · cases h

theorem firstConn_some {s : St} {p : Peer} {c : Conn} (h : firstConn s p = some c) :
    c ∈ s.conns ∧ c.peer = p := by
  unfold firstConn at h
  exact ⟨List.mem_of_find?_eq_some h, by simpa using List.find?_some h⟩

theorem step_unlisted {s : St} {cid : Nat} (hf : s.conns.find? (·.id == cid) = none) :
    (step s (.report cid)).1 = s ∧ (step s (.remove cid)).1 = s ∧ (step s (.detect cid)).1 = s := by
  simp only [step, hf, and_self]

theorem step_report {s : St} {cid : Nat} {c : Conn} (hf : s.conns.find? (·.id == cid) = some c) :
    (step s (.report cid)).1 = { s with calls := s.calls ++ s.handlers.map (·, c.peer) } := by
  simp only [step, hf]

theorem step_remove {s : St} {cid : Nat} {c : Conn} (hf : s.conns.find? (·.id == cid) = some c) :
    (step s (.remove cid)).1 = { s with conns := removeSwap s.conns c } := by
  simp only [step, hf]

theorem step_detect {s : St} {cid : Nat} {c : Conn} (hf : s.conns.find? (·.id == cid) = some c) :
    (step s (.detect cid)).1 =
      { s with calls := s.calls ++ s.handlers.map (·, c.peer), conns := removeSwap s.conns c } := by
  simp only [step, hf]

theorem step_accept (s : St) (p : Peer) :
    (step s (.accept p)).1 =
      if s.up.contains p then
        { s with conns := s.conns ++ [{ id := s.next, peer := p, alive := true }], next := s.next + 1 }
      else s :=
  apply_ite Prod.fst _ _ _

theorem filter_markDead (l : List Conn) (p q : Peer) (h : q ≠ p) :
    (l.map fun c => if c.peer == p then { c with alive := false } else c).filter (·.peer == q)
      = l.filter (·.peer == q) := by
  -- marking does not change the peer, so the same entries pass the filter, and those of `q` are not marked
  have hp : ∀ c : Conn, (if c.peer == p then { c with alive := false } else c).peer = c.peer :=
    fun c => by split <;> rfl
  rw [List.filter_map, List.filter_congr (q := (·.peer == q)) fun c _ => by simp only [Function.comp, hp c]]
  refine (List.map_congr_left fun c hc => ?_).trans (List.map_id' _)
  rw [if_neg]
  intro hcp
  exact h ((eq_of_beq (List.mem_filter.mp hc).2).symm.trans (eq_of_beq hcp))

theorem contains_filter_other (up : List Peer) {p q : Peer} (h : q ≠ p) :
    (up.filter (· != p)).contains q = up.contains q := by
  rw [Bool.eq_iff_iff, List.contains_iff_mem, List.contains_iff_mem, List.mem_filter]
  exact ⟨(·.1), fun hm => ⟨hm, bne_iff_ne.mpr h⟩⟩

theorem contains_insert_other (up : List Peer) {p q : Peer} (h : q ≠ p) :
    (if up.contains p then up else up ++ [p]).contains q = up.contains q := by
  split
  · rfl
  · rw [List.contains_append, List.contains_cons, List.contains_nil, beq_false_of_ne h, Bool.or_false,
      Bool.or_false]

theorem calls_other (calls : List (Nat × Peer)) (hs : List Nat) {p q : Peer} (h : q ≠ p) :
    (calls ++ hs.map (·, p)).filter (·.2 == q) = calls.filter (·.2 == q) :=
  List.filter_append_left _ _ _ fun x hx => by
    obtain ⟨_, _, rfl⟩ := List.mem_map.mp hx
    exact beq_false_of_ne h.symm

theorem recvLoop_cons (x : Round) (rest : List Round) :
    recvLoop (x :: rest) =
      match x.ends with
      | some e => { exit := some e }
      | none => { dispatched := x.msg?.toList ++ (recvLoop rest).dispatched, exit := (recvLoop rest).exit } := by
  obtain ⟨pa, cl, r⟩ := x
  cases pa
  · cases cl
    · cases r with
      | msg m => rfl
      | err c =>
        rw [recvLoop, Round.ends]
        dsimp only
        cases c.fatal <;> rfl
    · rfl
  · rfl

theorem recvLoop_append (pre post : List Round) (hpre : ∀ x ∈ pre, x.ends = none) :
    recvLoop (pre ++ post) =
      { dispatched := pre.filterMap Round.msg? ++ (recvLoop post).dispatched, exit := (recvLoop post).exit } := by
  induction pre with
  | nil => rfl
  | cons x rest ih =>
    rw [List.cons_append, recvLoop_cons, hpre x (List.mem_cons_self ..),
      ih fun y hy => hpre y (List.mem_cons_of_mem _ hy)]
    cases hm : x.msg? <;> simp [hm]

theorem errCount_append (a b : List (Peer × Res)) : errCount (a ++ b) = errCount a + errCount b := by
  unfold errCount
  rw [List.map_append, List.sum_append]

theorem sendTo_refused {σ : Type} (rs : RS σ) (s : σ) (t : Tni) (d : Peer) (hc : t.closing = true) :
    sendTo rs s t (some d) = ⟨s, t, 1, []⟩ := by
  rw [sendTo, if_pos hc]

/-- `2`: the message and, the first time to that node, the configuration -/
theorem sendTo_open {σ : Type} (rs : RS σ) (s : σ) (t : Tni) (d : Peer) (hc : t.closing = false) :
    sendTo rs s t (some d) =
      ⟨(rs s d (if (!t.sentTo.contains d && t.config) = true then 2 else 1)).1,
       if (!t.sentTo.contains d) = true then { t with sentTo := t.sentTo ++ [d] } else t,
       (rs s d (if (!t.sentTo.contains d && t.config) = true then 2 else 1)).2.n,
       [(d, (rs s d (if (!t.sentTo.contains d && t.config) = true then 2 else 1)).2)]⟩ := by
  rw [sendTo, if_neg (by rw [hc]; nofun)]
  rfl

/-- for the loops, where the number of messages in the router send does not matter -/
theorem sendTo_open' {σ : Type} (rs : RS σ) (s : σ) (t : Tni) (d : Peer) (hc : t.closing = false) :
    ∃ n t', 1 ≤ n ∧ t'.closing = false ∧
      sendTo rs s t (some d) = ⟨(rs s d n).1, t', (rs s d n).2.n, [(d, (rs s d n).2)]⟩ := by
  refine ⟨_, _, ?_, ?_, sendTo_open rs s t d hc⟩
  · split
    · exact Nat.le_succ 1
    · exact Nat.le_refl 1
  · split
    · exact hc
    · exact hc

theorem sendAll_closing {σ : Type} (rs : RS σ) (s : σ) (t : Tni) (hc : t.closing = true) (l : List Peer) :
    sendAll rs s t l = ⟨s, t, l.length, []⟩ := by
  induction l with
  | nil => rfl
  | cons d l ih =>
    rw [sendAll, sendTo_refused rs s t d hc]
    dsimp only
    rw [ih, Nat.add_comm]
    rfl

/-- router sends made one after the other, each with ≥ 1 message from the state the one before left, and their answers -/
inductive SendLog {σ : Type} (rs : RS σ) : σ → List (Peer × Res) → σ → Prop
  | nil (s : σ) : SendLog rs s [] s
  | cons {s s' : σ} {cs : List (Peer × Res)} (d : Peer) {n : Nat} :
      1 ≤ n → SendLog rs (rs s d n).1 cs s' → SendLog rs s ((d, (rs s d n).2) :: cs) s'

theorem sendAll_log {σ : Type} (rs : RS σ) (s : σ) (t : Tni) (hc : t.closing = false) (l : List Peer) :
    SendLog rs s (sendAll rs s t l).calls (sendAll rs s t l).st ∧
    (sendAll rs s t l).errs = errCount (sendAll rs s t l).calls ∧
    (sendAll rs s t l).calls.map (·.1) = l := by
  induction l generalizing s t with
  | nil => exact ⟨.nil s, rfl, rfl⟩
  | cons d l ih =>
    obtain ⟨n, t', hn, ht', he⟩ := sendTo_open' rs s t d hc
    obtain ⟨h1, h2, h3⟩ := ih (rs s d n).1 t' ht'
    rw [sendAll, he]
    exact ⟨.cons d hn h1, congrArg ((rs s d n).2.n + ·) h2, congrArg (d :: ·) h3⟩

theorem seqUntilErr_closing {σ : Type} (rs : RS σ) (s : σ) (t : Tni) (hc : t.closing = true) (d : Peer)
    (l : List Peer) : seqUntilErr rs s t (d :: l) = ⟨s, t, 1, []⟩ := by
  rw [seqUntilErr, sendTo_refused rs s t d hc]
  rfl

theorem seqUntilErr_log {σ : Type} (rs : RS σ) (s : σ) (t : Tni) (hc : t.closing = false) (l : List Peer) :
    SendLog rs s (seqUntilErr rs s t l).calls (seqUntilErr rs s t l).st ∧
    (seqUntilErr rs s t l).errs = errCount (seqUntilErr rs s t l).calls ∧
    (seqUntilErr rs s t l).errs ≤ 1 ∧
    (seqUntilErr rs s t l).calls.map (·.1) <+: l ∧
    ((seqUntilErr rs s t l).errs = 0 → (seqUntilErr rs s t l).calls.map (·.1) = l) := by
  induction l generalizing s t with
  | nil => exact ⟨.nil s, rfl, Nat.zero_le _, List.prefix_refl _, fun _ => rfl⟩
  | cons d l ih =>
    obtain ⟨n, t', hn, ht', he⟩ := sendTo_open' rs s t d hc
    rw [seqUntilErr, he]
    cases hr : (rs s d n).2 with
    | ok =>
      obtain ⟨h1, h2, h3, h4, h5⟩ := ih (rs s d n).1 t' ht'
      have h1 := SendLog.cons d hn h1
      rw [hr] at h1
      exact ⟨h1, h2.trans (Nat.zero_add _).symm, h3, (List.prefix_cons_inj d).mpr h4,
        fun h => congrArg (d :: ·) (h5 h)⟩
    | err =>
      have h1 := SendLog.cons d hn (.nil (rs s d n).1)
      rw [hr] at h1
      exact ⟨h1, rfl, Nat.le_refl 1, (List.prefix_cons_inj d).mpr List.nil_prefix, nofun⟩

end C09

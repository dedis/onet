import OnetVerif.Model.C09Pause
import OnetVerif.Model.C09Local
import OnetVerif.Proofs.Sched
/-! The router's pause gate (`Model/C09Pause.lean`; shared with Props/C10.lean) and the in-memory transport's manager
(`Model/C09Local.lean`), each with the invariant of the code as it stands; core only. -/
namespace C09

/-- invariant of the repaired gate; `woken` is the second lock region, which only the unrepaired gate enters -/
def GateInv (s : Gate) : Prop :=
  ∀ pc ∈ s.loops, (∀ ch, pc = .wait ch → s.closedCh.contains ch = true ∨ s.paused = some ch) ∧ (∀ ch, pc ≠ .woken ch)

theorem gateRun_skips (fixed : Bool) : Sched.Skips (gateStep fixed) (gateRun fixed) :=
  ⟨fun _ => rfl, fun s a as => by rw [gateRun]; cases gateStep fixed s a <;> rfl⟩

theorem gate_inv_step {s s' : Gate} {a : GateAct} (h : GateInv s) (hs : gateStep true s a = some s') : GateInv s' := by
  revert hs
  -- the enabled branches of `gateStep` in its order
  fun_cases gateStep true s a <;> rintro ⟨⟩
  · exact List.forall_mem_concat h ⟨nofun, nofun⟩   -- `launch`
  · exact h   -- `pause`, paused already
  · -- `pause` makes a channel: the field was empty, so whoever waits does so on a closed channel
    next hp =>
    exact fun pc hpc =>
      ⟨fun ch hc => ((h pc hpc).1 ch hc).elim .inl fun hpa => (by rw [hp] at hpa; cases hpa), (h pc hpc).2⟩
  · -- `unpause` closes the channel the field held
    next _ hp =>
    refine fun pc hpc => ⟨fun ch hc => .inl ?_, (h pc hpc).2⟩
    rcases (h pc hpc).1 ch hc with hcl | hpa
    · rw [List.contains_cons, hcl, Bool.or_true]
    · cases hp.symm.trans hpa
      rw [List.contains_cons, beq_self_eq_true, Bool.true_or]
  · exact h   -- `unpause`, not paused
  · -- `received`, paused: the loop waits on the channel the field holds
    next hp => exact List.forall_mem_set h ⟨fun ch' hc => (by cases hc; exact .inr hp), nofun⟩
  · exact h   -- `received`, not paused
  · exact List.forall_mem_set h ⟨nofun, nofun⟩   -- `wake`
  · next hl => exact absurd rfl ((h _ (List.mem_of_getElem? hl)).2 _)   -- `reset` starts from `woken`

theorem gate_inv_run (s : Gate) (h : GateInv s) (acts : List GateAct) : GateInv (gateRun true s acts) :=
  (gateRun_skips true).inv (fun _ _ _ => gate_inv_step) acts s h

theorem gate_inv_init : GateInv {} := by
  intro pc hpc
  cases hpc

theorem GateInv.not_stranded {s : Gate} (h : GateInv s) : ∀ pc ∈ s.loops, pc.stranded s = false := by
  intro pc hpc
  cases pc with
  | wait ch =>
    show (!s.closedCh.contains ch && s.paused != some ch) = false
    rcases (h _ hpc).1 ch rfl with hc | hp
    · rw [hc, Bool.not_true, Bool.false_and]
    · rw [hp, bne_self_eq_false, Bool.and_false]
  | _ => rfl

theorem lmRun_skips (atomic : Bool) : Sched.Skips (lmStep atomic) (lmRun atomic) :=
  ⟨fun _ => rfl, fun s a as => by rw [lmRun]; cases lmStep atomic s a <;> rfl⟩

/-- the lock names the one sender between look-up and hand-over; the queue is open while one stands there -/
structure LmInv (s : Lm) : Prop where
  holder : Sched.Holds (· == SndPc.holding) s.lock s.senders
  isOpen : s.lock ≠ none → s.isOpen = true
  noPanic : SndPc.panicked ∉ s.senders

theorem lm_inv_init (cap : Nat) : LmInv { cap := cap } :=
  ⟨Sched.Holds.nil, fun h => absurd rfl h, nofun⟩

theorem lm_inv_step {s s' : Lm} {a : LmAct} (h : LmInv s) (hs : lmStep true s a = some s') : LmInv s' := by
  have moved : ∀ {j : Nat} {pc : SndPc}, pc ≠ .panicked → SndPc.panicked ∉ s.senders.set j pc :=
    fun hpc hm => (List.mem_or_eq_of_mem_set hm).elim h.noPanic (fun e => hpc e.symm)
  revert hs
  -- the enabled branches of `lmStep` in its order
  fun_cases lmStep true s a <;> rintro ⟨⟩
  · -- `sendCall`
    exact ⟨h.holder.concat rfl, h.isOpen,
      fun hm => (List.mem_append.mp hm).elim h.noPanic fun hm => by cases List.mem_singleton.mp hm⟩
  · next hc ho => exact ⟨h.holder.acquire hc.2 hc.1 rfl, fun _ => ho, moved nofun⟩   -- `lookup`, listed
  · next hc _ => exact ⟨h.holder.set hc.1 rfl, h.isOpen, moved nofun⟩   -- `lookup`, not listed
  · -- `enqueue` on a closed queue: the sender at hand-over holds the lock, so the queue is open
    next hc ho =>
    rw [h.isOpen (by rw [h.holder.eq_some hc rfl]; nofun)] at ho
    cases ho
  · next hc _ _ => exact ⟨h.holder.release hc rfl rfl, fun hn => absurd rfl hn, moved nofun⟩   -- `enqueue`
  · exact ⟨h.holder, h.isOpen, h.noPanic⟩   -- `drain`
  · next hc => exact ⟨h.holder, fun hn => absurd hc.1 hn, h.noPanic⟩   -- `close`

theorem lm_inv_run (cap : Nat) (acts : List LmAct) : LmInv (lmRun true { cap := cap } acts) :=
  (lmRun_skips true).inv (fun _ _ _ => lm_inv_step) acts _ (lm_inv_init cap)

end C09

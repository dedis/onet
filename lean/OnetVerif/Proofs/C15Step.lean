import OnetVerif.Model.C15
import OnetVerif.Proofs.Sched
/-! The transition system of `Model/C15.lean` as a relation: `Step v caps s a s'` has one rule per branch of `step` that
moves, the branch's tests as premises and the model's helper functions (`readerExit`, `fwdExit`, …) left folded, so one
relation serves every code variant; `step` takes exactly these moves (`Step.of_step`, `Step.enabled`). -/
namespace C15

/-- the flag `outClosed || forwarders == 0` after a decrement or at `endStream` -/
theorem or_beq_zero {oc : Bool} {n : Nat} (h : oc = true → n = 0) (hc : (oc || n == 0) = true) : n = 0 := by
  rw [Bool.or_eq_true, beq_iff_eq] at hc
  exact hc.elim h id

theorem or_beq_zero_intro {oc : Bool} {n : Nat} (h : n = 0) : (oc || n == 0) = true :=
  Bool.or_eq_true_iff.mpr (.inr (beq_iff_eq.mpr h))

/-- the stream of channel `k` is `(l[k]?).getD {}`: a channel not handed out yet is the default stream -/
theorem forall_getD_set {P Q : Nat → Stream → Prop} {l : List Stream} {j : Nat} {st x : Stream}
    (h : ∀ k, P k ((l[k]?).getD {})) (hk : l[j]? = some st) (hj : Q j x) (hr : ∀ k u, k ≠ j → P k u → Q k u) :
    ∀ k, Q k (((l.set j x)[k]?).getD {}) := by
  intro k
  rw [List.getElem?_set]
  split
  · rename_i hjk
    subst hjk
    rw [if_pos (List.lt_length_of_getElem? hk)]; exact hj
  · rename_i hjk
    exact hr k _ (fun h => hjk h.symm) (h k)

theorem getD_snoc (l : List Stream) (t : Stream) (k : Nat) :
    ((l ++ [t])[k]?).getD {} = (l[k]?).getD {} ∨ ((l[k]?).getD {} = {} ∧ ((l ++ [t])[k]?).getD {} = t) := by
  rcases Nat.lt_trichotomy k l.length with h | h | h
  · exact .inl (by rw [List.getElem?_append_left h])
  · subst h
    exact .inr ⟨by rw [List.getElem?_eq_none (Nat.le_refl _)]; rfl, by rw [List.getElem?_concat_length]; rfl⟩
  · exact .inl (by rw [List.getElem?_eq_none (by simp; omega), List.getElem?_eq_none (by omega)])

theorem run_skips (v : Variant) (caps : Caps) : Sched.Skips (step v caps) (run v caps) :=
  ⟨fun _ => rfl, fun s a as => by rw [run]; cases step v caps s a <;> rfl⟩

/-- the adapter handles message `m`: the body of its loop after the test of `ended` -/
def serve (v : Variant) (s : St) : CMsg → St
  | .garbage => adapterFail v s
  | .failing => adapterFail v { s with calls := s.calls + 1 }
  | .fresh => newStream v { s with calls := s.calls + 1 }
  | .nostop => newStream v { s with calls := s.calls + 1 } { noStop := true }
  | .noout => nilOut v { s with calls := s.calls + 1 }
  | .reuse j =>
    match s.streams[j]? with
    | none => newStream v { s with calls := s.calls + 1 }
    | some st =>
      if v.dedupe then { s with calls := s.calls + 1 } else extraFwd v { s with calls := s.calls + 1 } j st

section equations
variable (v : Variant) (caps : Caps) (s : St)

theorem step_dead (a : Act) (h : s.panic.isSome = true) : step v caps s a = none :=
  if_pos h

theorem step_fStep (k f : Nat) : step v caps s (.fStep k f) =
    if s.panic.isSome then none else
    match s.streams[k]? with
    | none => none
    | some st =>
      match getFwd st f with
      | some .recv =>
        if st.chanClosed then some (fwdExit v { s with streams := s.streams.set k (setFwd st f .done) }) else none
      | some (.hold x) =>
        if s.outClosed then some { s with panic := some .sendOnClosedOut }
        else if s.outq.length < caps.outCap then
          some { s with outq := s.outq ++ [(k, x)], streams := s.streams.set k (setFwd st f .recv) }
        else none
      | _ => none := rfl

theorem step_fDrop (k f : Nat) : step v caps s (.fDrop k f) =
    if s.panic.isSome then none else
    match s.streams[k]? with
    | none => none
    | some st =>
      match getFwd st f with
      | some (.hold _) =>
        if v.guardedOut && s.stopAll then some (fwdExit v { s with streams := s.streams.set k (setFwd st f .done) })
        else none
      | _ => none := rfl

theorem step_stop (k : Nat) : step v caps s (.stop k) =
    if s.panic.isSome then none else
    match s.streams[k]? with
    | none => none
    | some st => if (s.stopAll || st.refused) && !st.stopClosed then some (stopChan v s k st) else none := rfl

end equations

inductive Step (v : Variant) (caps : Caps) (s : St) : Act → St → Prop
  | cSend (m : CMsg) (hg : s.cGone = false) : Step v caps s (.cSend m) { s with c2s := s.c2s ++ [m] }
  | cLeave (hg : s.cGone = false) : Step v caps s .cLeave { s with cGone := true }
  | rExit (hr : s.rpc = .read) (hx : s.wsClosed = true ∨ s.c2s = [] ∧ s.cGone = true) :
      Step v caps s .rStep (readerExit v { s with closing := true })
  | rRead {m rest} (hr : s.rpc = .read) (hw : s.wsClosed = false) (hc : s.c2s = m :: rest) :
      Step v caps s .rStep { s with c2s := rest, rpc := .hold m }
  | rPanic {m} (hr : s.rpc = .hold m) (hc : s.inClosed = true) :
      Step v caps s .rStep { s with panic := some .sendOnClosedInputs }
  | rFwd {m} (hr : s.rpc = .hold m) (hc : s.inClosed = false) (hl : s.inq.length < caps.inCap) :
      Step v caps s .rStep { s with inq := s.inq ++ [m], rpc := .read }
  | rLeave {m} (hr : s.rpc = .hold m) (hv : v.readerCloses = true) (hl : s.leaving = true) :
      Step v caps s .rLeave (readerExit v s)
  | aEnd (ha : s.adone = false) (hq : s.inq = []) (hc : s.inClosed = true) :
      Step v caps s .aStep { s with adone := true, stopAll := true }
  | aDrain {m rest} (ha : s.adone = false) (hq : s.inq = m :: rest) (he : s.ended = true) :
      Step v caps s .aStep { s with inq := rest }
  | aServe {m rest} (ha : s.adone = false) (hq : s.inq = m :: rest) (he : s.ended = false) :
      Step v caps s .aStep (serve v { s with inq := rest } m)
  | emit {k f st} (x : Nat) (hk : s.streams[k]? = some st) (hc : st.chanClosed = false) (hn : st.noOut = false)
      (hf : getFwd st f = some .recv) :
      Step v caps s (.emit k f x)
        { s with streams := s.streams.set k (setFwd { st with emitted := st.emitted ++ [x] } f (.hold x)) }
  | emitBad {k f st} (hk : s.streams[k]? = some st) (hc : st.chanClosed = false) (hn : st.noOut = false)
      (hf : getFwd st f = some .recv) :
      Step v caps s (.emitBad k f) (fwdExit v { s with streams := s.streams.set k (setFwd st f .done) })
  | svcClose {k st} (hk : s.streams[k]? = some st) (hc : st.chanClosed = false) (hn : st.noOut = false) :
      Step v caps s (.svcClose k) { s with streams := s.streams.set k { st with chanClosed := true } }
  | fExit {k f st} (hk : s.streams[k]? = some st) (hf : getFwd st f = some .recv) (hc : st.chanClosed = true) :
      Step v caps s (.fStep k f) (fwdExit v { s with streams := s.streams.set k (setFwd st f .done) })
  | fPanic {k f st x} (hk : s.streams[k]? = some st) (hf : getFwd st f = some (.hold x)) (ho : s.outClosed = true) :
      Step v caps s (.fStep k f) { s with panic := some .sendOnClosedOut }
  | fSend {k f st x} (hk : s.streams[k]? = some st) (hf : getFwd st f = some (.hold x)) (ho : s.outClosed = false)
      (hl : s.outq.length < caps.outCap) :
      Step v caps s (.fStep k f)
        { s with outq := s.outq ++ [(k, x)], streams := s.streams.set k (setFwd st f .recv) }
  | fDrop {k f st x} (hk : s.streams[k]? = some st) (hf : getFwd st f = some (.hold x)) (hv : v.guardedOut = true)
      (ha : s.stopAll = true) :
      Step v caps s (.fDrop k f) (fwdExit v { s with streams := s.streams.set k (setFwd st f .done) })
  | stop {k st} (hk : s.streams[k]? = some st) (ha : s.stopAll = true ∨ st.refused = true)
      (hc : st.stopClosed = false) :
      Step v caps s (.stop k) (stopChan v s k st)
  | wData {k x rest} (hw : s.wdone = false) (hq : s.outq = (k, x) :: rest) :
      Step v caps s .wOut { s with outq := rest, s2c := s.s2c ++ [.data k x] }
  | wClose (hw : s.wdone = false) (hq : s.outq = []) (ho : s.outClosed = true) :
      Step v caps s .wOut (writerLeave v false .closeNormal s)
  | wClosing (hw : s.wdone = false) (hc : s.closing = true) :
      Step v caps s .wClosing (writerLeave v true .closeError s)
  | wFail {p rest} (hw : s.wdone = false) (hq : s.outq = p :: rest) (hg : s.cGone = true) :
      Step v caps s .wOutFail (writerLeave v false .closeError { s with outq := rest })

variable {v : Variant} {caps : Caps} {s s' : St} {a : Act}

theorem isSome_panic (h : s.panic = none) : ¬ s.panic.isSome = true := by
  rw [h]; exact Bool.false_ne_true

theorem Step.enabled (hp : s.panic = none) (h : Step v caps s a s') : step v caps s a = some s' := by
  have hp := isSome_panic hp
  cases h with
  | cSend m hg => simp only [step, if_neg hp, hg, Bool.false_eq_true, if_false]
  | cLeave hg => simp only [step, if_neg hp, hg, Bool.false_eq_true, if_false]
  | rExit hr hx =>
    simp only [step, if_neg hp, hr]
    rcases hx with hw | ⟨hc, hg⟩
    · simp only [hw, if_true]
    · cases s.wsClosed <;> simp only [hc, hg, if_true, Bool.false_eq_true, if_false]
  | rRead hr hw hc => simp only [step, if_neg hp, hr, hw, hc, Bool.false_eq_true, if_false]
  | rPanic hr hc => simp only [step, if_neg hp, hr, hc, if_true]
  | rFwd hr hc hl => simp only [step, if_neg hp, hr, hc, hl, Bool.false_eq_true, if_false, if_true]
  | rLeave hr hv hl => simp only [step, if_neg hp, hr, hv, hl, Bool.and_self, if_true]
  | aEnd ha hq hc => simp only [step, if_neg hp, ha, hq, hc, Bool.false_eq_true, if_false, if_true]
  | aDrain ha hq he => simp only [step, if_neg hp, ha, hq, he, Bool.false_eq_true, if_false, if_true]
  | @aServe m rest ha hq he =>
    simp only [step, if_neg hp, ha, hq, he, Bool.false_eq_true, if_false]
    -- the model's match on the message is `serve`, branch by branch
    cases m with
    | reuse j =>
      simp only [serve]
      cases s.streams[j]? with
      | none => rfl
      | some st => cases v.dedupe <;> rfl
    | _ => rfl
  | emit x hk hc hn hf => simp only [step, if_neg hp, hk, hc, hn, hf, Bool.or_self, Bool.false_eq_true, if_false]
  | emitBad hk hc hn hf => simp only [step, if_neg hp, hk, hc, hn, hf, Bool.or_self, Bool.false_eq_true, if_false]
  | svcClose hk hc hn => simp only [step, if_neg hp, hk, hc, hn, Bool.or_self, Bool.false_eq_true, if_false]
  | fExit hk hf hc => simp only [step_fStep, if_neg hp, hk, hf, hc, if_true]
  | fPanic hk hf ho => simp only [step_fStep, if_neg hp, hk, hf, ho, if_true]
  | fSend hk hf ho hl => simp only [step_fStep, if_neg hp, hk, hf, ho, hl, Bool.false_eq_true, if_false, if_true]
  | fDrop hk hf hv ha => simp only [step_fDrop, if_neg hp, hk, hf, hv, ha, Bool.and_self, if_true]
  | @stop k st hk ha hc =>
    have : ((s.stopAll || st.refused) && !st.stopClosed) = true := by rw [hc]; simpa using ha
    simp only [step_stop, if_neg hp, hk, this, if_true]
  | wData hw hq => simp only [step, if_neg hp, hw, hq, Bool.false_eq_true, if_false]
  | wClose hw hq ho => simp only [step, if_neg hp, hw, hq, ho, Bool.false_eq_true, if_false, if_true]
  | wClosing hw hc => simp only [step, if_neg hp, hw, hc, Bool.false_eq_true, if_false, if_true]
  | wFail hw hq hg => simp only [step, if_neg hp, hw, hq, hg, Bool.false_eq_true, if_false, if_true]

theorem Step.of_step (h : step v caps s a = some s') : s.panic = none ∧ Step v caps s a s' := by
  revert s'
  -- one goal per branch of `step` that returns a state, in the order of its text; the tests on the way are hypotheses
  fun_cases step v caps s a <;> rintro _ ⟨⟩ <;> refine ⟨Option.not_isSome_iff_eq_none.mp ‹_›, ?_⟩
  · exact .cSend _ (eq_false_of_ne_true ‹_›)
  · exact .cLeave (eq_false_of_ne_true ‹_›)
  -- `rStep`, reading: socket closed, a message, client gone
  · exact .rExit ‹_› (.inl ‹_›)
  · exact .rRead ‹_› (eq_false_of_ne_true ‹_›) ‹_›
  · exact .rExit ‹_› (.inr ⟨‹_›, ‹_›⟩)
  -- `rStep`, holding a message: `clientInputs` closed, room in it
  · exact .rPanic ‹_› ‹_›
  · exact .rFwd ‹_› (eq_false_of_ne_true ‹_›) ‹_›
  · next hl => rw [Bool.and_eq_true] at hl; exact .rLeave ‹_› hl.1 hl.2
  -- `aStep`: `clientInputs` empty and closed, draining after the end of the stream
  · exact .aEnd (eq_false_of_ne_true ‹_›) ‹_› ‹_›
  · exact .aDrain (eq_false_of_ne_true ‹_›) ‹_› ‹_›
  -- `aStep`, a message without an index: a branch of `serve` as it stands
  · exact .aServe (eq_false_of_ne_true ‹_›) ‹_› (eq_false_of_ne_true ‹_›)
  · exact .aServe (eq_false_of_ne_true ‹_›) ‹_› (eq_false_of_ne_true ‹_›)
  · exact .aServe (eq_false_of_ne_true ‹_›) ‹_› (eq_false_of_ne_true ‹_›)
  · exact .aServe (eq_false_of_ne_true ‹_›) ‹_› (eq_false_of_ne_true ‹_›)
  · exact .aServe (eq_false_of_ne_true ‹_›) ‹_› (eq_false_of_ne_true ‹_›)
  -- `aStep`, `reuse j`: no such stream; known and `dedupe`; known without `dedupe`
  · next ha _ _ he j _ hj hq =>
    have hj : s.streams[j]? = none := hj
    have := Step.aServe (v := v) (caps := caps) (eq_false_of_ne_true ha) hq (eq_false_of_ne_true he)
    simp only [serve, hj] at this; exact this
  · next ha _ _ he j _ st hj hd hq =>
    have hj : s.streams[j]? = some st := hj
    have := Step.aServe (v := v) (caps := caps) (eq_false_of_ne_true ha) hq (eq_false_of_ne_true he)
    simp only [serve, hj, if_pos hd] at this; exact this
  · next ha _ _ he j _ st hj hd hq =>
    have hj : s.streams[j]? = some st := hj
    have := Step.aServe (v := v) (caps := caps) (eq_false_of_ne_true ha) hq (eq_false_of_ne_true he)
    simp only [serve, hj, if_neg hd] at this; exact this
  -- `emit`, `emitBad`, `svcClose`: the test `chanClosed || noOut` has failed
  · next hc _ =>
    rw [Bool.or_eq_true, not_or] at hc
    exact .emit _ ‹_› (eq_false_of_ne_true hc.1) (eq_false_of_ne_true hc.2) ‹_›
  · next hc _ =>
    rw [Bool.or_eq_true, not_or] at hc
    exact .emitBad ‹_› (eq_false_of_ne_true hc.1) (eq_false_of_ne_true hc.2) ‹_›
  · next hc =>
    rw [Bool.or_eq_true, not_or] at hc
    exact .svcClose ‹_› (eq_false_of_ne_true hc.1) (eq_false_of_ne_true hc.2)
  -- `fStep`: channel closed; holding a value with `outChan` closed, with room in it
  · exact .fExit ‹_› ‹_› ‹_›
  · exact .fPanic ‹_› ‹_› ‹_›
  · exact .fSend ‹_› ‹_› (eq_false_of_ne_true ‹_›) ‹_›
  · next hg => rw [Bool.and_eq_true] at hg; exact .fDrop ‹_› ‹_› hg.1 hg.2
  · next hg => rw [Bool.and_eq_true, Bool.or_eq_true, Bool.not_eq_true'] at hg; exact .stop ‹_› hg.1 hg.2
  -- the write loop: `wOut` with a value, `wOut` on the closed empty `outChan`, `wClosing`, `wOutFail`
  · exact .wData (eq_false_of_ne_true ‹_›) ‹_›
  · exact .wClose (eq_false_of_ne_true ‹_›) ‹_› ‹_›
  · exact .wClosing (eq_false_of_ne_true ‹_›) ‹_›
  · exact .wFail (eq_false_of_ne_true ‹_›) ‹_› ‹_›

theorem getFwd_zero (st : Stream) (h : st.extra = []) (f : Nat) (pc : FPc) (hf : getFwd st f = some pc) :
    f = 0 ∧ st.fwd = pc := by
  unfold getFwd at hf
  split at hf
  · exact ⟨by assumption, by simpa using hf⟩
  · simp [h] at hf

theorem setFwd_refused (st : Stream) (f : Nat) (pc : FPc) : (setFwd st f pc).refused = st.refused := by
  unfold setFwd; split <;> rfl

/-- the stopper of the code as it is: a nil stop channel is left alone -/
theorem stopChan_fixed (s : St) (k : Nat) (st : Stream) :
    stopChan .fixed s k st = { s with streams := s.streams.set k { st with stopClosed := true } } := by
  cases hn : st.noStop <;> simp only [stopChan, hn] <;> rfl

theorem newStream_fixed (s : St) (t : Stream) : newStream .fixed s t =
    { s with fcount := if s.outClosed then s.fcount else s.fcount + 1,
             streams := s.streams ++ [if s.outClosed then { t with refused := true, fwd := .done } else t] } := by
  show (if s.outClosed then _ else _) = _
  split <;> rfl

/-- the outcomes of `serve .fixed`; `known`: a channel handed back again, `fail`: `endStream`, `refused`: `outChan` closed
already, `nil`: a nil channel, refused and `endStream` -/
inductive Served (s : St) : St → Prop
  | known (c : Nat) : Served s { s with calls := c }
  | fail (c : Nat) :
      Served s { s with calls := c, ended := true, stopAll := true, outClosed := s.outClosed || s.fcount == 0 }
  | fresh (c : Nat) (b : Bool) (ho : s.outClosed = false) :
      Served s { s with calls := c, fcount := s.fcount + 1, streams := s.streams ++ [{ noStop := b }] }
  | refused (c : Nat) (b : Bool) (ho : s.outClosed = true) :
      Served s { s with calls := c, streams := s.streams ++ [{ noStop := b, refused := true, fwd := .done }] }
  | nil (c : Nat) :
      Served s { s with calls := c, ended := true, stopAll := true, outClosed := s.outClosed || s.fcount == 0,
                        streams := s.streams ++ [{ refused := true, fwd := .done, noOut := true }] }

theorem newStream_served (s : St) (c : Nat) (b : Bool) :
    Served s (newStream .fixed { s with calls := c } { noStop := b }) := by
  show Served s (if s.outClosed then _ else _)
  split
  · exact .refused c b ‹_›
  · exact .fresh c b (eq_false_of_ne_true ‹_›)

theorem serve_served (s : St) (m : CMsg) : Served s (serve .fixed s m) := by
  cases m with
  | garbage => exact .fail s.calls
  | failing => exact .fail _
  | fresh | nostop => exact newStream_served ..
  | noout => exact .nil _
  | reuse j =>
    simp only [serve]
    split
    · exact newStream_served ..
    · exact .known _

/-- `f_fr` says it of the model's function `f` -/
def SameWire (s s' : St) : Prop := s'.s2c = s.s2c ∧ s'.wdone = s.wdone

theorem closeOut_fr (s : St) : SameWire s (closeOut s) := by
  unfold closeOut; split <;> exact ⟨rfl, rfl⟩

theorem fwdExit_fr (v : Variant) (s : St) : SameWire s (fwdExit v s) := by
  unfold fwdExit
  split
  · exact ⟨rfl, rfl⟩
  · split
    · exact ⟨rfl, rfl⟩
    · exact closeOut_fr _

theorem adapterFail_fr (v : Variant) (s : St) : SameWire s (adapterFail v s) := by
  unfold adapterFail
  split
  · exact ⟨rfl, rfl⟩
  · exact closeOut_fr s

theorem newStream_fr (v : Variant) (s : St) (t : Stream) : SameWire s (newStream v s t) := by
  unfold newStream
  split
  · split <;> exact ⟨rfl, rfl⟩
  · exact ⟨rfl, rfl⟩

theorem nilOut_fr (v : Variant) (s : St) : SameWire s (nilOut v s) := by
  unfold nilOut
  split
  · exact adapterFail_fr _ _
  · exact newStream_fr _ _ _

theorem stopChan_fr (v : Variant) (s : St) (k : Nat) (st : Stream) : SameWire s (stopChan v s k st) := by
  unfold stopChan; split <;> exact ⟨rfl, rfl⟩

theorem extraFwd_fr (v : Variant) (s : St) (j : Nat) (st : Stream) : SameWire s (extraFwd v s j st) := by
  unfold extraFwd; split <;> exact ⟨rfl, rfl⟩

theorem readerExit_fr (v : Variant) (s : St) : SameWire s (readerExit v s) := by
  unfold readerExit; split <;> exact ⟨rfl, rfl⟩

theorem serve_fr (v : Variant) (s : St) (m : CMsg) : SameWire s (serve v s m) := by
  cases m with
  | garbage | failing => exact adapterFail_fr ..
  | fresh | nostop => exact newStream_fr ..
  | noout => exact nilOut_fr ..
  | reuse j =>
    simp only [serve]
    split
    · exact newStream_fr ..
    · split
      · exact ⟨rfl, rfl⟩
      · exact extraFwd_fr ..

theorem writerLeave_fr (v : Variant) (b : Bool) (f : Frame) (s : St) :
    (writerLeave v b f s).s2c = s.s2c ++ [f] ∧ (writerLeave v b f s).wdone = true := by
  unfold writerLeave
  simp only
  split
  · split <;> exact ⟨rfl, rfl⟩
  · exact ⟨rfl, rfl⟩

end C15

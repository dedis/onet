import OnetVerif.Model.C07
/-! Lemmas about the receive-path model `Model/C07.lean`, around `Stable`: a predicate kept by every building block of
`process` is kept by every envelope, window and schedule step.  The model branches with `if`; `ite_ind` carries a fact
through one `if`, so that a proof about `process` is a term of the shape of `process`. -/
namespace C07

theorem ite_ind {α β : Type} {P : β → Prop} (f : α → β) {c : Prop} [Decidable c] {a b : α}
    (ha : c → P (f a)) (hb : ¬ c → P (f b)) : P (f (if c then a else b)) := by
  split
  · exact ha ‹_›
  · exact hb ‹_›

theorem ne_panic_ite {α : Type} {c : Prop} [Decidable c] {a b : Out × α} (ha : a.1 ≠ .panic) (hb : b.1 ≠ .panic) :
    (if c then a else b).1 ≠ .panic :=
  ite_ind (P := (· ≠ Out.panic)) Prod.fst (fun _ => ha) fun _ => hb

theorem snd_ite {P : Srv → Prop} {c : Prop} [Decidable c] {a b : Out × Srv} (ha : c → P a.2) (hb : ¬ c → P b.2) :
    P (if c then a else b).2 :=
  ite_ind Prod.snd ha hb

theorem upd_same {α β : Type} [DecidableEq α] (f : α → β) (t : α) (v : β) : upd f t v t = v := if_pos rfl

theorem upd_other {α β : Type} [DecidableEq α] {f : α → β} {t x : α} {v : β} (h : x ≠ t) : upd f t v x = f x := if_neg h

theorem upd_self {α : Type} (f : TRef → α) (t : TRef) : upd f t (f t) = f := by
  funext x; unfold upd; split
  · rename_i h; rw [h]
  · rfl

theorem upd_upd {α : Type} (f : TRef → α) (t : TRef) (v w : α) : upd (upd f t v) t w = upd f t w := by
  funext x; simp only [upd]; split <;> rfl

theorem upd_eq_of {α : Type} {f : TRef → α} {t x : TRef} {v : α} (h : f x = v) : upd f t v x = v := by
  by_cases e : x = t
  · rw [e, upd_same]
  · rw [upd_other e, h]

def b2n (b : Bool) : Nat := if b then 1 else 0

theorem handOver_fst (s : Srv) (t : TRef) (frm : Frm) (b : Body) :
    (handOver s t frm b).1 = if reader t frm b then .ok else .ignored := by
  unfold handOver
  split <;> rfl

theorem handOver_snd (s : Srv) (t : TRef) (frm : Frm) (b : Body) :
    (handOver s t frm b).2 = { s with handed := s.handed + 1, delivered := s.delivered + b2n (reader t frm b) } := by
  unfold handOver b2n
  cases reader t frm b <;> rfl

theorem created_only_armed_cfgHas (s : Srv) (to : Tok) :
    created s to = { s with armed := upd s.armed (treeOf to) false, cfgHas := (created s to).cfgHas } := by
  unfold created
  cases destOf to <;> rfl

theorem created_armed (s : Srv) (to : Tok) : (created s to).armed (treeOf to) = false := by
  rw [created_only_armed_cfgHas]; exact upd_same _ _ _

theorem clean_only_armed (s : Srv) (t : TRef) : clean s t = { s with armed := (clean s t).armed } := by
  unfold clean
  split <;> rfl

theorem deliverIn_not_panic (s : Srv) (to : Tok) (frm : Frm) (b : Body) : (deliverIn s to frm b).1 ≠ .panic :=
  have hand : ∀ X t, (handOver X t frm b).1 ≠ .panic := fun _ _ => ne_panic_ite nofun nofun
  match to with
  | .none | .zero | .badNode | .badProtoNew _ => nofun
  | .done => ne_panic_ite nofun (ne_panic_ite (hand _ _) (hand _ _))
  | .run | .fresh _ => ne_panic_ite (hand _ _) (hand _ _)
  | .badProto _ => ne_panic_ite nofun nofun

theorem deliver_not_panic (s : Srv) (to : Tok) (frm : Frm) (b : Body) : (deliver s to frm b).1 ≠ .panic :=
  ne_panic_ite (deliverIn_not_panic _ _ _ _) (deliverIn_not_panic _ _ _ _)

theorem sendTree_not_panic (s : Srv) (tm : Option TM) (ro : Option Ro) : (sendTree s tm ro).1 ≠ .panic :=
  match tm, ro with
  | none, _ => nofun
  | some _, none => ne_panic_ite nofun nofun
  | some _, some _ => ne_panic_ite nofun (ne_panic_ite nofun (ne_panic_ite nofun nofun))

/-- `P` is kept by every building block of `process`.  Those that are bare record updates: `listK` / `listT` an instance is
listed, `mark` a token is marked finished, `refresh` `getAndRefresh`, `park` `requestTree`, `store` `RegisterTree`, `ptm` /
`ptmDrop` `handleSendTreeMarshal` / `checkPendingTreeMarshal`, `cfg` `handleConfigMessage`. -/
structure Stable (P : Srv → Prop) : Prop where
  hand : ∀ s t frm b, P s → P (handOver s t frm b).2
  crea : ∀ s to, P s → P (created s to)
  cln : ∀ s t, P s → P (clean s t)
  listK : ∀ s, P s → s.armed .K = false → P { s with doneLive := true } ∧ P { s with run := true }
  listT : ∀ s t, P s → s.armed t = false → P { s with fresh := upd s.fresh t true }
  mark : ∀ s, P s → (∀ t, P { s with protoFailed := upd s.protoFailed t true }) ∧ P { s with junkMarks := s.junkMarks + 1 }
  refresh : ∀ s t, P s → P { s with armed := upd s.armed t false }
  park : ∀ s t (x : Tok × Frm × Body), P s → s.slot t ≠ .present → treeOf x.1 = t →
      P { s with armed := upd s.armed t false, parked := upd s.parked t (s.parked t ++ [x]) } ∧
      (s.slot t = .absent → P { s with armed := upd s.armed t false, parked := upd s.parked t (s.parked t ++ [x]), slot := upd s.slot t .requested, asks := s.asks + 1 })
  store : ∀ s t r, P s → s.slot t ≠ .present →
      P { s with slot := upd s.slot t .present, armed := upd s.armed t false, parked := upd s.parked t [], treeRo := upd s.treeRo t r }
  reply : ∀ s, P s → P { s with replies := s.replies + 1 }
  ptm : ∀ s tm, P s → P { s with pendingTM := s.pendingTM ++ [tm], asks := s.asks + 1 }
  ptmDrop : ∀ s (f : TM → Bool), P s → P { s with treeLock := 0, pendingTM := s.pendingTM.filter f }
  cfg : ∀ s d, P s → P { s with cfgJunk := s.cfgJunk + 1 } ∧ P { s with cfgHas := upd s.cfgHas d true }
  take : ∀ s t, P s → P (taken s t)

theorem Stable.deliverIn {P : Srv → Prop} (h : Stable P) (s : Srv) (to : Tok) (frm : Frm) (b : Body) (hp : P s) :
    P (deliverIn s to frm b).2 :=
  have hc := h.crea s to hp
  have ha := created_armed s to
  match to with
  | .none | .zero => hp
  | .badNode => h.cln _ _ hp
  | .done =>
    snd_ite (fun _ => h.cln _ _ hp) fun _ => snd_ite (fun _ => h.hand _ _ _ _ hp) fun _ =>
      h.hand _ _ _ _ (h.listK _ hc ha).1
  | .run => snd_ite (fun _ => h.hand _ _ _ _ hp) fun _ => h.hand _ _ _ _ (h.listK _ hc ha).2
  | .fresh t => snd_ite (fun _ => h.hand _ _ _ _ hp) fun _ => h.hand _ _ _ _ (h.listT _ t hc ha)
  | .badProto t => snd_ite (fun _ => h.cln _ _ hp) fun _ => h.cln _ _ ((h.mark _ hc).1 t)
  | .badProtoNew _ => h.cln _ _ (h.mark _ hc).2

theorem Stable.transmitFoundIn {P : Srv → Prop} (h : Stable P) (s : Srv) (to : Tok) (frm : Frm) (b : Body) (hp : P s) :
    P (transmitFoundIn s to frm b).2 := h.deliverIn _ _ _ _ (h.refresh _ _ hp)

theorem Stable.flushIn {P : Srv → Prop} (h : Stable P) (l : List (Tok × Frm × Body)) (s : Srv) (hp : P s) :
    P (flushIn s l) := by
  induction l generalizing s with
  | nil => exact hp
  | cons x l ih => exact ih _ (h.transmitFoundIn _ _ _ _ hp)

theorem Stable.deliver {P : Srv → Prop} (h : Stable P) (s : Srv) (to : Tok) (frm : Frm) (b : Body) (hp : P s) :
    P (deliver s to frm b).2 :=
  snd_ite (fun _ => h.flushIn _ _ (h.deliverIn _ _ _ _ (h.take _ _ hp))) fun _ => h.deliverIn _ _ _ _ hp

theorem Stable.transmitFound {P : Srv → Prop} (h : Stable P) (s : Srv) (to : Tok) (frm : Frm) (b : Body) (hp : P s) :
    P (transmitFound s to frm b).2 := h.deliver _ _ _ _ (h.refresh _ _ hp)

theorem Stable.flush {P : Srv → Prop} (h : Stable P) (l : List (Tok × Frm × Body)) (s : Srv) (hp : P s) :
    P (flush s l) := by
  induction l generalizing s with
  | nil => exact hp
  | cons x l ih => exact ih _ (h.transmitFound _ _ _ _ hp)

theorem Stable.storeAndFlush {P : Srv → Prop} (h : Stable P) (s : Srv) (t : TRef) (r : RoRef) (hp : P s)
    (hs : s.slot t ≠ .present) : P (storeAndFlush s t r) :=
  h.flush _ _ (h.store _ _ _ hp hs)

theorem Stable.sendTree {P : Srv → Prop} (h : Stable P) (s : Srv) (tm : Option TM) (ro : Option Ro) (hp : P s) :
    P (sendTree s tm ro).2 :=
  match tm, ro with
  | none, _ => hp
  | some _, none => snd_ite (fun _ => hp) fun _ => hp
  | some _, some _ =>
    snd_ite (fun _ => hp) fun _ => snd_ite (fun _ => hp) fun hr =>
      snd_ite (fun _ => h.storeAndFlush _ _ _ hp fun e => hr (by rw [e]; nofun)) fun _ => hp

/-- every property that the building blocks keep is kept by every envelope -/
theorem Stable.process {P : Srv → Prop} (h : Stable P) (s : Srv) (e : Env) (hp : P s) : P (process s e).2 :=
  match e with
  | .proto to frm b =>
    snd_ite (fun _ => hp) fun _ => snd_ite (fun _ => hp) fun _ =>
      snd_ite (fun _ => h.transmitFound _ _ _ _ hp) fun hs =>
        have hk := h.park s (treeOf to) (to, frm, b) hp hs rfl
        snd_ite hk.2 fun _ => hk.1
  | .reqTree _ _ => snd_ite (fun _ => h.reply _ hp) fun _ => hp
  | .respTree _ _ => h.sendTree _ _ _ hp
  | .treeMarshal _ =>
    snd_ite (fun _ => hp) fun _ => snd_ite (fun _ => hp) fun _ =>
      snd_ite (fun _ => h.sendTree _ _ _ hp) fun _ => h.ptm _ _ hp
  | .reqRoster _ => h.reply _ hp
  | .sendRoster _ =>
    snd_ite (fun _ => hp) fun _ => h.ptmDrop _ _ <| List.foldlRecOn _ _ hp fun _ ha _ _ =>
      ite_ind id (fun _ => ha) fun hs => ite_ind id (fun _ => h.storeAndFlush _ _ _ ha hs) fun _ => ha
  | .config _ d => snd_ite (fun _ => hp) fun _ => snd_ite (fun _ => (h.cfg _ d hp).1) fun _ => (h.cfg _ d hp).2

theorem Stable.run {P : Srv → Prop} (h : Stable P) (es : List Env) (s : Srv) (hp : P s) : P (runEnvs s es) := by
  induction es generalizing s with
  | nil => exact hp
  | cons e es ih => exact ih _ (h.process s e hp)

theorem Stable.window_at {P : Srv → Prop} (h : Stable P) (s : Srv) (to : Tok) (frm : Frm) (b : Body) (es : List Env)
    (hx : listedOn s (treeOf to) = false →
      P { s with slot := upd s.slot (treeOf to) .absent, armed := upd s.armed (treeOf to) false })
    (hp : P s) : P (window s to frm b es).2 :=
  snd_ite (fun _ => h.process _ _ hp) fun hn =>
    h.deliver _ _ _ _ (h.run es _ (hx (Bool.eq_false_iff.mpr fun hh => hn (.inr (.inr (.inr hh))))))

/-- a predicate that every envelope keeps and the completed removal of an unused tree keeps is kept by a window -/
theorem Stable.window {P : Srv → Prop} (h : Stable P)
    (hx : ∀ s t, P s → listedOn s t = false → P { s with slot := upd s.slot t .absent, armed := upd s.armed t false })
    (s : Srv) (to : Tok) (frm : Frm) (b : Body) (es : List Env) (hp : P s) : P (window s to frm b es).2 :=
  h.window_at s to frm b es (hx s _ hp) hp

/-- a predicate that every envelope keeps, and that does not look at the request counter and at the difference
between an absent and a requested tree, is kept by the window of `requestTree` -/
theorem Stable.rwindow {P : Srv → Prop} (h : Stable P)
    (hx : ∀ s t, P s → P { s with slot := upd s.slot t (if s.slot t = .absent then .requested else s.slot t), asks := s.asks + 1 })
    (s : Srv) (to : Tok) (frm : Frm) (b : Body) (es : List Env) (hp : P s) : P (rwindow s to frm b es).2 :=
  snd_ite (fun _ => h.process _ _ hp) fun hn =>
    have hs : s.slot (treeOf to) ≠ .present := fun e => hn (.inr (.inr (by rw [e]; nofun)))
    hx _ _ (h.run es _ (h.park s (treeOf to) (to, frm, b) hp hs rfl).1)

/-- a predicate every envelope keeps, that the completed removal of an unused tree keeps and that does not look at the
request counter nor at the difference between an absent and a requested tree, is kept by every step of a schedule -/
theorem Stable.sstep {P : Srv → Prop} (h : Stable P)
    (hx : ∀ s t, P s → listedOn s t = false → P { s with slot := upd s.slot t .absent, armed := upd s.armed t false })
    (ha : ∀ s t, P s → P (registerAsk s t))
    (x : SSt) (e : SEv) (hp : P x.s) : P (sstep x e).2.s :=
  match e with
  | .env _ => h.process _ _ hp
  | .hold to frm b =>
    ite_ind (fun y : Out × SSt => y.2.s) (fun _ => h.process _ _ hp) fun _ =>
      ite_ind (fun y : Out × SSt => y.2.s) (fun _ => h.refresh _ _ hp) fun hs =>
        (h.park x.s (treeOf to) (to, frm, b) hp hs rfl).1
  | .expire _ => ite_ind id (fun hc => hx _ _ hp hc.2) fun _ => hp
  | .release i => by
    simp only [C07.sstep]
    cases x.held[i]? with
    | none => exact hp
    | some hd =>
      simp only [releaseHeld]
      cases hd.kind
      · exact h.deliver _ _ _ _ hp
      · exact ha _ _ hp

theorem Stable.srun {P : Srv → Prop} (h : Stable P)
    (hx : ∀ s t, P s → listedOn s t = false → P { s with slot := upd s.slot t .absent, armed := upd s.armed t false })
    (ha : ∀ s t, P s → P (registerAsk s t))
    (es : List SEv) (x : SSt) (hp : P x.s) : P (srun x es).s := by
  induction es generalizing x with
  | nil => exact hp
  | cons e es ih => exact ih _ (h.sstep hx ha x e hp)

/-- an event at the server: an envelope, a window around a protocol message whose tree is there (between the
lookup and `transmitMux`), or around one whose tree is not (between `IsRegistered` and `Register`) -/
inductive Ev where
  | env (e : Env)
  | win (to : Tok) (frm : Frm) (b : Body) (es : List Env)
  | rwin (to : Tok) (frm : Frm) (b : Body) (es : List Env)

def stepEv (s : Srv) : Ev → Out × Srv
  | .env e => process s e
  | .win to frm b es => window s to frm b es
  | .rwin to frm b es => rwindow s to frm b es

def runEvs (s : Srv) : List Ev → Srv
  | [] => s
  | e :: es => runEvs (stepEv s e).2 es

theorem Stable.runEvs {P : Srv → Prop} (h : Stable P)
    (hx : ∀ s t, P s → listedOn s t = false → P { s with slot := upd s.slot t .absent, armed := upd s.armed t false })
    (ha : ∀ s t, P s → P (registerAsk s t)) (evs : List Ev) (s : Srv) (hp : P s) : P (runEvs s evs) := by
  induction evs generalizing s with
  | nil => exact hp
  | cons e evs ih =>
    exact ih _ (match e with
      | .env _ => h.process _ _ hp
      | .win .. => h.window hx _ _ _ _ _ hp
      | .rwin .. => h.rwindow ha _ _ _ _ _ hp)

/-- only `park` and `store` (= `take`) of tree `x` change its slot and its parked list -/
theorem Stable.at_tree (x : TRef) {Q : Slot → List (Tok × Frm × Body) → Prop}
    (park : ∀ v l y, Q v l → v ≠ .present → treeOf y.1 = x → Q v (l ++ [y]) ∧ (v = .absent → Q .requested (l ++ [y])))
    (store : ∀ v l, Q v l → Q .present []) :
    Stable (fun s => Q (s.slot x) (s.parked x)) :=
  have st : ∀ (s : Srv) t, Q (s.slot x) (s.parked x) → Q (upd s.slot t .present x) (upd s.parked t [] x) := fun s t h => by
    by_cases e : x = t
    · rw [e, upd_same, upd_same]; exact store _ _ h
    · rw [upd_other e, upd_other e]; exact h
  { hand := fun s t frm b h => by rw [handOver_snd]; exact h
    crea := fun s to h => by rw [created_only_armed_cfgHas]; exact h
    cln := fun s t h => by rw [clean_only_armed]; exact h
    listK := fun _ h _ => ⟨h, h⟩
    listT := fun _ _ h _ => h
    mark := fun _ h => ⟨fun _ => h, h⟩
    refresh := fun _ _ h => h
    park := fun s t y h hs ht => by
      show Q (s.slot x) (upd s.parked t _ x) ∧ (_ → Q (upd s.slot t .requested x) (upd s.parked t _ x))
      by_cases e : x = t
      · subst e; rw [upd_same, upd_same]; exact park _ _ y h hs ht
      · rw [upd_other e, upd_other e]; exact ⟨h, fun _ => h⟩
    store := fun s t _ h _ => st s t h
    reply := fun _ h => h
    ptm := fun _ _ h => h
    ptmDrop := fun _ _ h => h
    cfg := fun _ _ h => ⟨h, h⟩
    take := fun s t h => st s t h }

theorem registerAsk_present (s : Srv) (t x : TRef) : (registerAsk s t).slot x = .present ↔ s.slot x = .present := by
  show upd s.slot t _ x = _ ↔ _
  by_cases e : x = t
  · rw [e, upd_same]
    split
    · rename_i ha; rw [ha]; exact ⟨nofun, nofun⟩
    · rfl
  · rw [upd_other e]

/-- does a parked message reach the protocol when its tree arrives? (`dm`: the `done` token is marked) -/
def dcount (dm : Bool) : Tok × Frm × Body → Nat
  | (.run, frm, b) => b2n (reader .K frm b)
  | (.fresh t, frm, b) => b2n (reader t frm b)
  | (.done, frm, b) => if dm then 0 else b2n (reader .K frm b)
  | _ => 0

structure Adds (s : Srv) (n : Nat) (X : Srv) : Prop where
  delivered : X.delivered = s.delivered + n
  doneMark : X.doneMark = s.doneMark
  slot : X.slot = s.slot
  parked : X.parked = s.parked

theorem Adds.trans {s X Y : Srv} {n m : Nat} (h : Adds s n X) (h' : Adds X m Y) : Adds s (n + m) Y :=
  ⟨by rw [h'.delivered, h.delivered, Nat.add_assoc], h'.doneMark.trans h.doneMark, h'.slot.trans h.slot, h'.parked.trans h.parked⟩

theorem deliverIn_adds (s : Srv) (to : Tok) (frm : Frm) (b : Body) :
    Adds s (dcount s.doneMark (to, frm, b)) (deliverIn s to frm b).2 :=
  -- `X`: `s`, or `s` after the creation of the instance — the same as far as `Adds` looks
  have hand : ∀ X t, Adds s 0 X → Adds s (b2n (reader t frm b)) (handOver X t frm b).2 := fun X t hX => by
    rw [handOver_snd]; exact ⟨congrArg (· + _) hX.delivered, hX.doneMark, hX.slot, hX.parked⟩
  have cln : ∀ X t, Adds s 0 X → Adds s 0 (clean X t) := fun X t hX => by
    rw [clean_only_armed]; exact ⟨hX.delivered, hX.doneMark, hX.slot, hX.parked⟩
  have same : Adds s 0 s := ⟨rfl, rfl, rfl, rfl⟩
  match to with
  | .none | .zero => same
  | .badNode => cln s .K same
  | .done => by
    by_cases hd : s.doneMark = true
    · rw [show deliverIn s .done frm b = _ from if_pos hd, show dcount s.doneMark (.done, frm, b) = _ from if_pos hd]
      exact cln s .K same
    · rw [show deliverIn s .done frm b = _ from if_neg hd, show dcount s.doneMark (.done, frm, b) = _ from if_neg hd]
      exact snd_ite (fun _ => hand s .K same) fun _ => hand _ .K ⟨rfl, rfl, rfl, rfl⟩
  | .run => snd_ite (fun _ => hand s .K same) fun _ => hand _ .K ⟨rfl, rfl, rfl, rfl⟩
  | .fresh t => snd_ite (fun _ => hand s t same) fun _ => hand _ t ⟨rfl, rfl, rfl, rfl⟩
  | .badProto t => snd_ite (fun _ => cln s t same) fun _ => cln _ t ⟨rfl, rfl, rfl, rfl⟩
  | .badProtoNew t => cln _ t ⟨rfl, rfl, rfl, rfl⟩

theorem transmitFoundIn_adds (s : Srv) (to : Tok) (frm : Frm) (b : Body) :
    Adds s (dcount s.doneMark (to, frm, b)) (transmitFoundIn s to frm b).2 :=
  -- `transmitFoundIn` is `deliverIn` of a state that differs from `s` in `armed`, which `Adds` does not read
  have h := deliverIn_adds { s with armed := upd s.armed (treeOf to) false } to frm b
  ⟨h.delivered, h.doneMark, h.slot, h.parked⟩

theorem flushIn_adds (l : List (Tok × Frm × Body)) (s : Srv) :
    Adds s ((l.map (dcount s.doneMark)).sum) (flushIn s l) := by
  induction l generalizing s with
  | nil => exact ⟨rfl, rfl, rfl, rfl⟩
  | cons x l ih =>
    obtain ⟨to, frm, b⟩ := x
    have h := transmitFoundIn_adds s to frm b
    have := h.trans (ih _)
    rw [h.doneMark] at this
    exact this

/-! With nothing parked for the message's tree, and the tree there, the creation path is the plain one:
`Set` is a no-op, `hasPendingMsg` says no, no goroutine is started. -/
theorem taken_self (s : Srv) (t : TRef) (hs : s.slot t = .present) (ha : s.armed t = false) (hp : s.parked t = []) :
    taken s t = s := by
  unfold taken
  have e1 : upd s.slot t .present = s.slot := by rw [← hs]; exact upd_self _ _
  have e2 : upd s.armed t false = s.armed := by rw [← ha]; exact upd_self _ _
  have e3 : upd s.parked t [] = s.parked := by rw [← hp]; exact upd_self _ _
  rw [e1, e2, e3]

theorem deliver_eq_deliverIn (s : Srv) (to : Tok) (frm : Frm) (b : Body) (hs : s.slot (treeOf to) = .present)
    (ha : s.armed (treeOf to) = false) (hp : s.parked (treeOf to) = []) : deliver s to frm b = deliverIn s to frm b := by
  unfold deliver
  split
  · rw [taken_self s _ hs ha hp, hp]; rfl
  · rfl

theorem transmitFound_eq_transmitFoundIn (s : Srv) (to : Tok) (frm : Frm) (b : Body) (hs : s.slot (treeOf to) = .present)
    (hp : s.parked (treeOf to) = []) : transmitFound s to frm b = transmitFoundIn s to frm b :=
  deliver_eq_deliverIn _ to frm b hs (upd_same _ _ _) hp

theorem process_proto_eq_transmitFoundIn (s : Srv) (to : Tok) (frm : Frm) (b : Body) (hg : b ≠ .garbage) (hn : to ≠ .none)
    (hs : s.slot (treeOf to) = .present) (hp : s.parked (treeOf to) = []) :
    process s (.proto to frm b) = transmitFoundIn s to frm b := by
  rw [← transmitFound_eq_transmitFoundIn s to frm b hs hp]
  exact (if_neg hg).trans ((if_neg hn).trans (if_pos hs))

theorem flush_eq_flushIn (l : List (Tok × Frm × Body)) (s : Srv)
    (h : ∀ x ∈ l, s.slot (treeOf x.1) = .present ∧ s.parked (treeOf x.1) = []) : flush s l = flushIn s l := by
  induction l generalizing s with
  | nil => rfl
  | cons x l ih =>
    obtain ⟨to, frm, b⟩ := x
    have hx := h (to, frm, b) (List.mem_cons_self ..)
    have d := transmitFoundIn_adds s to frm b
    show flush (transmitFound s to frm b).2 l = flushIn (transmitFoundIn s to frm b).2 l
    rw [transmitFound_eq_transmitFoundIn s to frm b hx.1 hx.2]
    refine ih _ fun y hy => ?_
    rw [d.slot, d.parked]
    exact h y (List.mem_cons_of_mem _ hy)

theorem sendTree_stores (s : Srv) (tm : TM) (ro : Ro) (hz : tm.id ≠ .Z) (hr : s.slot tm.id = .requested)
    (hm : makeTree tm ro = true) : sendTree s (some tm) (some ro) = (.ok, storeAndFlush s tm.id ro.id) :=
  (if_neg hz).trans ((if_neg (not_not_intro hr)).trans (if_pos hm))

theorem sendTree_refused (s : Srv) (tm : TM) (ro : Ro) (h : s.slot tm.id ≠ .requested ∨ makeTree tm ro = false) :
    sendTree s (some tm) (some ro) = (.ignored, s) := by
  by_cases hz : tm.id = .Z
  · exact if_pos hz
  · refine (if_neg hz).trans ?_
    by_cases hr : s.slot tm.id ≠ .requested
    · exact if_pos hr
    · refine (if_neg hr).trans (if_neg fun hm => ?_)
      rcases h with h | h
      · exact hr h
      · exact Bool.false_ne_true (h.symm.trans hm)

theorem treeMarshal_refused (x : Srv) (tm : TM) (hi : instanceRoster x tm.ro = true)
    (hm : makeTree tm ⟨tm.ro, true, true⟩ = false) : (process x (.treeMarshal tm)).2 = x := by
  simp only [process]
  split
  · rfl
  · split
    · rfl
    · rw [sendTree_refused _ _ _ (.inr hm)]

theorem srun_append (x : SSt) (a b : List SEv) : srun x (a ++ b) = srun (srun x a) b := by
  induction a generalizing x with
  | nil => rfl
  | cons e a ih => simp [srun, ih]

theorem srun_envs (x : SSt) (es : List Env) : srun x (es.map .env) = { x with s := runEnvs x.s es } := by
  induction es generalizing x with
  | nil => rfl
  | cons e es ih => simp [srun, sstep, runEnvs, ih]

end C07

import OnetVerif.Proofs.C06Lists
import OnetVerif.Proofs.C06Tree
/-! One server of the C06 model, one step: what a message from a peer does to its state (`Handled`) and what a local
action does (`Acted`), each read off the model function by one case analysis, and what follows for one slot of the store
and for the table of parked descriptions.  Core only. -/
namespace C06

/-! A slot of the store is `lookup o.store id`: absent, waiting (`some none`) or holding a tree. -/

theorem get_lookup (o : Ovl) (id : Nat) (t : Tree) : o.get id = some t ↔ lookup o.store id = some (some t) := by
  unfold Ovl.get
  cases lookup o.store id with
  | none => exact ⟨nofun, nofun⟩
  | some v => cases v <;> simp

theorem req_lookup (o : Ovl) (id : Nat) : o.isRequested id = true ↔ lookup o.store id = some none :=
  beq_iff_eq

theorem requested_get (o : Ovl) (id : Nat) (h : o.isRequested id = true) : o.get id = none := by
  rw [Ovl.get, (req_lookup o id).mp h]; rfl

theorem lookup_setTree (o : Ovl) (t : Tree) (id : Nat) :
    lookup (o.setTree t).store id = if t.id = id then some (some t) else lookup o.store id :=
  lookup_insert ..

theorem get_setTree_self (o : Ovl) (t : Tree) : (o.setTree t).get t.id = some t := by
  rw [get_lookup, lookup_setTree, if_pos rfl]

theorem get_setTree_ne (o : Ovl) (t : Tree) (id : Nat) (h : id ≠ t.id) : (o.setTree t).get id = o.get id := by
  rw [Ovl.get, lookup_setTree, if_neg (Ne.symm h)]; rfl

theorem get_mem (o : Ovl) (id : Nat) (t : Tree) (h : o.get id = some t) : (id, some t) ∈ o.store :=
  lookup_mem _ _ _ ((get_lookup o id t).mp h)

theorem mtm_treeId (t : Tree) (r : Roster) (h : t.roster = some r) : (makeTreeMarshal t).treeId = t.id := by
  rw [makeTreeMarshal, h]

theorem mtm_rosterId (t : Tree) (r : Roster) (h : t.roster = some r) : (makeTreeMarshal t).rosterId = r.id := by
  rw [makeTreeMarshal, h]

/-- what `handleSendTree` can do: nothing, or store the tree rebuilt from a description whose id
is non-nil and waiting (requested and empty) -/
theorem handleSendTree_cases (o : Ovl) (tm : Option TreeMarshal) (ro : Option Roster) :
    handleSendTree o tm ro = o ∨
    ∃ tm' r t, tm = some tm' ∧ ro = some r ∧ tm'.treeId ≠ 0 ∧ o.isRequested tm'.treeId = true ∧
      makeTree tm' (some r) = .ok t ∧ handleSendTree o tm ro = o.setTree t := by
  fun_cases handleSendTree o tm ro with
  | case6 tm' h0 r hreq t hmk => exact Or.inr ⟨tm', r, t, rfl, rfl, h0, by simpa using hreq, hmk, rfl⟩
  | _ => exact Or.inl rfl

theorem pendStep_cases (ro : Roster) (o : Ovl) (tm : TreeMarshal) :
    pendStep ro o tm = o ∨ ∃ t, o.get tm.treeId = none ∧ makeTree tm (some ro) = .ok t ∧ pendStep ro o tm = o.setTree t := by
  unfold pendStep
  split
  · exact Or.inl rfl
  · next hg =>
    split
    · exact Or.inl rfl
    · next t hmk => exact Or.inr ⟨t, by simpa using hg, hmk, rfl⟩

theorem fold_pendStep_inv (P : Ovl → Prop) (ro : Roster) (sl : List TreeMarshal)
    (hstep : ∀ o, ∀ tm ∈ sl, ∀ t, P o → o.get tm.treeId = none → makeTree tm (some ro) = .ok t → P (o.setTree t))
    (o : Ovl) (h : P o) : P (sl.foldl (pendStep ro) o) :=
  List.foldlRecOn sl (pendStep ro) h fun o ho tm hm => by
    rcases pendStep_cases ro o tm with e | ⟨t, h1, h2, e⟩
    · rw [e]; exact ho
    · rw [e]; exact hstep o tm hm t ho h1 h2

theorem fold_pendStep_fills (ro : Roster) (tm₀ : TreeMarshal) (t : Tree) (hmk : makeTree tm₀ (some ro) = .ok t)
    (sl : List TreeMarshal) (o : Ovl) (hm : tm₀ ∈ sl) : ((sl.foldl (pendStep ro) o).get t.id).isSome = true := by
  -- whatever came before `tm₀`, its own turn leaves the slot full, and a full slot stays full
  obtain ⟨l₁, l₂, rfl⟩ := List.append_of_mem hm
  rw [List.foldl_append, List.foldl_cons]
  generalize l₁.foldl (pendStep ro) o = o₁
  refine fold_pendStep_inv (fun o' => (o'.get t.id).isSome = true) ro l₂ (fun o' _ _ t' h _ _ => ?_) _ ?_
  · by_cases hid : t.id = t'.id
    · rw [hid, get_setTree_self]; rfl
    · rwa [get_setTree_ne _ _ _ hid]
  · rw [pendStep, ← (makeTree_ok_ids hmk).1]
    split
    · assumption
    · rw [hmk]; exact (get_setTree_self o₁ t) ▸ rfl

theorem checkPending_none {o : Ovl} {ro : Roster} (h : lookup o.pending ro.id = none) : checkPending o ro = o := by
  unfold checkPending; rw [h]

theorem checkPending_some {o : Ovl} {ro : Roster} {sl : List TreeMarshal} (h : lookup o.pending ro.id = some sl) :
    checkPending o ro = { sl.foldl (pendStep ro) o with pending := erase o.pending ro.id } := by
  -- the loop leaves the table of parked descriptions alone
  have hp := fold_pendStep_inv (fun o' => o'.pending = o.pending) ro sl (fun _ _ _ _ h _ _ => h) o rfl
  unfold checkPending; rw [h, ← hp]

theorem checkPending_clears (o : Ovl) (ro : Roster) : lookup (checkPending o ro).pending ro.id = none := by
  cases hl : lookup o.pending ro.id with
  | none => rw [checkPending_none hl]; exact hl
  | some sl => rw [checkPending_some hl]; exact (lookup_erase ..).trans (if_pos rfl)

theorem handle_sendRoster {o : Ovl} {ro : Roster} (h : ro.id ≠ 0) : handle o (.sendRoster ro) = (checkPending o ro, []) :=
  if_neg h

theorem sendRoster_fills {o : Ovl} {ro : Roster} {tm₀ : TreeMarshal} {t : Tree} {sl : List TreeMarshal} (h0 : ro.id ≠ 0)
    (hl : lookup o.pending ro.id = some sl) (hm : tm₀ ∈ sl) (hmk : makeTree tm₀ (some ro) = .ok t) :
    ((handle o (.sendRoster ro)).1.get t.id).isSome = true := by
  rw [handle_sendRoster h0, checkPending_some hl]
  exact fold_pendStep_fills ro tm₀ t hmk sl o hm

theorem handle_requestTree (o : Ovl) (id v : Nat) :
    handle o (.requestTree id v) = (o, match o.get id with
      | none => []
      | some t => [if v = 0 then .treeMarshal (makeTreeMarshal t) else .responseTree (makeTreeMarshal t) t.roster]) := by
  simp only [handle]
  cases o.get id with
  | none => rfl
  | some t => show (if v = 0 then _ else _) = _; split <;> rfl

/-- `addPendingTreeMarshal` -/
def Ovl.park (o : Ovl) (tm : TreeMarshal) : Ovl :=
  { o with pending := insert o.pending tm.rosterId ((lookup o.pending tm.rosterId).getD [] ++ [tm]) }

theorem handle_treeMarshal {o : Ovl} {tm : TreeMarshal} (h0 : tm.treeId ≠ 0) (hreq : o.isRequested tm.treeId = true) :
    handle o (.treeMarshal tm) = match o.instRoster tm.rosterId with
      | none => (o.park tm, [.requestRoster tm.rosterId])
      | some ro => (handleSendTree o (some tm) (some ro), []) := by
  simp only [handle, h0, hreq, if_false, Bool.not_true, Bool.false_eq_true]
  rfl

theorem instRoster_mem (o : Ovl) (rid : Nat) (ro : Roster) (h : o.instRoster rid = some ro) :
    ∃ id t, o.get id = some t ∧ t.roster = some ro ∧ ro.id = rid := by
  obtain ⟨tid, _, hx⟩ := List.mem_filterMap.mp (List.mem_of_getLast? h)
  obtain ⟨t, hg, hx⟩ := Option.bind_eq_some_iff.mp hx
  obtain ⟨r, hr, hx⟩ := Option.bind_eq_some_iff.mp hx
  split at hx
  · next hid => cases hx; exact ⟨tid, t, hg, hr, hid⟩
  · cases hx

inductive Handled (o : Ovl) : Msg → Ovl → Prop
  /-- a request is answered, or the message is refused at the entrance -/
  | same (m : Msg) : Handled o m o
  /-- the roster is the one sent along, or that of a live instance -/
  | stored {m : Msg} {tm : TreeMarshal} {r : Roster} {t : Tree} :
      (m = .responseTree (some tm) (some r) ∨ (m = .treeMarshal tm ∧ o.instRoster tm.rosterId = some r)) →
      tm.treeId ≠ 0 → o.isRequested tm.treeId = true → makeTree tm (some r) = .ok t → Handled o m (o.setTree t)
  | parked {tm : TreeMarshal} :
      tm.treeId ≠ 0 → o.isRequested tm.treeId = true → o.instRoster tm.rosterId = none →
      Handled o (.treeMarshal tm) (o.park tm)
  | roster {ro : Roster} {sl : List TreeMarshal} :
      ro.id ≠ 0 → lookup o.pending ro.id = some sl →
      Handled o (.sendRoster ro) { sl.foldl (pendStep ro) o with pending := erase o.pending ro.id }

theorem handled (o : Ovl) (m : Msg) : Handled o m (handle o m).1 := by
  -- the branches of `handle` in the order of its text; those not named change nothing
  fun_cases handle o m with
  | case4 tm r =>                      -- `ResponseTree`
    show Handled o _ (handleSendTree o tm r)
    rcases handleSendTree_cases o tm r with e | ⟨tm', r', t, rfl, rfl, h0, hreq, hmk, e⟩
    · rw [e]; exact .same _
    · rw [e]; exact .stored (Or.inl rfl) h0 hreq hmk
  | case7 tm h0 hreq hi =>             -- `TreeMarshal`, waiting, no instance knows the roster
    exact .parked h0 (by simpa using hreq) hi
  | case8 tm h0 hreq r hi =>           -- `TreeMarshal`, waiting, roster `r` of a live instance
    show Handled o _ (handleSendTree o (some tm) (some r))
    rcases handleSendTree_cases o (some tm) (some r) with e | ⟨tm', r', t, h1, h2, _, hreq, hmk, e⟩
    · rw [e]; exact .same _
    · cases h1; cases h2; rw [e]; exact .stored (Or.inr ⟨rfl, hi⟩) h0 hreq hmk
  | case11 ro h0 =>                    -- a roster with a non-nil id
    cases hl : lookup o.pending ro.id with
    | none => rw [checkPending_none hl]; exact .same _
    | some sl => rw [checkPending_some hl]; exact .roster h0 hl
  | _ => exact .same _

/-- `o.isRegistered id = true`: the slot is waiting or holds a tree -/
def Ovl.registered (o : Ovl) (id : Nat) : Prop := (lookup o.store id).isSome = true

theorem Ovl.registered_of_lookup {o : Ovl} {id : Nat} {v : Option Tree} (h : lookup o.store id = some v) : o.registered id := by
  rw [Ovl.registered, h]; rfl

theorem Ovl.registered_congr {o o' : Ovl} {id : Nat} (e : lookup o'.store id = lookup o.store id) (h : o.registered id) :
    o'.registered id := by
  rwa [Ovl.registered, e]

theorem Ovl.registered.waiting {o : Ovl} {id : Nat} (h : o.registered id) (hnone : o.get id = none) : o.isRequested id = true := by
  rw [req_lookup]
  rw [Ovl.registered] at h
  rw [Ovl.get] at hnone
  cases hlk : lookup o.store id with
  | none => rw [hlk] at h; cases h
  | some v =>
    cases v with
    | none => rfl
    | some t => rw [hlk] at hnone; cases hnone

/-- the statement of `c06_peer_step_refines_slot_spec`, for any two states -/
def SlotSpec (o o' : Ovl) (id : Nat) : Prop :=
  lookup o'.store id = lookup o.store id ∨
  (o.get id = none ∧ ∃ t tm ro, lookup o'.store id = some (some t) ∧ makeTree tm (some ro) = .ok t ∧ tm.treeId = id)

theorem SlotSpec.setTree {o o₁ : Ovl} {id : Nat} {tm : TreeMarshal} {ro : Roster} {t : Tree} (h : SlotSpec o o₁ id)
    (hnone : o₁.get tm.treeId = none) (hmk : makeTree tm (some ro) = .ok t) : SlotSpec o (o₁.setTree t) id := by
  have htid := (makeTree_ok_ids hmk).1
  unfold SlotSpec
  rw [lookup_setTree]
  by_cases hid : t.id = id
  · rw [if_pos hid]
    refine Or.inr ⟨?_, t, tm, ro, rfl, hmk, htid ▸ hid⟩
    rcases h with e | ⟨e, _⟩
    · rw [show o.get id = o₁.get id from congrArg Option.join e.symm, ← hid, htid]; exact hnone
    · exact e
  · rw [if_neg hid]; exact h

theorem Handled.slot {o o' : Ovl} {m : Msg} (h : Handled o m o') (id : Nat) : SlotSpec o o' id := by
  cases h with
  | same => exact Or.inl rfl
  | stored _ _ hreq hmk => exact SlotSpec.setTree (Or.inl rfl) (requested_get o _ hreq) hmk
  | parked => exact Or.inl rfl
  | @roster ro sl _ _ =>
    exact fold_pendStep_inv (SlotSpec o · id) ro sl (fun _ _ _ _ h hnone hmk => h.setTree hnone hmk) o (Or.inl rfl)

theorem SlotSpec.get {o o' : Ovl} {id : Nat} {t : Tree} (h : SlotSpec o o' id) (hg : o.get id = some t) : o'.get id = some t := by
  rcases h with e | ⟨e, _⟩
  · rwa [Ovl.get, e]
  · rw [hg] at e; cases e

theorem SlotSpec.registered {o o' : Ovl} {id : Nat} (h : SlotSpec o o' id) (hr : o.registered id) : o'.registered id := by
  rcases h with e | ⟨_, t, _, _, e, _⟩
  · exact Ovl.registered_congr e hr
  · exact Ovl.registered_of_lookup e

theorem SlotSpec.marker {o o' : Ovl} {id : Nat} (h : SlotSpec o o' id) (hr : o.isRequested id = true) :
    o'.isRequested id = true ∨ ∃ t', o'.get id = some t' := by
  rcases h with e | ⟨_, t', _, _, e, _⟩
  · left; rwa [req_lookup, e, ← req_lookup]
  · exact Or.inr ⟨t', (get_lookup _ id t').mpr e⟩

theorem handle_change (o : Ovl) (m : Msg) (id : Nat) (hne : (handle o m).1.get id ≠ o.get id) :
    ((∀ ro, m ≠ .sendRoster ro) ∧ o.isRequested id = true) ∨
    ∃ ro, m = .sendRoster ro ∧ o.get id = none ∧ ∃ sl, lookup o.pending ro.id = some sl ∧ ∃ tm ∈ sl, tm.treeId = id := by
  have h := handled o m
  generalize (handle o m).1 = o' at h hne
  cases h with
  | same => exact absurd rfl hne
  | @stored _ _ _ t hsrc _ hreq hmk =>
    -- only the slot of the tree that is put changes
    have hid : id = t.id := Decidable.byContradiction fun hid => hne (get_setTree_ne o t id hid)
    refine Or.inl ⟨fun ro e => ?_, by rw [hid, (makeTree_ok_ids hmk).1]; exact hreq⟩
    rcases hsrc with h | ⟨h, _⟩ <;> cases h.symm.trans e
  | parked => exact absurd rfl hne
  | @roster ro sl _ hl =>
    have := fold_pendStep_inv (fun o₁ => o₁.get id = o.get id ∨ (o.get id = none ∧ ∃ tm ∈ sl, tm.treeId = id)) ro sl
      (fun o₁ tm hm t h hnone hmk => by
        by_cases hid : id = t.id
        · refine Or.inr ⟨h.elim (fun e => ?_) (·.1), tm, hm, (hid.trans (makeTree_ok_ids hmk).1).symm⟩
          rw [← e, hid, (makeTree_ok_ids hmk).1]; exact hnone
        · rw [get_setTree_ne _ _ _ hid]; exact h) o (Or.inl rfl)
    obtain ⟨hnone, hp⟩ := this.resolve_left hne
    exact Or.inr ⟨ro, rfl, hnone, sl, hl, hp⟩

theorem Handled.parked_from {o o' : Ovl} {m : Msg} (hd : Handled o m o') {rid : Nat} {sl : List TreeMarshal} {tm : TreeMarshal}
    (hl : lookup o'.pending rid = some sl) (hm : tm ∈ sl) :
    (∃ sl₀, lookup o.pending rid = some sl₀ ∧ tm ∈ sl₀) ∨
    (m = .treeMarshal tm ∧ tm.rosterId = rid ∧ o.isRequested tm.treeId = true) := by
  cases hd with
  | same => exact Or.inl ⟨sl, hl, hm⟩
  | stored => exact Or.inl ⟨sl, hl, hm⟩
  | @parked tm' _ hreq _ =>
    change lookup (insert _ _ _) rid = _ at hl
    rw [lookup_insert] at hl
    split at hl
    · next hr =>
      cases hl
      rcases List.mem_append.mp hm with hm | hm
      · obtain ⟨l, hold, hm⟩ := Option.mem_getD_nil hm
        exact Or.inl ⟨l, hr ▸ hold, hm⟩
      · cases List.mem_singleton.mp hm; exact Or.inr ⟨rfl, hr, hreq⟩
    · exact Or.inl ⟨sl, hl, hm⟩
  | roster =>
    change lookup (erase _ _) rid = _ at hl
    rw [lookup_erase] at hl
    split at hl
    · cases hl
    · exact Or.inl ⟨sl, hl, hm⟩

theorem handle_keeps_parked (o : Ovl) (m : Msg) (rid : Nat) (sl : List TreeMarshal) (tm : TreeMarshal)
    (hl : lookup o.pending rid = some sl) (hm : tm ∈ sl) (hne : ∀ ro, m = .sendRoster ro → ro.id ≠ 0 → ro.id ≠ rid) :
    ∃ sl', lookup (handle o m).1.pending rid = some sl' ∧ tm ∈ sl' := by
  have hd := handled o m
  generalize (handle o m).1 = o' at hd
  cases hd with
  | same => exact ⟨sl, hl, hm⟩
  | stored => exact ⟨sl, hl, hm⟩
  | @parked tm' =>
    change ∃ sl', lookup (insert _ _ _) rid = _ ∧ _
    rw [lookup_insert]
    split
    · next hr => exact ⟨_, rfl, List.mem_append_left _ (by rw [hr, hl]; exact hm)⟩
    · exact ⟨sl, hl, hm⟩
  | @roster ro _ h0 =>
    change ∃ sl', lookup (erase _ _) rid = _ ∧ _
    rw [lookup_erase, if_neg (hne ro rfl h0)]
    exact ⟨sl, hl, hm⟩

inductive Acted (o : Ovl) : Local → Ovl → Prop
  /-- nothing to the store; `e`: a request is remembered as made all the same -/
  | same (l : Local) (e : List Nat) : Acted o l { o with everReq := e ++ o.everReq }
  | marked {l : Local} {i : Nat} : (l = .reqSend i ∨ l = .request i) → lookup o.store i = none →
      Acted o l { o with store := insert o.store i none, everReq := i :: o.everReq }
  | erased {l : Local} {i : Nat} : (l = .expire i ∨ (l = .unrequest i ∧ o.isRequested i = true)) →
      Acted o l { o with store := erase o.store i }
  /-- `ins`: the live instances afterwards (`instance` adds the tree's id) -/
  | put {l : Local} {t : Tree} (ins : List Nat) : (l = .register t ∨ l = .instance t) →
      Acted o l { o.setTree t with locals := t.id :: o.locals, insts := ins }

theorem acted (o : Ovl) (l : Local) : Acted o l (localStep o l) := by
  have none_of : ∀ i, ¬ (lookup o.store i).isSome = true → lookup o.store i = none := fun i h => by simpa using h
  -- the branches of `localStep` in the order of its text; those not named change nothing
  fun_cases localStep o l with
  | case1 i hw => exact .marked (Or.inl rfl) (none_of i (by simpa [Ovl.wouldRequest] using hw))  -- `reqSend`, no slot yet
  | case3 i => exact .same _ [i]                                                               -- `reqFail`, no slot
  | case5 i =>                                                                                 -- `request`
    split
    · exact .same _ [i]
    · next hs => exact .marked (Or.inr rfl) (none_of i hs)
  | case6 i hr => exact .erased (Or.inr ⟨rfl, hr⟩)                                              -- `unrequest`, waiting
  | case8 t => exact .put o.insts (Or.inl rfl)                                                 -- `register`
  | case9 t => exact .put _ (Or.inr rfl)                                                       -- `instance`, with roster
  | case11 i => exact .erased (Or.inl rfl)                                                     -- `expire`
  | _ => exact .same _ []

theorem localStep_frame (o : Ovl) (l : Local) :
    (localStep o l).pending = o.pending ∧ (∀ id ∈ o.everReq, id ∈ (localStep o l).everReq) ∧
      (∀ id ∈ o.locals, id ∈ (localStep o l).locals) := by
  have h := acted o l
  generalize localStep o l = o' at h
  cases h with
  | same e => exact ⟨rfl, fun _ h => List.mem_append_right e h, fun _ h => h⟩
  | marked => exact ⟨rfl, fun _ h => List.mem_cons_of_mem _ h, fun _ h => h⟩
  | erased => exact ⟨rfl, fun _ h => h, fun _ h => h⟩
  | put => exact ⟨rfl, fun _ h => h, fun _ h => List.mem_cons_of_mem _ h⟩

inductive LocalSlot (o o' : Ovl) (l : Local) (j : Nat) : Prop
  | same : lookup o'.store j = lookup o.store j → LocalSlot o o' l j
  | marked : lookup o.store j = none → lookup o'.store j = some none → j ∈ o'.everReq → LocalSlot o o' l j
  | erased : lookup o'.store j = none → (l = .expire j ∨ (l = .unrequest j ∧ o.isRequested j = true)) → LocalSlot o o' l j
  | put (t : Tree) : t.id = j → lookup o'.store j = some (some t) → j ∈ o'.locals → (l = .register t ∨ l = .instance t) →
      LocalSlot o o' l j

theorem localStep_slot (o : Ovl) (l : Local) (j : Nat) : LocalSlot o (localStep o l) l j := by
  have h := acted o l
  generalize localStep o l = o' at h
  cases h with
  | same => exact .same rfl
  | @marked i _ hi =>
    by_cases hij : i = j
    · exact .marked (hij ▸ hi) ((lookup_insert ..).trans (if_pos hij)) (hij ▸ List.mem_cons_self)
    · exact .same ((lookup_insert ..).trans (if_neg hij))
  | @erased i hl =>
    by_cases hij : i = j
    · exact .erased ((lookup_erase ..).trans (if_pos hij)) (hij ▸ hl)
    · exact .same ((lookup_erase ..).trans (if_neg hij))
  | @put t _ hl =>
    by_cases hij : t.id = j
    · exact .put t hij ((lookup_setTree ..).trans (if_pos hij)) (hij ▸ List.mem_cons_self) hl
    · exact .same ((lookup_setTree ..).trans (if_neg hij))

theorem localStep_mem (o : Ovl) (l : Local) {i : Nat} {t : Tree} (h : (i, some t) ∈ (localStep o l).store) :
    (i, some t) ∈ o.store ∨ (i = t.id ∧ (l = .register t ∨ l = .instance t)) := by
  have ha := acted o l
  generalize localStep o l = o' at ha h
  cases ha with
  | same => exact Or.inl h
  | marked => exact (mem_insert _ _ _ _ h).elim (fun e => nomatch e) Or.inl
  | erased => exact Or.inl (mem_erase _ _ _ h)
  | put _ hl => exact (mem_insert _ _ _ _ h).elim (fun e => Or.inr (by cases e; exact ⟨rfl, hl⟩)) Or.inl

end C06


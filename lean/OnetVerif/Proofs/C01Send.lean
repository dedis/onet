import OnetVerif.Model.C01Send
import OnetVerif.Proofs.Lists
/-! Property C01, sending side (`Model/C01Send.lean`): `outcome` when no call or every call fails; the count of one
envelope among those of a send operation.  Core-only. -/
namespace C01.Send

theorem outcome_of_fails_none (m : Mode) {f : Fault} (hf : ∀ k, f.fails k = false) (ds : List Nat) :
    outcome m f ds = (ds, 0) := by
  have hn : ∀ p : Nat × Nat, (!f.fails p.2) = true := fun p => by rw [hf]; rfl
  cases m with
  | seq =>
    simp only [outcome]
    rw [List.takeWhile_eq_self _ _ fun p _ => hn p, List.zipIdx_map_fst, if_pos rfl]
  | all =>
    simp only [outcome, okCalls, badCalls]
    rw [List.filter_eq_self.mpr fun p _ => hn p, List.zipIdx_map_fst,
      List.filter_eq_nil_iff.mpr fun p _ => by rw [hf]; exact Bool.false_ne_true]
    rfl

theorem outcome_of_fails_all {f : Fault} (hf : ∀ k, f.fails k = true) (ds : List Nat) :
    outcome .all f ds = ([], ds.length) ∧ outcome .seq f ds = ([], if ds = [] then 0 else 1) := by
  constructor
  · simp only [outcome, okCalls, badCalls]
    rw [List.filter_eq_nil_iff.mpr fun p _ => by rw [hf]; exact Bool.false_ne_true,
      List.filter_eq_self.mpr fun p _ => hf p.2, List.length_zipIdx]
    rfl
  · cases ds with
    | nil => rfl
    | cons a l =>
      simp only [outcome]
      rw [List.zipIdx_cons, List.takeWhile_cons, hf]
      rfl

theorem count_map_envelopes (l : List Nat) (host : Nat → Nat) (r src srv : Nat) (code : Token → Nat)
    (hcode : ∀ x y, code x = code y → x = y) (j : Nat) :
    (l.map (fun j' => (src, host j', code ⟨r, j'⟩))).count (src, srv, code ⟨r, j⟩)
      = if srv = host j then l.count j else 0 := by
  have hinj : ∀ x y, code ⟨r, x⟩ = code ⟨r, y⟩ → x = y := fun x y h => (Token.mk.inj (hcode _ _ h)).2
  by_cases hs : srv = host j
  · rw [if_pos hs, hs]
    exact List.count_map_of_inj (f := fun j' => (src, host j', code ⟨r, j'⟩))
      (fun x y h => hinj x y (Prod.mk.inj (Prod.mk.inj h).2).2) l j
  · rw [if_neg hs, List.count_eq_zero]
    intro hm
    obtain ⟨x, _, hx⟩ := List.mem_map.mp hm
    have e := Prod.mk.inj (Prod.mk.inj hx).2
    rw [hinj x j e.2] at e
    exact hs e.1.symm

end C01.Send

import OnetVerif.Model.C18Toml
import OnetVerif.Proofs.Lists
/-! Lemmas for the text level of property C18 (`Model/C18Toml.lean`): what the writer emits is read back.  Each lemma
lets the reader consume what the writer put and go on with the rest.  Core-only. -/
namespace C18.Toml

theorem unq_plain (c : Nat) (rest acc : Str) (h34 : c ≠ 34) (h10 : c ≠ 10) (h13 : c ≠ 13) (h92 : c ≠ 92) :
    unq (c :: rest) acc = unq rest (acc ++ [c]) := by
  rw [unq.eq_def]; simp [h34, h10, h13, h92]

theorem unq_close (rest acc : Str) : unq (34 :: rest) acc = .ok (acc, rest) := by
  rw [unq.eq_def]; rfl

theorem unq_backslash (e b : Nat) (rest acc : Str)
    (h : (e, b) ∈ [(116, 9), (110, 10), (114, 13), (34, 34), (92, 92), (98, 8), (102, 12)]) :
    unq (92 :: e :: rest) acc = unq rest (acc ++ [b]) := by
  rw [unq.eq_def]
  simp only [List.mem_cons, Prod.mk.injEq, List.mem_nil_iff, or_false] at h
  rcases h with ⟨rfl, rfl⟩ | ⟨rfl, rfl⟩ | ⟨rfl, rfl⟩ | ⟨rfl, rfl⟩ | ⟨rfl, rfl⟩ | ⟨rfl, rfl⟩ | ⟨rfl, rfl⟩ <;> rfl

/-- what a writer may put for the byte `c`: the byte itself, or a two-byte escape the reader knows -/
def Esc (w : Str) (c : Nat) : Prop :=
  (w = [c] ∧ c ≠ 34 ∧ c ≠ 10 ∧ c ≠ 13 ∧ c ≠ 92) ∨
  ∃ e, w = [92, e] ∧ (e, c) ∈ [(116, 9), (110, 10), (114, 13), (34, 34), (92, 92)]

theorem esc_Esc (c : Nat) : Esc (esc c) c := by
  unfold esc
  by_cases e9 : c = 9
  · subst e9; exact .inr ⟨116, rfl, by decide⟩
  by_cases e10 : c = 10
  · subst e10; exact .inr ⟨110, rfl, by decide⟩
  by_cases e13 : c = 13
  · subst e13; exact .inr ⟨114, rfl, by decide⟩
  by_cases e34 : c = 34
  · subst e34; exact .inr ⟨34, rfl, by decide⟩
  by_cases e92 : c = 92
  · subst e92; exact .inr ⟨92, rfl, by decide⟩
  rw [if_neg e9, if_neg e10, if_neg e13, if_neg e34, if_neg e92]
  exact .inl ⟨rfl, e34, e10, e13, e92⟩

/-- `Key.maybeQuoted`, on the bytes it can write faithfully -/
theorem keyEsc_Esc {c : Nat} (h : c ≠ 92 ∧ c ≠ 10 ∧ c ≠ 13) : Esc (if c = 34 then [92, 34] else [c]) c := by
  by_cases h34 : c = 34
  · subst h34; exact .inr ⟨34, rfl, by decide⟩
  · rw [if_neg h34]; exact .inl ⟨rfl, h34, h.2.1, h.2.2, h.1⟩

theorem Esc.unq {w : Str} {c : Nat} (h : Esc w c) (rest acc : Str) : unq (w ++ rest) acc = unq rest (acc ++ [c]) := by
  rcases h with ⟨rfl, h34, h10, h13, h92⟩ | ⟨e, rfl, he⟩
  · exact unq_plain c rest acc h34 h10 h13 h92
  · exact unq_backslash e c rest acc (List.mem_append_left _ he)

theorem Esc.head {w : Str} {c : Nat} (h : Esc w c) : ∃ x t, w = x :: t ∧ x ≠ 34 := by
  rcases h with ⟨rfl, h34, -⟩ | ⟨e, rfl, -⟩
  · exact ⟨c, [], rfl, h34⟩
  · exact ⟨92, [e], rfl, by decide⟩

theorem Esc.no_nl {w : Str} {c : Nat} (h : Esc w c) : 10 ∉ w := by
  rcases h with ⟨rfl, -, h10, -⟩ | ⟨e, rfl, he⟩
  · exact fun h => h10 (List.mem_singleton.mp h).symm
  · revert he
    simp only [List.mem_cons, Prod.mk.injEq, List.mem_nil_iff, or_false]
    rintro (⟨rfl, -⟩ | ⟨rfl, -⟩ | ⟨rfl, -⟩ | ⟨rfl, -⟩ | ⟨rfl, -⟩) <;> decide

theorem unq_flatMap (f : Nat → Str) : ∀ (s acc rest : Str), (∀ c ∈ s, Esc (f c) c) →
    unq (s.flatMap f ++ 34 :: rest) acc = .ok (acc ++ s, rest)
  | [], acc, rest, _ => by rw [List.flatMap_nil, List.nil_append, unq_close, List.append_nil]
  | c :: r, acc, rest, h => by
    rw [List.flatMap_cons, List.append_assoc, (h c List.mem_cons_self).unq,
      unq_flatMap f r _ rest fun x hx => h x (List.mem_cons_of_mem _ hx), List.append_assoc, List.singleton_append]

theorem flatMap_no_nl (f : Nat → Str) (s : Str) (h : ∀ c ∈ s, Esc (f c) c) : 10 ∉ s.flatMap f := fun hm => by
  obtain ⟨c, hc, hw⟩ := List.mem_flatMap.mp hm
  exact (h c hc).no_nl hw

theorem unq_quote (s acc rest : Str) : unq (s.flatMap esc ++ 34 :: rest) acc = .ok (acc ++ s, rest) :=
  unq_flatMap esc s acc rest fun c _ => esc_Esc c

/-- a key the writer can quote faithfully: no backslash (`maybeQuoted` escapes only `"`), no raw
line break, not empty (`panicIfInvalidKey`) -/
def KeyOK (k : Str) : Prop := k ≠ [] ∧ ∀ c ∈ k, c ≠ 92 ∧ c ≠ 10 ∧ c ≠ 13

theorem unq_quoteKey (k acc rest : Str) (h : ∀ c ∈ k, c ≠ 92 ∧ c ≠ 10 ∧ c ≠ 13) :
    unq (k.flatMap (fun c => if c = 34 then [92, 34] else [c]) ++ 34 :: rest) acc = .ok (acc ++ k, rest) :=
  unq_flatMap _ k acc rest fun c hc => keyEsc_Esc (h c hc)

theorem bare_ne_of {c k : Nat} (hc : bareKeyChar c = true) (hk : bareKeyChar k = false) : c ≠ k :=
  fun e => Bool.false_ne_true (hk.symm.trans (e ▸ hc))

theorem bare_not_ws {c : Nat} (h : bareKeyChar c = true) : isWs c = false := by
  simp only [isWs, Bool.or_eq_false_iff, beq_eq_false_iff_ne]
  exact ⟨bare_ne_of h (by decide), bare_ne_of h (by decide)⟩

theorem trimL_spaces (n : Nat) (r : Str) : trimL (spaces n ++ r) = trimL r := by
  unfold trimL spaces
  apply List.dropWhile_append_of_pos
  intro a ha
  rw [(List.mem_replicate.mp ha).2]
  rfl

theorem trimL_cons {c : Nat} (r : Str) (h : isWs c = false) : trimL (c :: r) = c :: r :=
  List.dropWhile_cons_of_neg (by rw [h]; exact Bool.false_ne_true)

theorem span_bare {k : Str} (hb : ∀ c ∈ k, bareKeyChar c = true) {d : Nat} (hd : bareKeyChar d = false) (r : Str) :
    (k ++ d :: r).takeWhile bareKeyChar = k ∧ (k ++ d :: r).dropWhile bareKeyChar = d :: r := by
  have hd' : ¬ bareKeyChar d = true := by rw [hd]; exact Bool.false_ne_true
  rw [List.takeWhile_append_of_pos hb, List.dropWhile_append_of_pos hb, List.takeWhile_cons_of_neg hd',
    List.dropWhile_cons_of_neg hd', List.append_nil]
  exact ⟨rfl, rfl⟩

/-- a bare key: not empty, only `A-Za-z0-9_-` -/
def BareKey (k : Str) : Prop := k ≠ [] ∧ ∀ c ∈ k, bareKeyChar c = true

theorem quote_not_triple (v : Str) : (quote v).take 3 ≠ [34, 34, 34] := by
  cases v with
  | nil => decide
  | cons d r =>
    obtain ⟨x, t, hx, h34⟩ := (esc_Esc d).head
    intro h
    rw [quote, List.flatMap_cons, hx] at h
    exact h34 (List.cons.inj (List.cons.inj h).2).1

theorem lineEnd_nil : lineEnd [] = true := rfl

theorem classifyKV_emitted {key : Str} (hb : ∀ c ∈ key, bareKeyChar c = true) (v : Str) :
    classifyKV (key ++ 32 :: 61 :: 32 :: quote v) = .ok (.kv key v) := by
  obtain ⟨htake, hdrop⟩ := span_bare hb (d := 32) (by decide) (61 :: 32 :: quote v)
  have t1 : trimL (32 :: 61 :: 32 :: quote v) = 61 :: 32 :: quote v := rfl
  have t2 : trimL (32 :: quote v) = quote v := rfl
  have hq : quote v = 34 :: (v.flatMap esc ++ [34]) := rfl
  unfold classifyKV
  simp only [htake, hdrop, t1, List.take, List.drop, t2, if_true]
  rw [if_neg (by rw [hq]; exact List.cons_ne_nil _ _), if_neg (by rw [hq]; exact fun h => h rfl),
    if_neg (quote_not_triple v)]
  simp only [hq, List.drop, unq_quote, List.nil_append, lineEnd_nil, if_true]

/-- a key/value line the writer emits is read as that key and that value -/
theorem classify_kv (n : Nat) (key v : Str) (hk : BareKey key) :
    classify (kvLine n (key, v)) = .ok (.kv key v) := by
  obtain ⟨c, k', rfl⟩ := List.exists_cons_of_ne_nil hk.1
  have hc := hk.2 c List.mem_cons_self
  unfold classify kvLine
  rw [List.append_assoc, List.append_assoc, trimL_spaces, List.cons_append, trimL_cons _ (bare_not_ws hc)]
  simp only [bare_ne_of hc (k := 35) (by decide), bare_ne_of hc (k := 13) (by decide), bare_ne_of hc (k := 91) (by decide),
    if_false, hc, if_true]
  exact classifyKV_emitted hk.2 v

theorem pathComp_quoteKey (k : Str) (hk : KeyOK k) (d : Nat) (rest : Str) (hd : d = 46 ∨ d = 93) :
    pathComp (quoteKey k ++ d :: rest) = .ok (k, d :: rest) := by
  obtain ⟨hne, hc⟩ := hk
  have hdb : bareKeyChar d = false := by rcases hd with rfl | rfl <;> rfl
  unfold quoteKey
  by_cases hall : k.all bareKeyChar = true
  · have hb : ∀ c ∈ k, bareKeyChar c = true := List.all_eq_true.mp hall
    obtain ⟨hs1, hs2⟩ := span_bare hb hdb rest
    obtain ⟨c, k', rfl⟩ := List.exists_cons_of_ne_nil hne
    have hcb := hb c List.mem_cons_self
    rw [if_pos hall]
    rw [List.cons_append] at hs1 hs2 ⊢
    simp only [pathComp, bare_ne_of hcb (k := 34) (by decide), bare_ne_of hcb (k := 39) (by decide), if_false, hcb,
      if_true, hs1, hs2]
  · rw [if_neg hall]
    simp only [pathComp, List.cons_append, List.append_assoc, List.nil_append, if_true, unq_quoteKey k [] (d :: rest) hc]

theorem pathText_cons_cons (k k2 : Str) (r : List Str) :
    pathText (k :: k2 :: r) = quoteKey k ++ 46 :: pathText (k2 :: r) := rfl

/-- the bound on the fuel is what `classifyHeader` gives: the length of the line, more than that of the table name -/
theorem pathComps_text : ∀ (p : List Str), p ≠ [] → (∀ k ∈ p, KeyOK k) → ∀ (fuel : Nat), (pathText p).length < fuel →
    ∀ e, pathComps fuel (pathText p ++ 93 :: e) = .ok (p, 93 :: e)
  | [], h, _, _, _, _ => absurd rfl h
  | k :: r, _, hk, 0, hf, _ => absurd hf (Nat.not_lt_zero _)
  | k :: r, _, hk, f + 1, hf, e => by
    have hkk := hk k List.mem_cons_self
    cases r with
    | nil =>
      simp only [pathText, pathComps, pathComp_quoteKey k hkk 93 e (Or.inr rfl), if_neg hkk.1]
    | cons k2 r2 =>
      have hrec := pathComps_text (k2 :: r2) (List.cons_ne_nil _ _) (fun x hx => hk x (List.mem_cons_of_mem _ hx)) f
        (by rw [pathText_cons_cons, List.length_append, List.length_cons] at hf; omega) e
      simp only [pathText_cons_cons, List.append_assoc, List.cons_append, pathComps,
        pathComp_quoteKey k hkk 46 _ (Or.inl rfl), hrec]

/-- the path reader accepts the name (`pathComps_text`), and it takes no component that opens with a bracket -/
theorem pathText_head (p : List Str) (hp : p ≠ []) (hk : ∀ k ∈ p, KeyOK k) (e : Str) :
    (pathText p ++ 93 :: e).take 1 ≠ [91] := by
  have h := pathComps_text p hp hk _ (Nat.lt_succ_self _) e
  intro h1
  cases hs : pathText p ++ 93 :: e with
  | nil => rw [hs] at h1; cases h1
  | cons c t =>
    rw [hs] at h h1
    cases h1
    have hc : pathComp (91 :: t) = .err := rfl
    rw [pathComps, hc] at h
    cases h

/-- the header line the writer emits for a table is read as that header -/
theorem classify_header (t : Table) (hp : t.path ≠ []) (hk : ∀ k ∈ t.path, KeyOK k) :
    classify (headerLine t) = .ok (.header t.array t.path) := by
  have hlen : ∀ x : Str, (pathText t.path).length < (pathText t.path ++ x).length + 1 := fun x => by
    rw [List.length_append]; omega
  unfold classify headerLine
  rw [trimL_spaces]
  cases t.array with
  | true =>
    rw [if_pos rfl, List.append_assoc, List.cons_append, List.cons_append, List.nil_append, trimL_cons _ (by decide)]
    simp only [show (91 : Nat) ≠ 35 from by decide, show (91 : Nat) ≠ 13 from by decide, if_false, if_true, List.take,
      List.drop, classifyHeader, pathComps_text t.path hp hk _ (hlen _) [93], lineEnd_nil]
  | false =>
    rw [if_neg Bool.false_ne_true, List.cons_append, trimL_cons _ (by decide)]
    simp only [show (91 : Nat) ≠ 35 from by decide, show (91 : Nat) ≠ 13 from by decide, if_false, if_true,
      pathText_head t.path hp hk [], classifyHeader, pathComps_text t.path hp hk _ (hlen _) [], List.take, List.drop,
      lineEnd_nil, Bool.false_eq_true]

theorem splitLines_line : ∀ (l : Str), 10 ∉ l → ∀ (r acc : Str),
    splitLines (l ++ 10 :: r) acc = (acc ++ l) :: splitLines r []
  | [], _, r, acc => by rw [List.nil_append, splitLines, if_pos rfl, List.append_nil]
  | c :: t, h, r, acc => by
    have hc : c ≠ 10 := fun e => h (e ▸ List.mem_cons_self)
    rw [List.cons_append, splitLines, if_neg hc, splitLines_line t (fun e => h (List.mem_cons_of_mem _ e)),
      List.append_assoc, List.singleton_append]

theorem unlines_cons (l : Str) (ls : List Str) (rest : Str) :
    unlines (l :: ls) ++ rest = l ++ 10 :: (unlines ls ++ rest) := by
  simp only [unlines, List.flatMap_cons, List.append_assoc, List.cons_append, List.nil_append]

theorem unlines_append (a b : List Str) (rest : Str) : unlines (a ++ b) ++ rest = unlines a ++ (unlines b ++ rest) := by
  simp only [unlines, List.flatMap_append, List.append_assoc]

theorem splitLines_unlines : ∀ (ls : List Str), (∀ l ∈ ls, 10 ∉ l) → splitLines (unlines ls) [] = ls
  | [], _ => rfl
  | l :: r, h => by
    rw [← List.append_nil (unlines (l :: r)), unlines_cons, List.append_nil, splitLines_line l (h l List.mem_cons_self),
      splitLines_unlines r (fun x hx => h x (List.mem_cons_of_mem _ hx)), List.nil_append]

theorem quote_no_nl (v : Str) : 10 ∉ quote v := by
  unfold quote
  simp only [List.mem_cons, List.mem_append, List.mem_nil_iff, or_false, not_or]
  exact ⟨by decide, flatMap_no_nl esc v fun c _ => esc_Esc c, by decide⟩

theorem quoteKey_no_nl {k : Str} (hk : KeyOK k) : 10 ∉ quoteKey k := by
  unfold quoteKey
  split
  · exact fun h => (hk.2 10 h).2.1 rfl
  · simp only [List.mem_cons, List.mem_append, List.mem_nil_iff, or_false, not_or]
    exact ⟨by decide, flatMap_no_nl _ k fun c hc => keyEsc_Esc (hk.2 c hc), by decide⟩

theorem pathText_no_nl : ∀ (p : List Str), (∀ k ∈ p, KeyOK k) → 10 ∉ pathText p
  | [], _ => List.not_mem_nil
  | [k], h => quoteKey_no_nl (h k List.mem_cons_self)
  | k :: k2 :: r, h => by
    rw [pathText_cons_cons, List.mem_append, List.mem_cons, not_or, not_or]
    exact ⟨quoteKey_no_nl (h k List.mem_cons_self), by decide,
      pathText_no_nl (k2 :: r) fun x hx => h x (List.mem_cons_of_mem _ hx)⟩

theorem spaces_no_nl (n : Nat) : 10 ∉ spaces n := fun h => absurd (List.mem_replicate.mp h).2 (by decide)

theorem kvLine_no_nl (n : Nat) (kv : Str × Str) (hk : BareKey kv.1) : 10 ∉ kvLine n kv := by
  unfold kvLine
  simp only [List.mem_append, not_or]
  exact ⟨⟨⟨spaces_no_nl n, fun h => bare_ne_of (hk.2 10 h) (by decide) rfl⟩, by decide⟩, quote_no_nl _⟩

theorem headerLine_no_nl (t : Table) (hk : ∀ k ∈ t.path, KeyOK k) : 10 ∉ headerLine t := by
  unfold headerLine
  have := pathText_no_nl t.path hk
  split <;> simp [spaces_no_nl, this]

/-- a table the writer can emit: a name, components the writer quotes faithfully, bare keys, no key twice -/
def WFTable (t : Table) : Prop :=
  t.path ≠ [] ∧ (∀ k ∈ t.path, KeyOK k) ∧ (∀ kv ∈ t.kvs, BareKey kv.1) ∧ (t.kvs.map (·.1)).Nodup

/-- the root table -/
def WFRoot (t : Table) : Prop :=
  t.path = [] ∧ t.array = false ∧ (∀ kv ∈ t.kvs, BareKey kv.1) ∧ (t.kvs.map (·.1)).Nodup

theorem docLoop_kvs (n : Nat) : ∀ (kvs : List (Str × Str)) (rest : Str) (d : Doc) (cur : Table),
    (∀ kv ∈ kvs, BareKey kv.1) → ((cur.kvs ++ kvs).map (·.1)).Nodup →
    docLoop (splitLines (unlines (kvs.map (kvLine n)) ++ rest) []) d cur =
      docLoop (splitLines rest []) d { cur with kvs := cur.kvs ++ kvs }
  | [], rest, d, cur, _, _ => by rw [List.append_nil]; rfl
  | (k, v) :: r, rest, d, cur, hb, hnd => by
    have hk := hb (k, v) List.mem_cons_self
    rw [List.map_append] at hnd
    have hfresh := List.any_eq_false_of_nodup (·.1) cur.kvs hnd
    -- the line is cut off the text where it is read: it holds no newline
    rw [List.map_cons, unlines_cons, splitLines_line _ (kvLine_no_nl n (k, v) hk)]
    simp only [List.nil_append, docLoop, classify_kv n k v hk, docStep, addKV, hfresh, Bool.false_eq_true, if_false]
    rw [docLoop_kvs n r rest d _ (fun x hx => hb x (List.mem_cons_of_mem _ hx))
      (by rw [List.append_assoc, List.map_append]; exact hnd), List.append_assoc]
    rfl

theorem classify_blank : classify [] = .ok .blank := rfl

theorem docLoop_table (first : Bool) (t : Table) (hwf : WFTable t) (rest : Str) (d : Doc) (cur : Table) :
    docLoop (splitLines (unlines (tableLines first t) ++ rest) []) d cur = docLoop (splitLines rest []) (d ++ [cur]) t := by
  obtain ⟨hp, hk, hb, hnd⟩ := hwf
  have hhead : docLoop (splitLines (unlines (headerLine t :: t.kvs.map (kvLine (2 * t.path.length))) ++ rest) []) d cur =
      docLoop (splitLines rest []) (d ++ [cur]) t := by
    rw [unlines_cons, splitLines_line _ (headerLine_no_nl t hk)]
    simp only [List.nil_append, docLoop, classify_header t hp hk, docStep]
    exact docLoop_kvs _ t.kvs rest _ { array := t.array, path := t.path, kvs := [] } hb hnd
  unfold tableLines
  rw [if_neg hp]
  split
  · rw [List.cons_append, List.nil_append, unlines_cons, List.nil_append, splitLines, if_pos rfl]
    simp only [docLoop, classify_blank, docStep]
    exact hhead
  · exact hhead

theorem docLoop_tables : ∀ (tables : List Table) (first : Bool) (d : Doc) (cur : Table),
    (∀ t ∈ tables, WFTable t) → docLoop (splitLines (unlines (docLines first tables)) []) d cur = .ok (d ++ cur :: tables)
  | [], _, _, _, _ => rfl
  | t :: r, first, d, cur, h => by
    rw [docLines, ← List.append_nil (unlines _), unlines_append, docLoop_table first t (h t List.mem_cons_self), List.append_nil,
      docLoop_tables r _ _ _ (fun x hx => h x (List.mem_cons_of_mem _ hx)), List.append_assoc, List.singleton_append]

theorem parseDoc_emitDoc (root : Table) (tables : List Table) (hr : WFRoot root) (ht : ∀ t ∈ tables, WFTable t) :
    parseDoc (emitDoc (root :: tables)) = .ok (root :: tables) := by
  obtain ⟨hp, ha, hb, hnd⟩ := hr
  unfold parseDoc emitDoc
  rw [docLines, tableLines, if_pos hp, ← List.append_nil (unlines _), unlines_append,
    docLoop_kvs 0 root.kvs _ [] { array := false, path := [], kvs := [] } hb hnd, List.append_nil,
    docLoop_tables _ _ _ _ ht, List.nil_append]
  cases root
  cases hp
  cases ha
  rfl

theorem parseDoc_saveHeader (text : Str) : parseDoc (saveHeader ++ text) = parseDoc text := by
  unfold parseDoc
  -- the header is two complete comment lines: `splitLines` and `classify` evaluate on them, `docLoop` skips both
  rfl

/-! ### the struct mapping: what the encoder walks is decoded into the same structure -/

theorem field_cons (k v : Str) (r : List (Str × Str)) (n : Str) :
    field ((k, v) :: r) n = if fold k = n then v else field r n := by
  unfold field
  rw [List.find?_cons]
  by_cases h : fold k = n
  · rw [if_pos h, beq_iff_eq.mpr h]
  · rw [if_neg h, beq_eq_false_iff_ne.mpr h]

theorem field_of_mem : ∀ {kvs : List (Str × Str)}, ambiguous (kvs.map (·.1)) = false →
    ∀ {k v : Str}, (k, v) ∈ kvs → field kvs (fold k) = v
  | (k0, v0) :: r, ha, k, v, hm => by
    rw [List.map_cons, ambiguous, Bool.or_eq_false_iff] at ha
    rw [field_cons]
    rcases List.mem_cons.mp hm with e | hm'
    · cases e; rw [if_pos rfl]
    · have hne : fold k0 ≠ fold k := fun e =>
        List.any_eq_false.mp ha.1 k (List.mem_map_of_mem (f := (·.1)) hm') (beq_iff_eq.mpr e.symm)
      rw [if_neg hne]
      exact field_of_mem ha.2 hm'

theorem field_of_lookup {kvs : List (Str × Str)} (hu : ambiguous (kvs.map (·.1)) = false) {k v : Str}
    (h : kvs.lookup k = some v) : field kvs (fold k) = v := by
  obtain ⟨l₁, l₂, rfl, -⟩ := List.lookup_eq_some_iff.mp h
  exact field_of_mem hu (List.mem_append_right _ List.mem_cons_self)

theorem field_absent {kvs : List (Str × Str)} {n : Str} (h : ∀ k ∈ kvs.map (·.1), fold k ≠ n) : field kvs n = [] := by
  unfold field
  rw [List.find?_eq_none.mpr fun kv hkv => by rw [beq_iff_eq]; exact h kv.1 (List.mem_map_of_mem hkv)]

theorem nodup_of_unambiguous : ∀ {ks : List Str}, ambiguous ks = false → ks.Nodup
  | [], _ => List.nodup_nil
  | k :: r, h => by
    rw [ambiguous, Bool.or_eq_false_iff] at h
    exact List.nodup_cons.mpr
      ⟨fun hk => List.any_eq_false.mp h.1 k hk (beq_iff_eq.mpr rfl), nodup_of_unambiguous h.2⟩

/-- the keys of a table the struct mapping writes -/
def PlainKeys (ks : List Str) : Prop :=
  ambiguous ks = false ∧ (∀ k ∈ ks, BareKey k) ∧ ∀ k ∈ ks, fold k ≠ fold kServices

theorem PlainKeys.bare {kvs : List (Str × Str)} (h : PlainKeys (kvs.map (·.1))) : ∀ kv ∈ kvs, BareKey kv.1 :=
  fun _ hkv => h.2.1 _ (List.mem_map_of_mem hkv)

theorem PlainKeys.no_services {kvs : List (Str × Str)} (h : PlainKeys (kvs.map (·.1))) :
    (kvs.any fun kv => fold kv.1 == fold kServices) = false :=
  List.any_eq_false.mpr fun _ hkv e => h.2.2 _ (List.mem_map_of_mem hkv) (beq_iff_eq.mp e)

/-- what comes back: the entries of every `Services` map in the byte order of their names -/
def normServer (t : TServer) : TServer := { t with services := t.services.map sortSvcs }
def normPriv (p : TPriv) : TPriv := { p with services := p.services.map sortSvcs }

def gRowKvs (e : TSvc) : List (Str × Str) := [(kPublic, e.pub), (kSuite, e.suite)]
def gRow (e : TSvc) : Table := { array := false, path := [kServers, kServices, e.name], kvs := gRowKvs e }

theorem gRowKvs_plain (e : TSvc) : PlainKeys ((gRowKvs e).map (·.1)) :=
  show PlainKeys [kPublic, kSuite] by unfold PlainKeys BareKey; decide +kernel

theorem sortSvcs_perm (l : List TSvc) : (sortSvcs l).Perm l := List.mergeSort_perm l _

theorem sortSvcs_names_nodup {l : List TSvc} (h : (l.map (·.name)).Nodup) : ((sortSvcs l).map (·.name)).Nodup :=
  ((sortSvcs_perm l).map _).nodup_iff.mpr h

theorem fold_kServers : fold kServers = kServers := by decide

theorem groupLoop_svcs : ∀ (l : List TSvc) (rest : List Table) (done : List TServer) (c : SrvB),
    c.svcSpell = some kServices → ((c.svcs.map (·.1)) ++ l.map (·.name)).Nodup →
    groupLoop (l.map gRow ++ rest) { spell := some kServers, done := done, cur := some c } =
      groupLoop rest { spell := some kServers, done := done,
                       cur := some { c with svcs := c.svcs ++ l.map fun e => (e.name, gRowKvs e) } }
  | [], rest, done, c, _, _ => by simp only [List.map_nil, List.nil_append, List.append_nil]
  | e :: r, rest, done, c, hs, hnd => by
    have hfresh := List.any_eq_false_of_nodup (·.1) c.svcs hnd
    -- Here and in `groupLoop_server`, `privLoop_svcs`, `decodePrivate_privDoc` one step of the reader is evaluated on an
    -- emitted table; the guards go by: no ambiguous keys (`(…_plain _).1`), the folded names (`fold_kServers`), the
    -- spelling of the array (`hsp`) and of `Services` (`hs`), no `Services` key in a `[[servers]]` or root table
    -- (`.no_services`), the service name not seen before (`hfresh`); the other names are plumbing.
    simp only [List.map_cons, List.cons_append, groupLoop, groupStep, gRow, (gRowKvs_plain e).1, Bool.false_eq_true,
      if_false, svcTable, fold_kServers, ne_eq, not_true_eq_false, hs, Option.isSome_some, and_false, hfresh]
    rw [groupLoop_svcs r rest done _ rfl (by rw [List.map_append, List.append_assoc]; exact hnd)]
    simp only [List.append_assoc, List.singleton_append]

def srvKvs (t : TServer) : List (Str × Str) :=
  [(kAddress, t.address), (kSuite, t.suite), (kPublic, t.pub), (kDescription, t.description)] ++
    (if t.url = [] then [] else [(kURL, t.url)])

theorem serverTables_eq (t : TServer) : serverTables t = { array := true, path := [kServers], kvs := srvKvs t } ::
    match t.services with
    | none => []
    | some l => { array := false, path := [kServers, kServices], kvs := [] } :: (sortSvcs l).map gRow := rfl

theorem srvKvs_plain (t : TServer) : PlainKeys ((srvKvs t).map (·.1)) := by
  unfold srvKvs
  by_cases hu : t.url = []
  · rw [if_pos hu]
    exact show PlainKeys [kAddress, kSuite, kPublic, kDescription] by unfold PlainKeys BareKey; decide +kernel
  · rw [if_neg hu]
    exact show PlainKeys [kAddress, kSuite, kPublic, kDescription, kURL] by unfold PlainKeys BareKey; decide +kernel

/-- the state after the tables of one server -/
def builderOf (t : TServer) : SrvB :=
  match t.services with
  | none => { kvs := srvKvs t, svcSpell := none, header := false, svcs := [] }
  | some l => { kvs := srvKvs t, svcSpell := some kServices, header := true,
                svcs := (sortSvcs l).map fun e => (e.name, gRowKvs e) }

theorem groupLoop_server (t : TServer) (rest : List Table) (st : GSt)
    (hspell : st.spell = none ∨ st.spell = some kServers)
    (hn : ∀ l, t.services = some l → (l.map (·.name)).Nodup) :
    groupLoop (serverTables t ++ rest) st =
      groupLoop rest { spell := some kServers, done := closeCur st, cur := some (builderOf t) } := by
  have hsp : ¬ (st.spell.isSome ∧ st.spell ≠ some kServers) := by
    rcases hspell with h | h <;> simp [h]
  rw [serverTables_eq]
  unfold builderOf
  cases hsv : t.services with
  | none =>
    simp only [List.cons_append, List.nil_append, groupLoop, groupStep, (srvKvs_plain t).1, Bool.false_eq_true, if_false,
      fold_kServers, ne_eq, not_true_eq_false, hsp, (srvKvs_plain t).no_services]
  | some l =>
    simp only [List.cons_append, groupLoop, groupStep, svcTable, (srvKvs_plain t).1, Bool.false_eq_true, if_false,
      fold_kServers, ne_eq, not_true_eq_false, hsp, (srvKvs_plain t).no_services, List.map_nil, ambiguous,
      Option.isSome_none, false_and, List.isEmpty_nil, Bool.not_true]
    exact groupLoop_svcs (sortSvcs l) rest (closeCur st)
      { kvs := srvKvs t, svcSpell := some kServices, header := true, svcs := [] } rfl
      (sortSvcs_names_nodup (hn l hsv))

theorem field_srvKvs (t : TServer) :
    field (srvKvs t) (fold kAddress) = t.address ∧ field (srvKvs t) (fold kSuite) = t.suite ∧
    field (srvKvs t) (fold kPublic) = t.pub ∧ field (srvKvs t) (fold kDescription) = t.description ∧
    field (srvKvs t) (fold kURL) = t.url := by
  have hf : ∀ {k v : Str}, (srvKvs t).lookup k = some v → field (srvKvs t) (fold k) = v :=
    field_of_lookup (srvKvs_plain t).1
  refine ⟨hf rfl, hf rfl, hf rfl, hf rfl, ?_⟩
  by_cases hurl : t.url = []
  · rw [hurl]
    apply field_absent
    unfold srvKvs
    rw [if_pos hurl]
    exact show ∀ k ∈ [kAddress, kSuite, kPublic, kDescription], fold k ≠ fold kURL by decide +kernel
  · exact hf (by unfold srvKvs; rw [if_neg hurl]; rfl)

theorem svcOf_gRow (e : TSvc) (h : e.priv = []) : svcOf e.name (gRowKvs e) = e := by
  have hu := (gRowKvs_plain e).1
  have hp : field (gRowKvs e) (fold kPrivate) = [] :=
    field_absent (show ∀ k ∈ [kPublic, kSuite], fold k ≠ fold kPrivate by decide +kernel)
  unfold svcOf
  rw [field_of_lookup hu (k := kSuite) rfl, field_of_lookup hu (k := kPublic) rfl, hp, ← h]

theorem finish_builderOf (t : TServer) (hp : ∀ l, t.services = some l → ∀ e ∈ l, e.priv = []) :
    (builderOf t).finish = normServer t := by
  obtain ⟨f1, f2, f3, f4, f5⟩ := field_srvKvs t
  unfold builderOf normServer
  cases hsv : t.services with
  | none =>
    simp only [SrvB.finish, f1, f2, f3, f4, f5]
    rfl
  | some l =>
    have hpl : ∀ e ∈ sortSvcs l, e.priv = [] := fun e he => hp l hsv e ((sortSvcs_perm l).mem_iff.mp he)
    have hm : ((sortSvcs l).map fun e => (e.name, gRowKvs e)).map (fun e => svcOf e.1 e.2) = sortSvcs l := by
      rw [List.map_map]
      exact (List.map_congr_left fun e he => svcOf_gRow e (hpl e he)).trans (List.map_id _)
    simp only [SrvB.finish, f1, f2, f3, f4, f5, Bool.true_or, if_true, hm]
    rfl

/-- the servers of a group the writer can handle: within one `Services` map no name twice (it is a
map), and no private keys (`ServerServiceConfig` has none) -/
def GroupOK (g : List TServer) : Prop :=
  ∀ t ∈ g, ∀ l, t.services = some l → (l.map (·.name)).Nodup ∧ ∀ e ∈ l, e.priv = []

theorem groupLoop_groupDoc : ∀ (g : List TServer) (st : GSt), (st.spell = none ∨ st.spell = some kServers) → GroupOK g →
    ∃ st', groupLoop (g.flatMap serverTables) st = .ok st' ∧ closeCur st' = closeCur st ++ g.map normServer
  | [], st, _, _ => ⟨st, rfl, (List.append_nil _).symm⟩
  | t :: r, st, hs, hg => by
    have ht := hg t List.mem_cons_self
    rw [List.flatMap_cons, groupLoop_server t _ st hs (fun l hl => (ht l hl).1)]
    obtain ⟨st', h1, h2⟩ := groupLoop_groupDoc r { spell := some kServers, done := closeCur st, cur := some (builderOf t) }
      (Or.inr rfl) (fun x hx => hg x (List.mem_cons_of_mem _ hx))
    refine ⟨st', h1, ?_⟩
    rw [h2, List.map_cons, ← finish_builderOf t (fun l hl => (ht l hl).2), ← List.singleton_append, ← List.append_assoc]
    rfl

/-- **`GroupToml` → document → `GroupToml`** -/
theorem decodeGroup_groupDoc (g : List TServer) (hg : GroupOK g) : decodeGroup (groupDoc g) = .ok (g.map normServer) := by
  obtain ⟨st', h1, h2⟩ := groupLoop_groupDoc g { spell := none, done := [], cur := none } (Or.inl rfl) hg
  simp only [decodeGroup, groupDoc, ne_eq, not_true_eq_false, if_false, List.map_nil, ambiguous, Bool.false_eq_true,
    List.any_nil, h1, h2]
  rfl

def pRowKvs (e : TSvc) : List (Str × Str) := [(kSuite, e.suite), (kPublic, e.pub), (kPrivate, e.priv)]
def pRow (e : TSvc) : Table := { array := false, path := [kServices, e.name], kvs := pRowKvs e }

theorem pRowKvs_plain (e : TSvc) : PlainKeys ((pRowKvs e).map (·.1)) :=
  show PlainKeys [kSuite, kPublic, kPrivate] by unfold PlainKeys BareKey; decide +kernel

theorem privLoop_svcs : ∀ (l : List TSvc) (rest : List Table) (svcs : List (Str × List (Str × Str))),
    ((svcs.map (·.1)) ++ l.map (·.name)).Nodup →
    privLoop (l.map pRow ++ rest) ⟨some kServices, true, svcs⟩ =
      privLoop rest ⟨some kServices, true, svcs ++ l.map fun e => (e.name, pRowKvs e)⟩
  | [], rest, svcs, _ => by simp only [List.map_nil, List.nil_append, List.append_nil]
  | e :: r, rest, svcs, hnd => by
    have hfresh := List.any_eq_false_of_nodup (·.1) svcs hnd
    simp only [List.map_cons, List.cons_append, privLoop, privStep, pRow, Bool.false_eq_true, if_false,
      (pRowKvs_plain e).1, ne_eq, not_true_eq_false, Option.isSome_some, and_false, hfresh]
    rw [privLoop_svcs r rest _ (by rw [List.map_append, List.append_assoc]; exact hnd), List.append_assoc,
      List.singleton_append]

def privKvs (p : TPriv) : List (Str × Str) :=
  [(kSuite, p.suite), (kPublic, p.pub), (kPrivate, p.priv), (kAddress, p.address), (kListenAddress, p.listen),
   (kDescription, p.description), (kURL, p.url), (kWsCert, p.wsCert), (kWsKey, p.wsKey)]

theorem privKvs_plain (p : TPriv) : PlainKeys ((privKvs p).map (·.1)) :=
  show PlainKeys [kSuite, kPublic, kPrivate, kAddress, kListenAddress, kDescription, kURL, kWsCert, kWsKey] by
    unfold PlainKeys BareKey; decide +kernel

theorem privDoc_eq (p : TPriv) : privDoc p = { array := false, path := [], kvs := privKvs p } ::
    match p.services with
    | none => []
    | some l => { array := false, path := [kServices], kvs := [] } :: (sortSvcs l).map pRow := rfl

theorem svcOf_pRow (e : TSvc) : svcOf e.name (pRowKvs e) = e := by
  have hu := (pRowKvs_plain e).1
  unfold svcOf
  rw [field_of_lookup hu (k := kSuite) rfl, field_of_lookup hu (k := kPublic) rfl, field_of_lookup hu (k := kPrivate) rfl]

/-- **`CothorityConfig` → document → `CothorityConfig`** -/
theorem decodePrivate_privDoc (p : TPriv) (hn : ∀ l, p.services = some l → (l.map (·.name)).Nodup) :
    decodePrivate (privDoc p) = .ok (normPriv p) := by
  have hpl := privKvs_plain p
  have hf : ∀ {k v : Str}, (privKvs p).lookup k = some v → field (privKvs p) (fold k) = v := field_of_lookup hpl.1
  have hroot : ∀ tables, decodePrivate ({ array := false, path := [], kvs := privKvs p } :: tables) =
      match privLoop tables { spell := none, header := false, svcs := [] } with
      | .ok st => .ok { p with services := if st.header || !st.svcs.isEmpty then some (st.svcs.map fun e => svcOf e.1 e.2) else none }
      | .err => .err
      | .unsup => .unsup := fun tables => by
    simp only [decodePrivate, ne_eq, not_true_eq_false, if_false, hpl.1, Bool.false_eq_true, hpl.no_services,
      hf (k := kSuite) rfl, hf (k := kPublic) rfl, hf (k := kPrivate) rfl, hf (k := kAddress) rfl,
      hf (k := kListenAddress) rfl, hf (k := kDescription) rfl, hf (k := kURL) rfl, hf (k := kWsCert) rfl,
      hf (k := kWsKey) rfl]
    rfl
  rw [privDoc_eq, hroot]
  unfold normPriv
  cases hsv : p.services with
  | none => rfl
  | some l =>
    have hhead : privStep ⟨none, false, []⟩ ⟨false, [kServices], []⟩ = .ok ⟨some kServices, true, []⟩ := by
      simp [privStep, ambiguous]
    have hloop := privLoop_svcs (sortSvcs l) [] [] (sortSvcs_names_nodup (hn l hsv))
    rw [List.append_nil, List.nil_append] at hloop
    have hm : ((sortSvcs l).map fun e => (e.name, pRowKvs e)).map (fun e => svcOf e.1 e.2) = sortSvcs l := by
      rw [List.map_map]
      exact (List.map_congr_left fun e _ => svcOf_pRow e).trans (List.map_id _)
    simp only [privLoop, hhead, hloop, Bool.true_or, if_true, hm, Option.map_some]

theorem keyOK_kServers : KeyOK kServers := by unfold KeyOK; decide +kernel
theorem keyOK_kServices : KeyOK kServices := by unfold KeyOK; decide +kernel

/-- a group the writer can emit faithfully: `GroupOK` and service names it quotes faithfully -/
def GroupTextOK (g : List TServer) : Prop :=
  GroupOK g ∧ ∀ t ∈ g, ∀ l, t.services = some l → ∀ e ∈ l, KeyOK e.name

theorem wfTable_of_plain {array : Bool} {path : List Str} {kvs : List (Str × Str)} (hp : path ≠ [])
    (hk : ∀ k ∈ path, KeyOK k) (h : PlainKeys (kvs.map (·.1))) : WFTable { array := array, path := path, kvs := kvs } :=
  ⟨hp, hk, h.bare, nodup_of_unambiguous h.1⟩

theorem serverTables_wf (t : TServer) (hk : ∀ l, t.services = some l → ∀ e ∈ l, KeyOK e.name) :
    ∀ tb ∈ serverTables t, WFTable tb := by
  have hsrv : WFTable { array := true, path := [kServers], kvs := srvKvs t } :=
    wfTable_of_plain (List.cons_ne_nil _ _) (List.forall_mem_singleton.mpr keyOK_kServers) (srvKvs_plain t)
  intro tb htb
  rw [serverTables_eq] at htb
  cases hsv : t.services with
  | none =>
    rw [hsv] at htb
    rw [List.mem_singleton.mp htb]; exact hsrv
  | some l =>
    rw [hsv] at htb
    simp only [List.mem_cons, List.mem_map] at htb
    rcases htb with rfl | rfl | ⟨e, he, rfl⟩
    · exact hsrv
    · exact ⟨List.cons_ne_nil _ _, by simp [keyOK_kServers, keyOK_kServices], nofun, List.nodup_nil⟩
    · have hek := hk l hsv e ((sortSvcs_perm l).mem_iff.mp he)
      exact wfTable_of_plain (List.cons_ne_nil _ _) (by simp [keyOK_kServers, keyOK_kServices, hek]) (gRowKvs_plain e)

theorem readGroupText_emitGroup (g : List TServer) (h : GroupTextOK g) :
    readGroupText (emitGroup g) = .ok (g.map normServer) := by
  unfold readGroupText emitGroup groupDoc
  rw [parseDoc_emitDoc]
  · exact decodeGroup_groupDoc g h.1
  · exact ⟨rfl, rfl, nofun, List.nodup_nil⟩
  · intro tb htb
    obtain ⟨t, ht, htt⟩ := List.mem_flatMap.mp htb
    exact serverTables_wf t (h.2 t ht) tb htt

theorem privDoc_wf (p : TPriv) (hk : ∀ l, p.services = some l → ∀ e ∈ l, KeyOK e.name) :
    WFRoot { array := false, path := [], kvs := privKvs p } ∧
    ∀ tb ∈ (match p.services with
            | none => []
            | some l => ({ array := false, path := [kServices], kvs := [] } : Table) :: (sortSvcs l).map pRow), WFTable tb := by
  refine ⟨⟨rfl, rfl, (privKvs_plain p).bare, nodup_of_unambiguous (privKvs_plain p).1⟩, ?_⟩
  intro tb htb
  cases hsv : p.services with
  | none => rw [hsv] at htb; cases htb
  | some l =>
    rw [hsv] at htb
    simp only [List.mem_cons, List.mem_map] at htb
    rcases htb with rfl | ⟨e, he, rfl⟩
    · exact ⟨List.cons_ne_nil _ _, by simp [keyOK_kServices], nofun, List.nodup_nil⟩
    · have hek := hk l hsv e ((sortSvcs_perm l).mem_iff.mp he)
      exact wfTable_of_plain (List.cons_ne_nil _ _) (by simp [keyOK_kServices, hek]) (pRowKvs_plain e)

theorem readPrivateText_emitPrivate (p : TPriv)
    (hn : ∀ l, p.services = some l → (l.map (·.name)).Nodup ∧ ∀ e ∈ l, KeyOK e.name) :
    readPrivateText (emitPrivate p) = .ok (normPriv p) := by
  obtain ⟨w1, w2⟩ := privDoc_wf p (fun l hl => (hn l hl).2)
  unfold readPrivateText emitPrivate
  rw [parseDoc_saveHeader, privDoc_eq, parseDoc_emitDoc _ _ w1 w2, ← privDoc_eq]
  exact decodePrivate_privDoc p (fun l hl => (hn l hl).1)

end C18.Toml

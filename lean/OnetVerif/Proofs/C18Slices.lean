import OnetVerif.Model.C18Slices
/-! The slice/heap model (`Model/C18Slices.lean`): `Below n` (the arrays numbered below `n` are untouched) is the frame
condition, used by C18 for rosters and by C16 for bucket names.  Core only. -/
namespace C18
namespace Sl

/-- the arrays numbered below `n` are what they were, and no array has gone -/
def Below {α : Type} (n : Nat) (h h' : Heap α) : Prop := h.length ≤ h'.length ∧ ∀ i, i < n → h'[i]? = h[i]?

theorem Below.refl {α : Type} (n : Nat) (h : Heap α) : Below n h h := ⟨Nat.le_refl _, fun _ _ => rfl⟩

theorem Below.trans {α : Type} {n : Nat} {h₁ h₂ h₃ : Heap α} (a : Below n h₁ h₂) (b : Below n h₂ h₃) : Below n h₁ h₃ :=
  ⟨Nat.le_trans a.1 b.1, fun i hi => (b.2 i hi).trans (a.2 i hi)⟩

theorem Below.mono {α : Type} {n m : Nat} {h h' : Heap α} (a : Below n h h') (hm : m ≤ n) : Below m h h' :=
  ⟨a.1, fun i hi => a.2 i (Nat.lt_of_lt_of_le hi hm)⟩

/-- what a slice shows depends on its own array only -/
theorem read_below {α : Type} {n : Nat} {h h' : Heap α} (a : Below n h h') (s : Slice) (hs : s.arr < n) :
    read h' s = read h s := by
  unfold read; rw [a.2 s.arr hs]

theorem alloc_below {α : Type} (h : Heap α) (l : List α) (k : Nat) (pad : α) :
    Below h.length h (alloc h l k pad).1 ∧ (alloc h l k pad).2.arr = h.length := by
  refine ⟨⟨by simp [alloc], fun i hi => ?_⟩, rfl⟩
  simp only [alloc]
  exact List.getElem?_append_left hi

theorem push_below {α : Type} (n : Nat) (h : Heap α) (s : Slice) (x pad : α) (hn : n ≤ h.length) (hs : n ≤ s.arr) :
    Below n h (push h s x pad).1 ∧ n ≤ (push h s x pad).2.arr := by
  unfold push
  split
  · refine ⟨⟨Nat.le_of_eq (List.length_modify ..).symm, fun i hi => ?_⟩, hs⟩
    exact List.getElem?_modify_ne _ _ (Nat.ne_of_gt (Nat.lt_of_lt_of_le hi hs))
  · have := alloc_below h (read h s ++ [x]) (s.len + 1) pad
    exact ⟨this.1.mono hn, by rw [this.2]; exact hn⟩

theorem concatLoop_below {α : Type} [DecidableEq α] (pad : α) (n : Nat) (sis : List α) :
    ∀ (h : Heap α) (t : Slice), n ≤ h.length → n ≤ t.arr →
      Below n h (concatLoop pad (h, t) sis).1 ∧ n ≤ (concatLoop pad (h, t) sis).2.arr := by
  induction sis with
  | nil => intro h t _ ht; exact ⟨Below.refl _ _, ht⟩
  | cons si sis ih =>
    intro h t hn ht
    simp only [concatLoop]
    split
    · exact ih h t hn ht
    · have hp := push_below n h t si pad hn ht
      have := ih (push h t si pad).1 (push h t si pad).2 (Nat.le_trans hn hp.1.1) hp.2
      exact ⟨hp.1.trans this.1, this.2⟩

/-- `NewRoster` (the code's) leaves every existing array alone -/
theorem newRoster_below {α : Type} (h : Heap α) (s : Slice) (pad : α) :
    Below h.length h (newRoster h s pad).1 ∧ (newRoster h s pad).2.arr = h.length :=
  alloc_below h _ 0 pad

/-- `Roster.Concat` built on it too: it only appends to arrays of its own -/
theorem concat_below {α : Type} [DecidableEq α] (h : Heap α) (ro : Slice) (sis : List α) (pad : α) :
    Below h.length h (concatWith newRoster h ro sis pad).1 ∧ h.length ≤ (concatWith newRoster h ro sis pad).2.arr := by
  unfold concatWith
  have h1 := newRoster_below h ro pad
  have h2 := concatLoop_below pad h.length sis (newRoster h ro pad).1 (newRoster h ro pad).2 h1.1.1 (by rw [h1.2]; exact Nat.le_refl _)
  have h3 := newRoster_below (concatLoop pad (newRoster h ro pad) sis).1 (concatLoop pad (newRoster h ro pad) sis).2 pad
  have hlen : h.length ≤ (concatLoop pad (newRoster h ro pad) sis).1.length := Nat.le_trans h1.1.1 h2.1.1
  refine ⟨(h1.1.trans h2.1).trans (h3.1.mono hlen), ?_⟩
  show h.length ≤ (newRoster (concatLoop pad (newRoster h ro pad) sis).1 (concatLoop pad (newRoster h ro pad) sis).2 pad).2.arr
  rw [h3.2]; exact hlen

theorem use_below {α : Type} [DecidableEq α] (pad : α) (st : St α) (u : Use α) :
    Below st.heap.length st.heap (useWith newRoster pad st u).heap := by
  cases u with
  | part r lo hi =>
    simp only [useWith]
    split
    · exact Below.refl _ _
    · split
      · exact (newRoster_below _ _ pad).1
      · exact Below.refl _ _
  | concat r sis =>
    simp only [useWith]
    split
    · exact Below.refl _ _
    · exact (concat_below _ _ sis pad).1

theorem run_below {α : Type} [DecidableEq α] (pad : α) (us : List (Use α)) :
    ∀ st : St α, Below st.heap.length st.heap (runWith newRoster pad st us).heap := by
  induction us with
  | nil => intro st; exact Below.refl _ _
  | cons u us ih =>
    intro st
    have h1 := use_below pad st u
    have h2 := ih (useWith newRoster pad st u)
    exact h1.trans (h2.mono h1.1)

end Sl
end C18

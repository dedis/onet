import OnetVerif.Model.C10
import OnetVerif.Proofs.Sched
/-! The router's `step` read once, as a relation: every successful action is a new connection, one `Move` of one
connection, the dispatch, or a step of a `Stop` call (`Step.of_step`, and `Step.to_step` for the converse). -/
namespace C10

theorem run_skips (f : Bool) : Sched.Skips (step f) (run f) :=
  ⟨fun _ => rfl, fun s a as => by rw [run]; cases step f s a <;> rfl⟩

/-- what action `a` does to connection `i`: of the rest of the router it reads the closed flag only (the dispatch also writes
the log: it is a case of `Step`) -/
inductive Move (fixed flag : Bool) (i : Nat) (c : Conn) : Act → Conn → Prop
  | identity (ok : Bool) : c.setup = .greeting →
      Move fixed flag i c (.identity i ok)
        (if ok then { c with setup := .pending } else { c with setup := .err, isOpen := false })
  | register : c.setup = .pending →
      Move fixed flag i c (.register i)
        (if flag then { c with setup := .err, isOpen := c.isOpen && !fixed }
         else { c with setup := .registered, inTable := true })
  | launch : c.setup = .registered →
      Move fixed flag i c (.launch i)
        (if flag then { c with setup := .err } else { c with setup := .ok, h := .recv })
  | peerSend (m : Nat) : c.isOpen = true → Move fixed flag i c (.peerSend i m) { c with inbox := c.inbox ++ [m] }
  | peerClose : c.isOpen = true → Move fixed flag i c (.peerClose i) { c with isOpen := false }
  | recvErr : c.h = .recv → c.isOpen = false → Move fixed flag i c (.recv i) { c with h := .got none }
  | recvMsg (m : Nat) (rest : List Nat) : c.h = .recv → c.isOpen = true → c.inbox = m :: rest →
      Move fixed flag i c (.recv i) { c with h := .got (some m), inbox := rest }
  | check (x : Option Nat) : c.h = .got x →
      Move fixed flag i c (.check i)
        (if flag then { c with h := .closing }
         else match x with
           | none => { c with h := .closing }
           | some m => { c with h := .disp m })
  | hclose : c.h = .closing → Move fixed flag i c (.hclose i) { c with h := .removing, isOpen := false }
  | hremove : c.h = .removing → Move fixed flag i c (.hremove i) { c with h := .gone, inTable := false }

inductive Step (f : Bool) (s : St) : Act → St → Prop
  | dial : Step f s .dial { s with conns := s.conns ++ [{ role := .dial, setup := .pending }] }
  | incoming : s.listening = true → Step f s .incoming { s with conns := s.conns ++ [{ role := .accept, setup := .greeting }] }
  | move {i : Nat} {c c' : Conn} {a : Act} : s.conns[i]? = some c → Move f s.flag i c a c' →
      Step f s a (s.setConn i c')
  | dispatch {i : Nat} {c : Conn} {m : Nat} : s.conns[i]? = some c → c.h = .disp m →
      Step f s (.dispatch i) { (s.setConn i { c with h := .recv }) with log := s.log ++ [(i, m)] }
  | stopBegin : Step f s .stopBegin { s with listening := false, stops := s.stops ++ [.crit] }
  | stopCrit {j : Nat} : s.stops[j]? = some .crit →
      Step f s (.stopCrit j)
        { s with flag := true,
                 conns := s.conns.map (fun c => if c.inTable then { c with isOpen := false } else c),
                 stops := s.stops.set j .wait }
  | stopWait {j : Nat} : s.stops[j]? = some .wait → anyLive s.conns = false →
      Step f s (.stopWait j) { s with stops := s.stops.set j .returned, stopped := true }

theorem Step.of_step {f : Bool} {s s' : St} {a : Act} (hs : step f s a = some s') : Step f s a s' := by
  revert hs
  -- one goal per branch of `step` that returns a state, in the order of `Act`'s constructors
  fun_cases step f s a <;> rintro ⟨⟩
  · exact .dial
  · exact .incoming ‹_›
  · exact .move ‹_› (.identity _ ‹_›)
  · exact .move ‹_› (.register ‹_›)
  · exact .move ‹_› (.launch ‹_›)
  · exact .move ‹_› (.peerSend _ ‹_›)
  · exact .move ‹_› (.peerClose ‹_›)
  · -- `recv`, connection closed
    exact .move ‹_› (.recvErr ‹_› ((Bool.not_eq_true' _).mp ‹_›))
  · -- `recv`, a message waits
    next ho _ _ _ => exact .move ‹_› (.recvMsg _ _ ‹_› (by simpa using ho) ‹_›)
  · exact .move ‹_› (.check _ ‹_›)
  · exact .dispatch ‹_› ‹_›
  · exact .move ‹_› (.hclose ‹_›)
  · exact .move ‹_› (.hremove ‹_›)
  · exact .stopBegin
  · exact .stopCrit ‹_›
  · -- `stopWait`
    next hc =>
    simp only [Bool.and_eq_true, Bool.not_eq_true', decide_eq_true_eq] at hc
    exact .stopWait hc.1 hc.2

theorem Step.to_step {f : Bool} {s s' : St} {a : Act} (h : Step f s a s') : step f s a = some s' := by
  cases h with
  | dial => rfl
  | incoming hg => simp only [step, hg, if_true]
  | move hc hm =>
    cases hm with
    | identity ok hg | register hg | launch hg | peerSend m hg | peerClose hg | hclose hg | hremove hg =>
      simp only [step, hc, hg, if_true]
    | recvErr hg ho => simp only [step, hc, hg, ho, if_true, Bool.not_false]
    | recvMsg m rest hg ho hi => simp only [step, hc, hg, ho, hi, if_true, Bool.not_true, Bool.false_eq_true, if_false]
    | check x hg => simp only [step, hc, hg]; rfl
  | dispatch hc hh => simp only [step, hc, hh]
  | stopBegin => rfl
  | stopCrit hj => simp only [step, hj, if_true]
  | stopWait hj hl => simp only [step, hj, hl, Bool.not_false, Bool.and_true, decide_true, if_true]

end C10

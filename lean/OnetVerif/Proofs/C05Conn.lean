import OnetVerif.Model.C05Conn
import OnetVerif.Proofs.C05Inst
/-! The connection model of C05 (`Model/C05Conn.lean`): the invariant that ties what was written on a connection to
what was handed over and accepted, and the simulation between a schedule and the same schedule with the readers of
some instances frozen. -/
namespace C05
namespace Conn

/-- the envelopes of connection `c` in a (connection, envelope) log -/
def onConn (c : Nat) (l : List (Nat × Env)) : List Env := (l.filter (fun p => p.1 == c)).map (·.2)

/-- the protocol messages among some envelopes, as (instance, message) -/
def protos : List Env → List (Nat × Nat)
  | [] => []
  | .proto i m :: l => (i, m) :: protos l
  | .svc _ _ :: l => protos l

/-- the protocol message a connection's goroutine holds between `Receive` and the hand-over -/
def inHand : LPc → List (Nat × Nat)
  | .disp (.proto i m) => [(i, m)]
  | .ctor i m => [(i, m)]
  | _ => []

/-- the hand-overs of messages that came over connection `c`, as (instance, message) -/
def handsOn (c : Nat) (l : List Hand) : List (Nat × Nat) := (l.filter (fun h => h.c == c)).map fun h => (h.i, h.m)

/-- the messages instance `i` took, in the order of the server's hand-overs -/
def takenBy (i : Nat) (l : List Hand) : List Nat := (l.filter (fun h => h.i == i && h.ok)).map (·.m)

theorem protos_append (a b : List Env) : protos (a ++ b) = protos a ++ protos b := by
  induction a with
  | nil => rfl
  | cons e a ih => cases e <;> simp only [List.cons_append, protos, ih]

theorem onConn_snoc_self (c : Nat) (e : Env) (l : List (Nat × Env)) : onConn c (l ++ [(c, e)]) = onConn c l ++ [e] := by
  simp [onConn]

theorem onConn_snoc_ne {c c' : Nat} (h : c' ≠ c) (e : Env) (l : List (Nat × Env)) :
    onConn c (l ++ [(c', e)]) = onConn c l := by
  simp [onConn, h]

theorem handsOn_snoc_self (x : Hand) (l : List Hand) : handsOn x.c (l ++ [x]) = handsOn x.c l ++ [(x.i, x.m)] := by
  simp [handsOn]

theorem handsOn_snoc_ne {c : Nat} {x : Hand} (h : x.c ≠ c) (l : List Hand) : handsOn c (l ++ [x]) = handsOn c l := by
  simp [handsOn, h]

theorem takenBy_snoc_self (x : Hand) (l : List Hand) :
    takenBy x.i (l ++ [x]) = takenBy x.i l ++ (if x.ok then [x.m] else []) := by
  cases h : x.ok <;> simp [takenBy, h]

theorem takenBy_snoc_ne {i : Nat} {x : Hand} (h : x.i ≠ i) (l : List Hand) : takenBy i (l ++ [x]) = takenBy i l := by
  simp [takenBy, h]

theorem forall_upd {α : Type} {P : Nat → α → Prop} {f : Nat → α} {k : Nat} {v : α}
    (hv : P k v) (hf : ∀ j, j ≠ k → P j (f j)) (j : Nat) : P j (upd f k v j) := by
  unfold upd
  split
  · rw [‹j = k›]; exact hv
  · exact hf j ‹_›

structure Inv (s : St) : Prop where
  /-- a connection is a FIFO: what was written = what `Receive` returned ++ what is still on the wire -/
  fifo : ∀ c, onConn c s.sent = onConn c s.got ++ s.wire c
  /-- every protocol message `Receive` returned was handed over, in that order, or is in the goroutine's hand -/
  hand : ∀ c, protos (onConn c s.got) = handsOn c s.hand ++ inHand (s.loop c)
  /-- an instance's acceptance order is the order of the server's hand-overs to it -/
  acc : ∀ i, (s.inst i).accepted = takenBy i s.hand
  inst : ∀ i, C05.Inv (s.inst i)
  /-- `C05.Stop` of every instance -/
  stop : ∀ i, (s.inst i).pc = .stopped → (s.inst i).closing = true

theorem inv_init : Inv {} :=
  ⟨fun _ => rfl, fun _ => rfl, fun _ => rfl, fun _ => C05.inv_init, fun _ h => nomatch h⟩

theorem Inv.sent_eq {s : St} (hI : Inv s) (c : Nat) :
    protos (onConn c s.sent) = handsOn c s.hand ++ (inHand (s.loop c) ++ protos (s.wire c)) := by
  rw [hI.fifo c, protos_append, hI.hand c, List.append_assoc]

theorem Inv.loop_step {s : St} (hI : Inv s) (c : Nat) {lp : LPc} (h : inHand lp = inHand (s.loop c)) (c' : Nat) :
    protos (onConn c' s.got) = handsOn c' s.hand ++ inHand (upd s.loop c lp c') :=
  forall_upd (P := fun c' l => protos (onConn c' s.got) = handsOn c' s.hand ++ inHand l)
    (h ▸ hI.hand c) (fun c' _ => hI.hand c') c'

theorem Inv.inst_step {s : St} (hI : Inv s) {i : Nat} {a : C05.Act} {t : C05.St}
    (hst : C05.step (s.inst i) a = some t) :
    (∀ j, C05.Inv (upd s.inst i t j)) ∧ ∀ j, C05.Stop (upd s.inst i t j) :=
  ⟨forall_upd (C05.inv_step _ _ _ (hI.inst i) hst) fun j _ => hI.inst j,
   forall_upd (C05.stop_step _ _ _ (hI.stop i) hst) fun j _ => hI.stop j⟩

theorem inv_handOver (s : St) (c i m : Nat) (lp : LPc) (hI : Inv s) (hl : inHand (s.loop c) = [(i, m)])
    (hlp : inHand lp = []) (mx : Bool) (lv : List Nat) :
    Inv { handOver s c i m with mux := mx, live := lv, loop := upd s.loop c lp } := by
  have hst := C05.step_accept_getD (s.inst i) m
  refine ⟨hI.fifo, ?_, ?_, (hI.inst_step hst).1, (hI.inst_step hst).2⟩
  · refine forall_upd (P := fun c' (l : LPc) => protos (onConn c' s.got) =
        handsOn c' (s.hand ++ [⟨c, i, m, !(s.inst i).closing⟩]) ++ inHand l) ?_ fun c' h => ?_
    · rw [handsOn_snoc_self ⟨c, i, m, _⟩, hlp, List.append_nil, hI.hand, hl]
    · rw [handsOn_snoc_ne (x := ⟨c, i, m, _⟩) (Ne.symm h), hI.hand]
  · refine forall_upd (P := fun j (t : C05.St) => t.accepted =
        takenBy j (s.hand ++ [⟨c, i, m, !(s.inst i).closing⟩])) ?_ fun j h => ?_
    · rw [takenBy_snoc_self ⟨c, i, m, _⟩, ← hI.acc, C05.step_accept]
      cases (s.inst i).closing
      · rfl
      · exact (List.append_nil _).symm
    · rw [takenBy_snoc_ne (x := ⟨c, i, m, _⟩) (Ne.symm h), hI.acc]

/-- a step of one instance that leaves its acceptance log alone -/
theorem inv_inst_step (s : St) (i : Nat) (a : C05.Act) (t : C05.St) (hI : Inv s)
    (hst : C05.step (s.inst i) a = some t) (hacc : t.accepted = (s.inst i).accepted) :
    Inv { s with inst := upd s.inst i t } :=
  { hI with
    acc := forall_upd (P := fun j (t : C05.St) => t.accepted = takenBy j s.hand) (hacc.trans (hI.acc i)) fun j _ => hI.acc j
    inst := (hI.inst_step hst).1
    stop := (hI.inst_step hst).2 }

theorem inv_step (s s' : St) (a : Act) (hI : Inv s) (hs : step s a = some s') : Inv s' := by
  cases a with
  | send c e =>
    cases hs
    refine { hI with fifo := forall_upd (P := fun c' (w : List Env) =>
      onConn c' (s.sent ++ [(c, e)]) = onConn c' s.got ++ w) ?_ fun c' h => ?_ }
    · rw [onConn_snoc_self, hI.fifo, List.append_assoc]
    · rw [onConn_snoc_ne (Ne.symm h), hI.fifo]
  | loop c =>
    simp only [step] at hs
    cases hl : s.loop c with
    | recv =>
      cases hw : s.wire c with
      | nil => simp only [hl, hw] at hs; cases hs
      | cons e rest =>
        simp only [hl, hw] at hs; cases hs
        refine { hI with fifo := ?_, hand := ?_ }
        · refine forall_upd (P := fun c' (w : List Env) => onConn c' s.sent = onConn c' (s.got ++ [(c, e)]) ++ w) ?_ fun c' h => ?_
          · rw [onConn_snoc_self, hI.fifo, hw, List.append_assoc]; rfl
          · rw [onConn_snoc_ne (Ne.symm h), hI.fifo]
        · refine forall_upd (P := fun c' (l : LPc) => protos (onConn c' (s.got ++ [(c, e)])) = handsOn c' s.hand ++ inHand l) ?_ fun c' h => ?_
          · rw [onConn_snoc_self, protos_append, hI.hand, hl, List.append_assoc]
            cases e <;> rfl
          · rw [onConn_snoc_ne (Ne.symm h), hI.hand]
    | disp e =>
      cases e with
      | svc p m =>
        -- a service message gets its own goroutine
        simp only [hl] at hs; cases hs
        exact { hI with hand := hI.loop_step c (by rw [hl]; rfl) }
      | proto i m =>
        simp only [hl] at hs
        by_cases hm : s.mux = true
        · rw [if_pos hm] at hs; cases hs
        · rw [if_neg hm] at hs
          by_cases hlive : i ∈ s.live
          · -- `i` is live: the hand-over
            rw [if_pos hlive] at hs; cases hs
            exact inv_handOver s c i m .recv hI (by rw [hl]; rfl) rfl _ _
          · -- not live: the constructor starts, the message stays in hand
            rw [if_neg hlive] at hs; cases hs
            exact { hI with hand := hI.loop_step c (by rw [hl]; rfl) }
    | ctor i m => simp only [hl] at hs; cases hs
  | ctorRet c =>
    simp only [step] at hs
    split at hs <;> cases hs
    rename_i i m hl
    exact inv_handOver s c i m .recv hI (by rw [hl]; rfl) rfl false (s.live ++ [i])
  | reader i =>
    obtain ⟨t, ht, rfl⟩ := Option.map_eq_some_iff.mp hs
    exact inv_inst_step s i .reader t hI ht (by cases C05.step_move ht <;> rfl)
  | close i =>
    cases hs
    exact inv_inst_step s i .close _ hI rfl rfl
  | svcRet k =>
    simp only [step] at hs
    split at hs <;> cases hs
    exact { hI with }

theorem run_skips : Sched.Skips step run := ⟨fun _ => rfl, fun s a as => by rw [run]; cases step s a <;> rfl⟩

theorem reachable (as : List Act) : Inv (run {} as) := run_skips.inv inv_step as {} inv_init

/-- two server states that are the same except for what the instances of the set `B` are doing (their
closing flags included in "the same": only `close` changes them) -/
structure SameBut (B : Nat → Bool) (s s' : St) : Prop where
  wire : s.wire = s'.wire
  loop : s.loop = s'.loop
  mux : s.mux = s'.mux
  live : s.live = s'.live
  running : s.running = s'.running
  sent : s.sent = s'.sent
  got : s.got = s'.got
  hand : s.hand = s'.hand
  inst : ∀ j, B j = false → s.inst j = s'.inst j
  closing : ∀ j, (s.inst j).closing = (s'.inst j).closing

/-- what `SameBut B` asks of the two states of one instance (`b`: the instance is in `B`) -/
def Agree (b : Bool) (t t' : C05.St) : Prop := (b = false → t = t') ∧ t.closing = t'.closing

theorem SameBut.agree {B : Nat → Bool} {s s' : St} (h : SameBut B s s') (j : Nat) : Agree (B j) (s.inst j) (s'.inst j) :=
  ⟨h.inst j, h.closing j⟩

theorem Agree.accept {b : Bool} {t t' : C05.St} (h : Agree b t t') (m : Nat) :
    Agree b ((C05.step t (.accept m)).getD t) ((C05.step t' (.accept m)).getD t') :=
  ⟨fun hb => by rw [h.1 hb],
   ((C05.step_closing (C05.step_accept_getD t m) fun e => nomatch e).trans h.2).trans
     (C05.step_closing (C05.step_accept_getD t' m) fun e => nomatch e).symm⟩

theorem forall_upd₂ {α : Type} {R : Nat → α → α → Prop} {f g : Nat → α} {k : Nat} {v v' : α}
    (hv : R k v v') (hf : ∀ j, R j (f j) (g j)) (j : Nat) : R j (upd f k v j) (upd g k v' j) := by
  unfold upd
  split
  · rw [‹j = k›]; exact hv
  · exact hf j

theorem sameBut_mk {B : Nat → Bool} {w l mx lv rn sn gt hd} {ins ins' : Nat → C05.St}
    (h : ∀ j, Agree (B j) (ins j) (ins' j)) :
    SameBut B ⟨w, l, mx, lv, ins, rn, sn, gt, hd⟩ ⟨w, l, mx, lv, ins', rn, sn, gt, hd⟩ :=
  ⟨rfl, rfl, rfl, rfl, rfl, rfl, rfl, rfl, fun j => (h j).1, fun j => (h j).2⟩

theorem sameBut_handOver (B : Nat → Bool) (s s' : St) (c i m : Nat) (h : SameBut B s s') (lp : LPc) (mx : Bool) (lv : List Nat) :
    SameBut B { handOver s c i m with mux := mx, live := lv, loop := upd s.loop c lp }
              { handOver s' c i m with mux := mx, live := lv, loop := upd s'.loop c lp } := by
  have hag := forall_upd₂ (R := fun j => Agree (B j)) ((h.agree i).accept m) h.agree
  refine ⟨h.wire, ?_, rfl, rfl, h.running, h.sent, h.got, ?_, fun j => (hag j).1, fun j => (hag j).2⟩
  · show upd s.loop c lp = upd s'.loop c lp
    rw [h.loop]
  · show s.hand ++ [⟨c, i, m, !(s.inst i).closing⟩] = s'.hand ++ [⟨c, i, m, !(s'.inst i).closing⟩]
    rw [h.hand, h.closing i]

theorem sameBut_step (B : Nat → Bool) (s s' : St) (a : Act) (h : SameBut B s s') (ha : ∀ i, a = .reader i → B i = false) :
    SameBut B ((step s a).getD s) ((step s' a).getD s') := by
  have hag := h.agree
  obtain ⟨w, l, mx, lv, ins, rn, sn, gt, hd⟩ := s
  obtain ⟨w', l', mx', lv', ins', rn', sn', gt', hd'⟩ := s'
  obtain ⟨h1, h2, h3, h4, h5, h6, h7, h8, -, -⟩ := h
  simp only at h1 h2 h3 h4 h5 h6 h7 h8 hag
  subst h1 h2 h3 h4 h5 h6 h7 h8
  -- `same`: what a disabled action leaves and what `sameBut_handOver` takes; the other steps change components outside
  -- `inst`, hence `sameBut_mk hag` afresh
  have same : SameBut B ⟨w, l, mx, lv, ins, rn, sn, gt, hd⟩ ⟨w, l, mx, lv, ins', rn, sn, gt, hd⟩ := sameBut_mk hag
  cases a with
  | send c e => exact sameBut_mk hag
  | loop c =>
    simp only [step]
    cases hl : l c with
    | recv =>
      cases hw : w c with
      | nil => exact same
      | cons e rest => exact sameBut_mk hag
    | disp e =>
      cases e with
      | svc p m => exact sameBut_mk hag
      | proto i m =>
        cases mx with
        | true => exact same
        | false =>
          by_cases hlive : i ∈ lv
          · simp only [hlive, if_true, Bool.false_eq_true, if_false]
            exact sameBut_handOver B _ _ c i m same .recv false lv
          · simp only [hlive, if_false, Bool.false_eq_true]
            exact sameBut_mk hag
    | ctor i m => exact same
  | ctorRet c =>
    simp only [step]
    cases hl : l c with
    | recv => exact same
    | disp e => exact same
    | ctor i m => exact sameBut_handOver B _ _ c i m same .recv false (lv ++ [i])
  | reader i =>
    simp only [step]
    rw [← (hag i).1 (ha i rfl)]
    cases C05.step (ins i) .reader with
    | none => exact same
    | some t => exact sameBut_mk (forall_upd₂ (R := fun j => Agree (B j)) ⟨fun _ => rfl, rfl⟩ hag)
  | close i =>
    exact sameBut_mk (forall_upd₂ (R := fun j => Agree (B j))
      ⟨fun hb => congrArg (fun u : C05.St => { u with closing := true, token := true }) ((hag i).1 hb), rfl⟩ hag)
  | svcRet k =>
    simp only [step]
    by_cases hk : k < rn.length
    · rw [if_pos hk, if_pos hk]
      exact sameBut_mk hag
    · rw [if_neg hk, if_neg hk]
      exact same

theorem sameBut_reader (B : Nat → Bool) (b : Nat) (hb : B b = true) (s s' : St) (h : SameBut B s s') :
    SameBut B ((step s (.reader b)).getD s) s' := by
  cases hs : step s (.reader b) with
  | none => exact h
  | some t =>
    obtain ⟨u, hu, rfl⟩ := Option.map_eq_some_iff.mp hs
    exact ⟨h.wire, h.loop, h.mux, h.live, h.running, h.sent, h.got, h.hand,
      forall_upd (P := fun j (t : C05.St) => B j = false → t = s'.inst j) (fun hb' => nomatch hb.symm.trans hb')
        fun j _ => h.inst j,
      forall_upd (P := fun j (t : C05.St) => t.closing = (s'.inst j).closing)
        ((C05.step_closing hu fun e => nomatch e).trans (h.closing b)) fun j _ => h.closing j⟩

/-- the schedule without the reader steps of the instances in `B`: whatever handlers they are in never
return, and nothing more of their backlogs is handled -/
def freeze (B : Nat → Bool) : List Act → List Act
  | [] => []
  | .reader i :: as => if B i then freeze B as else .reader i :: freeze B as
  | a :: as => a :: freeze B as

theorem sameBut_run (B : Nat → Bool) (as : List Act) (s s' : St) (h : SameBut B s s') :
    SameBut B (run s as) (run s' (freeze B as)) := by
  induction as generalizing s s' with
  | nil => exact h
  | cons a as ih =>
    rw [run_skips.cons]
    by_cases hb : ∃ i, a = .reader i ∧ B i = true
    · obtain ⟨i, rfl, hi⟩ := hb
      rw [freeze, if_pos hi]
      exact ih _ s' (sameBut_reader B i hi s s' h)
    · have hnb : ∀ i, a = .reader i → B i = false := fun i e =>
        Bool.eq_false_iff.mpr fun hB => hb ⟨i, e, hB⟩
      have hfr : freeze B (a :: as) = a :: freeze B as := by
        cases a with
        | reader i => rw [freeze, if_neg (Bool.eq_false_iff.mp (hnb i rfl))]
        | _ => rfl
      rw [hfr, run_skips.cons]
      exact ih _ _ (sameBut_step B s s' a h hnb)

theorem sameBut_refl (B : Nat → Bool) (s : St) : SameBut B s s :=
  sameBut_mk fun _ => ⟨fun _ => rfl, rfl⟩

end Conn
end C05

import OnetVerif.Model.C18
import OnetVerif.Proofs.Lists
import OnetVerif.Proofs.Hex
/-! C18, the structure level (`Model/C18.lean`): the codec, `parseServices`, the registry and the readers, then the
write/read theorems, which are stated over `GroupId` (an identity as a group file yields it) and `written` (what
`Group.Toml` and `GroupToml.String` write for it).  Core only. -/
namespace C18

theorem hexEncode_eq : hexEncode = Hex.enc := by
  funext l
  induction l with
  | nil => rfl
  | cons b r ih => rw [hexEncode, ih]; rfl

theorem hexDecode_eq : ∀ l, hexDecode l = Hex.dec l
  | [] => rfl
  | [_] => rfl
  | a :: b :: r => by rw [hexDecode, hexDecode_eq r]; rfl

theorem hexVal_hexDigit {n : Nat} (h : n < 16) : hexVal (hexDigit n) = some n := Hex.val_digit n h

theorem hexDecode_hexEncode {b : Bytes} (h : ∀ x ∈ b, x < 256) : hexDecode (hexEncode b) = some b := by
  rw [hexDecode_eq, hexEncode_eq]; exact Hex.dec_enc h

theorem hexEncode_length (b : Bytes) : (hexEncode b).length = 2 * b.length := by
  rw [hexEncode_eq, Hex.enc_length]

theorem hexVal_lt {c n : Nat} (h : hexVal c = some n) : n < 16 := by
  have sub_lt : ∀ {a b : Nat}, c ≤ a → a - b < 16 → c - b < 16 := fun h1 h2 =>
    Nat.lt_of_le_of_lt (Nat.sub_le_sub_right h1 _) h2
  unfold hexVal at h
  by_cases h1 : 48 ≤ c ∧ c ≤ 57
  · rw [if_pos h1] at h; cases h; exact sub_lt h1.2 (by decide)
  by_cases h2 : 97 ≤ c ∧ c ≤ 102
  · rw [if_neg h1, if_pos h2] at h; cases h; exact sub_lt h2.2 (by decide)
  by_cases h3 : 65 ≤ c ∧ c ≤ 70
  · rw [if_neg h1, if_neg h2, if_pos h3] at h; cases h; exact sub_lt h3.2 (by decide)
  rw [if_neg h1, if_neg h2, if_neg h3] at h; cases h

theorem hexDecode_some : ∀ (s : Str) (b : Bytes), hexDecode s = some b →
    s.length = 2 * b.length ∧ ∀ x ∈ b, x < 256
  | [], b, h => by cases h; exact ⟨rfl, nofun⟩
  | [_], b, h => by cases h
  | a :: c :: r, b, h => by
    rw [hexDecode] at h
    cases ha : hexVal a with
    | none => rw [ha] at h; cases h
    | some x =>
      cases hc : hexVal c with
      | none => rw [ha, hc] at h; cases h
      | some y =>
        cases hr : hexDecode r with
        | none => rw [ha, hc, hr] at h; cases h
        | some t =>
          rw [ha, hc, hr] at h
          cases h
          have ih := hexDecode_some r t hr
          have hx := hexVal_lt ha
          have hy := hexVal_lt hc
          refine ⟨by rw [List.length_cons, List.length_cons, List.length_cons, ih.1, Nat.mul_succ], fun z hz => ?_⟩
          rcases List.mem_cons.mp hz with rfl | hz
          · omega
          · exact ih.2 z hz
/-- what `getHex` returns has exactly the requested length and consists of bytes -/
theorem getHex_some {s : Str} {l : Nat} {b : Bytes} (h : getHex s l = some b) :
    b.length = l ∧ ∀ x ∈ b, x < 256 := by
  unfold getHex at h
  by_cases h1 : s = []
  · rw [if_pos h1] at h; cases h
  by_cases h2 : s.length < 2 * l
  · rw [if_neg h1, if_pos h2] at h; cases h
  rw [if_neg h1, if_neg h2] at h
  have := hexDecode_some _ _ h
  rw [List.length_take, Nat.min_eq_left (Nat.le_of_not_lt h2)] at this
  exact ⟨(Nat.eq_of_mul_eq_mul_left (by decide) this.1).symm, this.2⟩

/-- writing `l` bytes in hex and reading `l` bytes back gives the bytes, whatever follows the text -/
theorem getHex_hexEncode {b : Bytes} (junk : Str) (hne : b ≠ []) (h : ∀ x ∈ b, x < 256) :
    getHex (hexEncode b ++ junk) b.length = some b := by
  unfold getHex
  have hlen := hexEncode_length b
  have hne' : hexEncode b ++ junk ≠ [] := by
    cases b with
    | nil => exact absurd rfl hne
    | cons x r => simp [hexEncode]
  rw [if_neg hne', if_neg (by simp [hlen])]
  rw [List.take_left' hlen]
  exact hexDecode_hexEncode h

/-- the identity an entry yields, if any -/
def okOf (reg : List (Str × Suite)) (c : SvcCfg) : Option SvcId :=
  match parseServiceIdentity reg c with
  | .ok s => some s
  | _ => none

/-- the entry makes `parseServiceIdentity` panic (suite name differs from the registered one) -/
def panics (reg : List (Str × Suite)) (c : SvcCfg) : Bool :=
  match parseServiceIdentity reg c with
  | .panic => true
  | _ => false

theorem collect_eq (reg : List (Str × Suite)) (l : List SvcCfg) :
    collectServices reg l = if l.any (panics reg) then none else some (l.filterMap (okOf reg)) := by
  induction l with
  | nil => rfl
  | cons c r ih =>
    have hpan : panics reg c = (match parseServiceIdentity reg c with | .panic => true | _ => false) := rfl
    have hok : okOf reg c = (match parseServiceIdentity reg c with | .ok s => some s | _ => none) := rfl
    rw [List.any_cons, List.filterMap_cons, hpan, hok, collectServices, ih]
    cases parseServiceIdentity reg c with
    | panic => rfl
    | err => rfl
    | ok sid => cases r.any (panics reg) <;> rfl

/-- what a successful `parseServiceIdentity` returned -/
theorem parseServiceIdentity_ok {reg : List (Str × Suite)} {c : SvcCfg} {sid : SvcId}
    (h : parseServiceIdentity reg c = .ok sid) :
    ∃ S priv pub, regSuite reg c.name = some S ∧ S.name = c.suite ∧
      (if c.priv ≠ [] then getHex c.priv S.ssize else some (zeroScalar S)) = some priv ∧
      decPoint S c.pub = some pub ∧ sid = { name := c.name, suite := S.name, pub := pub, priv := priv } := by
  unfold parseServiceIdentity at h
  cases hr : regSuite reg c.name with
  | none => simp [hr] at h
  | some S =>
    simp only [hr] at h
    by_cases hn : S.name ≠ c.suite
    · simp [hn] at h
    · simp only [hn, if_false] at h
      cases hpr : (if c.priv ≠ [] then getHex c.priv S.ssize else some (zeroScalar S)) with
      | none => simp only [hpr] at h; cases h
      | some priv =>
        simp only [hpr] at h
        cases hd : decPoint S c.pub with
        | none => simp only [hd] at h; cases h
        | some pub =>
          simp only [hd, Res.ok.injEq] at h
          exact ⟨S, priv, pub, rfl, by simpa using hn, hpr, hd, h.symm⟩

theorem parseServiceIdentity_ok_intro {reg : List (Str × Suite)} {c : SvcCfg} {S : Suite} {priv pub : Bytes}
    (h1 : regSuite reg c.name = some S) (h2 : S.name = c.suite)
    (h3 : (if c.priv ≠ [] then getHex c.priv S.ssize else some (zeroScalar S)) = some priv)
    (h4 : decPoint S c.pub = some pub) :
    parseServiceIdentity reg c = .ok { name := c.name, suite := S.name, pub := pub, priv := priv } := by
  unfold parseServiceIdentity
  simp only [h1]
  rw [if_neg (by simp [h2])]
  simp only [h3, h4]

theorem okOf_eq_some {reg : List (Str × Suite)} {c : SvcCfg} {sid : SvcId} :
    okOf reg c = some sid ↔ parseServiceIdentity reg c = .ok sid := by
  unfold okOf
  cases parseServiceIdentity reg c with
  | ok s => exact ⟨fun h => by cases h; rfl, fun h => by cases h; rfl⟩
  | err => exact ⟨nofun, nofun⟩
  | panic => exact ⟨nofun, nofun⟩

theorem okOf_name {reg : List (Str × Suite)} {c : SvcCfg} {sid : SvcId} (h : okOf reg c = some sid) :
    sid.name = c.name := by
  obtain ⟨S, priv, pub, _, _, _, _, rfl⟩ := parseServiceIdentity_ok (okOf_eq_some.mp h)
  rfl

theorem filterMap_names_nodup {reg : List (Str × Suite)} {l : List SvcCfg}
    (h : (l.map (·.name)).Nodup) : ((l.filterMap (okOf reg)).map (·.name)).Nodup :=
  List.pairwise_map.mpr <| (List.pairwise_map.mp h).filterMap (okOf reg) fun c c' hne sid hs sid' hs' => by
    rw [okOf_name hs, okOf_name hs']
    exact hne

theorem nameLe_trans (a b c : SvcId) (h1 : nameLe a b = true) (h2 : nameLe b c = true) : nameLe a c = true := by
  simp only [nameLe, decide_eq_true_eq] at *
  exact List.le_trans h1 h2

theorem nameLe_total (a b : SvcId) : (nameLe a b || nameLe b a) = true := by
  simp only [nameLe, Bool.or_eq_true, decide_eq_true_eq]
  exact List.le_total a.name b.name

theorem sortServices_perm (l : List SvcId) : (sortServices l).Perm l := List.mergeSort_perm l nameLe

theorem sortServices_sorted (l : List SvcId) :
    (sortServices l).Pairwise (fun a b => nameLe a b = true) :=
  List.pairwise_mergeSort nameLe_trans nameLe_total l

/-- **sorting removes the iteration order**: permutations with distinct names sort to the same slice -/
theorem sortServices_eq_of_perm {l₁ l₂ : List SvcId} (hp : l₁.Perm l₂) (hn : (l₁.map (·.name)).Nodup) :
    sortServices l₁ = sortServices l₂ := by
  apply List.Perm.eq_of_pairwise (le := fun a b => nameLe a b = true)
  · intro a b ha hb hab hba
    have ha' : a ∈ l₁ := (sortServices_perm l₁).subset ha
    have hb' : b ∈ l₁ := hp.symm.subset ((sortServices_perm l₂).subset hb)
    simp only [nameLe, decide_eq_true_eq] at hab hba
    exact List.eq_of_nodup_map hn ha' hb' (List.le_antisymm hab hba)
  · exact sortServices_sorted l₁
  · exact sortServices_sorted l₂
  · exact (sortServices_perm l₁).trans (hp.trans (sortServices_perm l₂).symm)

theorem parseServices_some {reg : List (Str × Suite)} {entries : List SvcCfg} {svcs : List SvcId}
    (h : parseServices reg entries = some svcs) : svcs = sortServices (entries.filterMap (okOf reg)) := by
  unfold parseServices at h
  rw [collect_eq] at h
  by_cases ha : entries.any (panics reg) = true
  · rw [if_pos ha] at h; cases h
  · rw [if_neg ha] at h; cases h; rfl

/-- the entries the readers produce: every entry of the file that yields an identity, each once -/
theorem parseServices_nodup_mem {reg : List (Str × Suite)} {entries : List SvcCfg} {svcs : List SvcId}
    (hd : (entries.map (·.name)).Nodup) (h : parseServices reg entries = some svcs) :
    (svcs.map (·.name)).Nodup ∧ ∀ sid, sid ∈ svcs ↔ ∃ c ∈ entries, parseServiceIdentity reg c = .ok sid := by
  cases parseServices_some h
  refine ⟨((sortServices_perm _).map _).nodup_iff.mpr (filterMap_names_nodup hd), fun sid => ?_⟩
  rw [(sortServices_perm _).mem_iff, List.mem_filterMap]
  simp only [okOf_eq_some]

/-- the repaired `parseServiceConfig` does not depend on the map's iteration order -/
theorem parseServices_perm {reg : List (Str × Suite)} {l₁ l₂ : List SvcCfg} (hp : l₁.Perm l₂)
    (hn : (l₁.map (·.name)).Nodup) : parseServices reg l₁ = parseServices reg l₂ := by
  unfold parseServices
  rw [collect_eq, collect_eq, hp.any_eq]
  by_cases ha : l₂.any (panics reg) = true
  · simp [ha]
  · simp only [ha, Bool.false_eq_true, if_false, Option.map_some, Option.some.injEq]
    exact sortServices_eq_of_perm (hp.filterMap _) (filterMap_names_nodup hn)

/-- two registries that give every service named in the entries the same suite read them alike -/
theorem parseServices_congr_reg {reg reg' : List (Str × Suite)} :
    ∀ (entries : List SvcCfg), (∀ c ∈ entries, regSuite reg' c.name = regSuite reg c.name) →
      parseServices reg' entries = parseServices reg entries := by
  intro entries h
  have hc : collectServices reg' entries = collectServices reg entries := by
    induction entries with
    | nil => rfl
    | cons c r ih =>
      have h1 : parseServiceIdentity reg' c = parseServiceIdentity reg c := by
        unfold parseServiceIdentity
        rw [h c (by simp)]
      simp only [collectServices, h1, ih (fun x hx => h x (by simp [hx]))]
  unfold parseServices
  rw [hc]

theorem decPoint_some {S : Suite} {k : Key} {b : Bytes} (h : decPoint S k = some b) :
    b.length = S.psize ∧ ∀ x ∈ b, x < 256 := by
  unfold decPoint at h
  cases hg : getHex k.s S.psize with
  | none => simp [hg] at h
  | some b' =>
    simp only [hg] at h
    by_cases hk : k.ok = true
    · simp only [hk, if_true, Option.some.injEq] at h
      subst h; exact getHex_some hg
    · simp [hk] at h

/-- a marshalled point written in hex is read back as that point -/
theorem decPoint_hexEncode {S : Suite} {b : Bytes} (hl : b.length = S.psize) (hpos : 0 < S.psize)
    (hb : ∀ x ∈ b, x < 256) : decPoint S { s := hexEncode b, ok := true } = some b := by
  unfold decPoint
  have hne : b ≠ [] := by intro e; rw [e] at hl; simp at hl; omega
  have := getHex_hexEncode [] hne hb
  simp only [List.append_nil, hl] at this
  simp [this]

theorem regSuite_mem {reg : List (Str × Suite)} {n : Str} {S : Suite} (h : regSuite reg n = some S) :
    ∃ e ∈ reg, e.1 = n ∧ e.2 = S := by
  obtain ⟨e, hf, rfl⟩ := Option.map_eq_some_iff.mp h
  have := List.find?_some hf
  exact ⟨e, List.mem_of_find?_eq_some hf, beq_iff_eq.mp this, rfl⟩

theorem regSuite_regAdd_other (reg : List (Str × Suite)) (n m : Str) (S : Suite) (h : m ≠ n) :
    regSuite (regAdd reg n S) m = regSuite reg m := by
  unfold regSuite regAdd
  rw [List.find?_append]
  cases hf : reg.find? (fun e => e.1 == m) with
  | some e => simp
  | none =>
    have : (n == m) = false := by simpa using fun e => h e.symm
    simp [this]

theorem regSuite_regDel_other (reg : List (Str × Suite)) (n m : Str) (h : m ≠ n) :
    regSuite (regDel reg n) m = regSuite reg m := by
  unfold regSuite regDel
  induction reg with
  | nil => rfl
  | cons e r ih =>
    by_cases he : (e.1 == n) = true
    · -- the entry cut out is not one `m` could have found
      have hne : (e.1 == m) = false := beq_eq_false_iff_ne.mpr fun e' => h (e'.symm.trans (beq_iff_eq.mp he))
      rw [List.eraseP_cons_of_pos (p := fun e : Str × Suite => e.1 == n) he, List.find?_cons, hne]
    · rw [List.eraseP_cons_of_neg (p := fun e : Str × Suite => e.1 == n) he, List.find?_cons, List.find?_cons]
      cases (e.1 == m) with
      | true => rfl
      | false => exact ih

/-- what a successful `ToServerIdentity` returned -/
theorem toServerIdentity_ok {suites : List Suite} {reg : List (Str × Suite)} {s : ServerToml} {si : ServerId}
    (h : toServerIdentity suites reg s = .ok si) :
    ∃ S svcs, findSuite suites (defaultSuite s.suite) = some S ∧ decPoint S s.pub = some si.pub ∧
      parseServices reg s.services = some svcs ∧
      si = { pub := si.pub, ptype := S.ptype, services := svcs, address := s.address,
             description := s.description, url := s.url, priv := none } := by
  unfold toServerIdentity at h
  split at h; · cases h   -- no suite of that name
  split at h; · cases h   -- the key is not a point of the suite
  split at h; · cases h   -- a `Services` entry panics
  rename_i _ S hS _ pub hpub _ svcs hsvcs
  cases h
  exact ⟨S, svcs, hS, hpub, hsvcs, rfl⟩

theorem readServers_ok_iff {suites : List Suite} {reg : List (Str × Suite)} {cfg : List ServerToml} :
    ∀ {g : List ServerId},
      readServers suites reg cfg = .ok g ↔ cfg.map (toServerIdentity suites reg) = g.map .ok := by
  induction cfg with
  | nil => intro g; cases g <;> simp [readServers]
  | cons s r ih =>
    intro g
    rw [readServers, List.map_cons]
    cases toServerIdentity suites reg s with
    | ok si =>
      cases g with
      | nil => cases readServers suites reg r <;> simp
      | cons a l =>
        rw [List.map_cons, List.cons.injEq, Res.ok.injEq, ← ih]
        cases readServers suites reg r <;> simp
    | _ => cases g <;> simp

theorem readServers_mem {suites : List Suite} {reg : List (Str × Suite)} {cfg : List ServerToml} {g : List ServerId}
    (h : readServers suites reg cfg = .ok g) (si : ServerId) (hsi : si ∈ g) :
    ∃ s ∈ cfg, toServerIdentity suites reg s = .ok si :=
  List.mem_map.mp (readServers_ok_iff.mp h ▸ List.mem_map_of_mem (f := Res.ok) hsi)

theorem readGroup_ok {suites : List Suite} {reg : List (Str × Suite)} {cfg : List ServerToml}
    {g : List ServerId} (h : readGroup suites reg cfg = .ok g) :
    readServers suites reg cfg = .ok g ∧ sameType g = true := by
  unfold readGroup at h
  cases hr : readServers suites reg cfg with
  | err => simp only [hr, reduceCtorEq] at h
  | panic => simp only [hr, reduceCtorEq] at h
  | ok g0 =>
    by_cases hst : sameType g0 = true
    · simp only [hr, hst, if_true, Res.ok.injEq] at h
      rw [← h]; exact ⟨rfl, hst⟩
    · simp only [hr, hst, if_false, reduceCtorEq] at h

theorem getServerIdentity_ok {suites : List Suite} {reg : List (Str × Suite)} {hc : PrivCfg} {si : ServerId}
    (h : getServerIdentity suites reg hc = .ok si) :
    ∃ S priv pub svcs, findSuite suites hc.suite = some S ∧ getHex hc.priv S.ssize = some priv ∧
      decPoint S hc.pub = some pub ∧ parseServices reg hc.services = some svcs ∧
      si = { pub := pub, ptype := S.ptype, services := svcs, address := hc.address, description := hc.description,
             url := si.url, priv := some priv } ∧
      if hc.wsKey ≠ [] ∧ hc.url = [] then
        ∃ p, C20.atoi ((C20.port hc.address).getD []) = some p ∧
          si.url = httpsPrefix ++ (C20.host hc.address).getD [] ++ 58 :: fmtInt (p + 1)
      else si.url = hc.url := by
  unfold getServerIdentity at h
  cases hf : findSuite suites hc.suite with
  | none => simp only [hf, reduceCtorEq] at h
  | some S =>
    cases hx : getHex hc.priv S.ssize with
    | none => simp only [hf, hx, reduceCtorEq] at h
    | some priv =>
      cases hd : decPoint S hc.pub with
      | none => simp only [hf, hx, hd, reduceCtorEq] at h
      | some pub =>
        cases hp : parseServices reg hc.services with
        | none => simp only [hf, hx, hd, hp, reduceCtorEq] at h
        | some svcs =>
          simp only [hf, hx, hd, hp] at h
          refine ⟨S, priv, pub, svcs, rfl, hx, hd, rfl, ?_⟩
          by_cases hk : hc.wsKey ≠ []
          · by_cases hu : hc.url ≠ []
            · rw [if_pos hk, if_pos hu] at h
              cases h
              exact ⟨rfl, by rw [if_neg fun c => hu c.2]⟩
            · rw [if_pos hk, if_neg hu] at h
              cases ha : C20.atoi ((C20.port hc.address).getD []) with
              | none => simp only [ha, reduceCtorEq] at h
              | some p =>
                simp only [ha, Res.ok.injEq] at h
                subst h
                exact ⟨rfl, by rw [if_pos ⟨hk, Decidable.not_not.mp hu⟩]; exact ⟨p, rfl, rfl⟩⟩
          · rw [if_neg hk] at h
            cases h
            exact ⟨rfl, by rw [if_neg fun c => hk c.1]⟩

theorem defaultSuite_idem (s : Str) : defaultSuite (defaultSuite s) = defaultSuite s := by
  unfold defaultSuite
  by_cases h : s = []
  · rw [if_pos h]; rfl
  · rw [if_neg h, if_neg h]

theorem loadCothority_idem (hc : PrivCfg) : loadCothority (loadCothority hc) = loadCothority hc := by
  unfold loadCothority
  rw [defaultSuite_idem]

theorem getServerIdentity_services {suites : List Suite} {reg reg' : List (Str × Suite)} (hc : PrivCfg) (svcs' : List SvcCfg)
    (h : parseServices reg' svcs' = parseServices reg hc.services) :
    getServerIdentity suites reg' { hc with services := svcs' } = getServerIdentity suites reg hc := by
  unfold getServerIdentity
  simp only [h]

/-- a service identity as a group file yields it: registered with suite `S`, public key of that
suite's size, zero private scalar -/
def GroupSvc (reg : List (Str × Suite)) (sid : SvcId) : Prop :=
  ∃ S, regSuite reg sid.name = some S ∧ sid.suite = S.name ∧ sid.priv = zeroScalar S ∧
    sid.pub.length = S.psize ∧ (∀ x ∈ sid.pub, x < 256) ∧ 0 < S.psize

/-- what `Group.Toml` writes for a service identity; it looks the suite name up, which for a `GroupSvc` is `sid.suite` -/
def entryOf (sid : SvcId) : SvcCfg :=
  { name := sid.name, suite := sid.suite, pub := { s := hexEncode sid.pub, ok := true }, priv := [] }

theorem groupSvc_of_parse {reg : List (Str × Suite)} (hreg : ∀ e ∈ reg, 0 < e.2.psize)
    {c : SvcCfg} {sid : SvcId} (hc : c.priv = []) (h : parseServiceIdentity reg c = .ok sid) :
    GroupSvc reg sid := by
  obtain ⟨S, priv, pub, h1, h2, h3, h4, rfl⟩ := parseServiceIdentity_ok h
  simp only [hc, ne_eq, not_true_eq_false, if_false, Option.some.injEq] at h3
  have hd := decPoint_some h4
  obtain ⟨e, he, -, rfl⟩ := regSuite_mem h1
  exact ⟨e.2, h1, rfl, h3.symm, hd.1, hd.2, hreg e he⟩

theorem parse_entryOf {reg : List (Str × Suite)} {sid : SvcId} (h : GroupSvc reg sid) :
    parseServiceIdentity reg (entryOf sid) = .ok sid := by
  obtain ⟨S, h1, h2, h3, h4, h5, h6⟩ := h
  have := parseServiceIdentity_ok_intro (c := entryOf sid) h1 h2.symm (if_neg fun h => h rfl) (decPoint_hexEncode h4 h6 h5)
  obtain ⟨name, suite, pub, priv⟩ := sid
  cases h2
  cases h3
  exact this

theorem collect_entries {reg : List (Str × Suite)} : ∀ {svcs : List SvcId}, (∀ sid ∈ svcs, GroupSvc reg sid) →
    collectServices reg (svcs.map entryOf) = some svcs
  | [], _ => rfl
  | sid :: r, h => by
    rw [List.map_cons, collectServices, parse_entryOf (h sid List.mem_cons_self),
      collect_entries fun x hx => h x (List.mem_cons_of_mem _ hx)]
    rfl

/-- the identities a group file's `Services` tables yield are sorted by name and are `GroupSvc`s -/
theorem parseServices_group {reg : List (Str × Suite)} (hreg : ∀ e ∈ reg, 0 < e.2.psize)
    {entries : List SvcCfg} {svcs : List SvcId} (hpriv : ∀ c ∈ entries, c.priv = [])
    (h : parseServices reg entries = some svcs) :
    svcs.Pairwise (fun a b => nameLe a b = true) ∧ ∀ sid ∈ svcs, GroupSvc reg sid := by
  cases parseServices_some h
  refine ⟨sortServices_sorted _, fun sid hs => ?_⟩
  obtain ⟨c, hc, hok⟩ := List.mem_filterMap.mp ((sortServices_perm _).subset hs)
  exact groupSvc_of_parse hreg (hpriv c hc) (okOf_eq_some.mp hok)

/-- `GroupToml.String` fills in an empty description -/
def fillDesc (si : ServerId) : ServerId :=
  { si with description := if si.description = [] then placeholder else si.description }

theorem fillDesc_idem (si : ServerId) : fillDesc (fillDesc si) = fillDesc si := by
  unfold fillDesc
  by_cases h : si.description = []
  · simp [h, placeholder]
  · simp [h]

theorem rosterPre_fillDesc (g : List ServerId) : rosterPre (g.map fillDesc) = rosterPre g := by
  induction g with
  | nil => rfl
  | cons s r ih => simp [rosterPre, ih, fillDesc]

theorem sameType_fillDesc (g : List ServerId) : sameType (g.map fillDesc) = sameType g := by
  cases g with
  | nil => rfl
  | cons s r => simp [sameType, fillDesc, List.all_map, Function.comp_def]

/-- a server identity as a group file whose servers use suite `S` yields it -/
structure GroupId (S : Suite) (reg : List (Str × Suite)) (si : ServerId) : Prop where
  ptype : si.ptype = S.ptype
  priv : si.priv = none
  len : si.pub.length = S.psize
  bytes : ∀ x ∈ si.pub, x < 256
  sorted : si.services.Pairwise fun a b => nameLe a b = true
  svcs : ∀ sid ∈ si.services, GroupSvc reg sid

/-- what `Group.Toml(S)` followed by `GroupToml.String` writes for a server -/
def written (S : Suite) (si : ServerId) : ServerToml :=
  { address := si.address, suite := S.name, pub := { s := hexEncode si.pub, ok := S.ptype == si.ptype },
    description := (fillDesc si).description, url := si.url, services := si.services.map entryOf }

theorem writeServer_written {S : Suite} {reg : List (Str × Suite)} {si : ServerId}
    (h : ∀ sid ∈ si.services, GroupSvc reg sid) : writeServer S reg si = some (written S si) := by
  unfold writeServer
  rw [List.mapM_eq_some_map (g := entryOf) fun sid hs => by
    obtain ⟨S', h1, h2, -⟩ := h sid hs
    rw [h1, Option.map_some, ← h2]
    rfl]
  rfl

theorem read_written {suites : List Suite} {reg : List (Str × Suite)} {S : Suite}
    (hS : findSuite suites (defaultSuite S.name) = some S) (hpos : 0 < S.psize) {si : ServerId} (hg : GroupId S reg si) :
    toServerIdentity suites reg (written S si) = .ok (fillDesc si) := by
  have hps : parseServices reg (si.services.map entryOf) = some si.services := by
    unfold parseServices
    rw [collect_entries hg.svcs, Option.map_some, sortServices, List.mergeSort_of_pairwise hg.sorted]
  unfold toServerIdentity written
  simp only [hS, hg.ptype, BEq.rfl, decPoint_hexEncode hg.len hpos hg.bytes, hps]
  obtain ⟨pub, ptype, services, address, description, url, priv⟩ := si
  cases hg.ptype
  cases hg.priv
  rfl

theorem groupIds_of_read {suites : List Suite} {reg : List (Str × Suite)} {S : Suite} (hreg : ∀ e ∈ reg, 0 < e.2.psize)
    {cfg : List ServerToml} {g : List ServerId} (hsuite : ∀ s ∈ cfg, findSuite suites (defaultSuite s.suite) = some S)
    (hpriv : ∀ s ∈ cfg, ∀ c ∈ s.services, c.priv = []) (h : readServers suites reg cfg = .ok g) :
    ∀ si ∈ g, GroupId S reg si ∧ ∃ s ∈ cfg, parseServices reg s.services = some si.services := fun si hsi => by
  obtain ⟨s, hs, ht⟩ := readServers_mem h si hsi
  obtain ⟨S', svcs, h1, h2, h3, h4⟩ := toServerIdentity_ok ht
  cases (hsuite s hs).symm.trans h1
  obtain ⟨hsorted, hgs⟩ := parseServices_group hreg (hpriv s hs) h3
  have hd := decPoint_some h2
  rw [h4]
  exact ⟨⟨rfl, rfl, hd.1, hd.2, hsorted, hgs⟩, s, hs, h3⟩

theorem write_read_servers {suites : List Suite} {reg : List (Str × Suite)} {S : Suite}
    (hS : findSuite suites (defaultSuite S.name) = some S) (hpos : 0 < S.psize) {g : List ServerId}
    (hg : ∀ si ∈ g, GroupId S reg si) (hst : sameType g = true) :
    writeGroup S reg g = some (g.map (written S)) ∧
    readGroup suites reg (g.map (written S)) = .ok (g.map fillDesc) := by
  refine ⟨List.mapM_eq_some_map fun si hsi => writeServer_written (hg si hsi).svcs, ?_⟩
  have hrd : readServers suites reg (g.map (written S)) = .ok (g.map fillDesc) := by
    rw [readServers_ok_iff, List.map_map, List.map_map]
    exact List.map_congr_left fun si hsi => read_written hS hpos (hg si hsi)
  unfold readGroup
  rw [hrd]
  simp only [sameType_fillDesc, hst, if_true]

end C18

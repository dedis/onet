import OnetVerif.Proofs.C14Model
/-! Property C14, the server side — the vocabulary of the statements (the answer owed to a request, what the answers
recorded for a connection must be) and the invariant of the concurrent server: under the per-request allocation a move
of any connection's goroutine keeps every recorded answer the one owed to the request at its position. -/
namespace C14

variable {σ M R O B : Type}

/-! ### vocabulary of the statements -/

/-- the answer owed to one websocket message on a connection opened on `path`, when the service
is in state `s` -/
def wsRespond (svc : WsSvc σ M R) (s : σ) (path : String) (b : Bytes) : WsOut :=
  (processClientRequest svc s path b).2

/-- the answer owed to one REST request: computed from a fresh object and that request alone -/
def restRespond (h : RestH σ O B R) (s : σ) (q : RestReq B) : RestOut R :=
  (restHandle h .perRequest h.zero s q).2.2

/-- the handlers' replies do not depend on the service's own state (true of the echo/transform
service of the correspondence run); the general theorems do not need it -/
def WsSvc.Pure (svc : WsSvc σ M R) : Prop := ∀ s s' p m, (svc.call s p m).2 = (svc.call s' p m).2

def RestH.Pure (h : RestH σ O B R) : Prop := ∀ s s' o, (h.call s o).2 = (h.call s' o).2

/-- what a connection shows for a list of owed answers: everything up to and including the first
close -/
def upToClose : List WsOut → List WsOut
  | [] => []
  | o :: l => if o.isReply then o :: upToClose l else [o]

/-- element-wise relation between two lists of the same length -/
def Paired {α β : Type} (P : α → β → Prop) : List α → List β → Prop
  | [], [] => True
  | a :: as, b :: bs => P a b ∧ Paired P as bs
  | _, _ => False

theorem paired_snoc {α β : Type} {P : α → β → Prop} {l₁ : List α} {l₂ : List β} {a : α} {b : β}
    (h : Paired P l₁ l₂) (hab : P a b) : Paired P (l₁ ++ [a]) (l₂ ++ [b]) := by
  fun_induction Paired P l₁ l₂ with
  | case1 => exact ⟨hab, trivial⟩
  | case2 x xs y ys ih => exact ⟨h.1, ih h.2⟩
  | case3 => exact h.elim

theorem paired_map {α β : Type} {P : α → β → Prop} {f : α → β} {l₁ : List α} {l₂ : List β}
    (h : Paired P l₁ l₂) (hf : ∀ a b, P a b → b = f a) : l₂ = l₁.map f := by
  fun_induction Paired P l₁ l₂ with
  | case1 => rfl
  | case2 x xs y ys ih => rw [List.map_cons, ← hf x y h.1, ← ih h.2]
  | case3 => exact h.elim

theorem wsRespond_pure (svc : WsSvc σ M R) (hp : svc.Pure) (s s' : σ) (path : String) (b : Bytes) :
    wsRespond svc s path b = wsRespond svc s' path b := by
  unfold wsRespond processClientRequest
  split
  · rfl
  · split
    · rfl
    · rename_i m _
      simp only [hp s s' path m]
      split <;> try rfl
      split <;> rfl

theorem rest_perRequest_out (h : RestH σ O B R) (slot : O) (s : σ) (q : RestReq B) :
    (restHandle h .perRequest slot s q).2.2 = restRespond h s q := by
  rw [restHandle_perRequest]; rfl

theorem restRespond_pure (h : RestH σ O B R) (hp : h.Pure) (s s' : σ) (q : RestReq B) :
    restRespond h s q = restRespond h s' q := by
  unfold restRespond restHandle
  split
  · rfl
  · simp only []
    split
    · rfl
    · simp only [restCall, hp s s']
      split <;> rfl

/-- what the answers recorded for a websocket connection must be: answer `i` is owed to message `i` -/
def WsThread.Ok (svc : WsSvc σ M R) (t : WsThread) : Prop :=
  Paired (fun b o => ∃ s, o = wsRespond svc s t.path b) t.done t.outs

/-- the same for an HTTP connection; and a request that is decoded but not yet called is held in
an object computed from a fresh one and that request alone -/
def HttpThread.Ok (cfg : Cfg σ M R O B) (t : HttpThread O B R) : Prop :=
  Paired (fun kq o => ∃ s, o = restRespond (cfg.rest kq.1) s kq.2) t.done t.outs ∧
  ∀ o, t.decoded = some o → ∃ k q qs, t.todo = (k, q) :: qs ∧ q.method = (cfg.rest k).method ∧
    restDecode (cfg.rest k) (cfg.rest k).zero q = (o, none)

def Sys.Ok (cfg : Cfg σ M R O B) (y : Sys σ O B R) : Prop :=
  (∀ t ∈ y.ws, t.Ok cfg.ws) ∧ (∀ t ∈ y.http, t.Ok cfg)

theorem wsStep_ok {svc : WsSvc σ M R} {s s' : σ} {t t' : WsThread} (h : wsStep svc s t = some (s', t')) :
    t'.path = t.path ∧ t'.done ++ t'.todo = t.done ++ t.todo ∧ (t.Ok svc → t'.Ok svc) := by
  obtain ⟨b, bs, _, hb, _, rfl⟩ := wsStep_some h
  exact ⟨rfl, by simp [hb], fun ht => paired_snoc ht ⟨s, rfl⟩⟩

theorem httpStep_ok {cfg : Cfg σ M R O B} (hal : cfg.alloc = .perRequest) {s s' : σ} {sl sl' : Nat → O}
    {t t' : HttpThread O B R} (h : httpStep cfg s sl t = some (s', sl', t')) :
    sl' = sl ∧ (t.Ok cfg → t'.Ok cfg) := by
  unfold httpStep at h
  split at h
  · cases h
  · rename_i k q qs hq
    have answered : ∀ out, (∃ s, out = restRespond (cfg.rest k) s q) →
        t.Ok cfg → HttpThread.Ok cfg { t with todo := qs, decoded := none, done := t.done ++ [(k, q)], outs := t.outs ++ [out] } :=
      fun out hout ht => ⟨paired_snoc ht.1 hout, fun o ho => by cases ho⟩
    simp only [hal] at h
    split at h
    · rename_i hd
      split at h
      · rename_i hm
        cases h
        -- the new thread is written `{ t with … }`: its `decoded` is `t.decoded`
        rw [hd]
        exact ⟨rfl, answered (.err .method) ⟨s, by simp [restRespond, restHandle, hm]⟩⟩
      · rename_i hm
        split at h
        · rename_i e he
          cases h
          rw [hd]
          exact ⟨rfl, answered (.err e) ⟨s, by simp [restRespond, restHandle, hm, he]⟩⟩
        · rename_i he
          cases h
          refine ⟨rfl, fun ht => ⟨ht.1, fun o ho => ?_⟩⟩
          cases ho
          exact ⟨k, q, qs, hq, Classical.not_not.mp hm, Prod.ext rfl he⟩
    · rename_i o hd
      cases h
      refine ⟨rfl, fun ht => ?_⟩
      obtain ⟨k', q', qs', hq', hm', hdec⟩ := ht.2 o hd
      rw [hq] at hq'
      cases hq'
      exact answered _ ⟨s, by rw [restRespond, restHandle_decoded hm' hdec]⟩ ht

theorem step_ok (cfg : Cfg σ M R O B) (hal : cfg.alloc = .perRequest) (y y' : Sys σ O B R) (a : Act)
    (h : step cfg y a = some y') (hy : y.Ok cfg) : y'.Ok cfg := by
  cases a with
  | ws i =>
    obtain ⟨t, s', t', hi, hs, rfl⟩ := step_ws h
    exact ⟨List.forall_mem_set hy.1 ((wsStep_ok hs).2.2 (hy.1 t (List.mem_of_getElem? hi))), hy.2⟩
  | http i =>
    obtain ⟨t, s', sl', t', hi, hs, rfl⟩ := step_http h
    exact ⟨hy.1, List.forall_mem_set hy.2 ((httpStep_ok hal hs).2 (hy.2 t (List.mem_of_getElem? hi)))⟩

/-- a system in which no connection has been served yet -/
def Sys.Fresh (y : Sys σ O B R) : Prop :=
  (∀ t ∈ y.ws, t.done = [] ∧ t.outs = []) ∧ (∀ t ∈ y.http, t.done = [] ∧ t.outs = [] ∧ t.decoded = none)

theorem fresh_ok (cfg : Cfg σ M R O B) (y : Sys σ O B R) (hf : y.Fresh) : y.Ok cfg := by
  refine ⟨fun t ht => ?_, fun t ht => ⟨?_, ?_⟩⟩
  · simp [WsThread.Ok, (hf.1 t ht).1, (hf.1 t ht).2, Paired]
  · simp [(hf.2 t ht).1, (hf.2 t ht).2.1, Paired]
  · intro o ho; simp [(hf.2 t ht).2.2] at ho

end C14

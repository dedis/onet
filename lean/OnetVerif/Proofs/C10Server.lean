import OnetVerif.Model.C10Server
import OnetVerif.Proofs.Sched
/-! The systems of `Model/C10Server.lean` that have a lock, the two hand-shakes and the listeners: for each the invariant
of its reachable states (who holds the lock, and what its holder is waiting for); for the hand-shakes also a measure that
every step lowers, the entry of a further call apart. -/
namespace C10

theorem hsRun_skips (held : Bool) : Sched.Skips (hsStep held) (hsRun held) :=
  ⟨fun _ => rfl, fun s a as => by rw [hsRun]; cases hsStep held s a <;> rfl⟩

def ClPc.holds : ClPc → Bool
  | .sending | .unlock => true
  | _ => false

/-- what holds of the hand-shake in every reachable state of the code as it is -/
structure HsInv (s : Hs) : Prop where
  st   : s.isStarted = true → s.start = .flagged ∨ s.start = .waiting
  lock : Sched.Holds ClPc.holds s.lock s.closers
  /-- a call sends only after it saw the flag, and holds the mutex until the flag is reset -/
  snd  : ∀ p ∈ s.closers, p = ClPc.sending → s.isStarted = true
  sh   : s.shutdowns = if s.start = .returned then 1 else 0

theorem HsInv.shutdowns {s : Hs} (h : HsInv s) : s.shutdowns ≤ 1 ∧ (s.shutdowns = 1 ↔ s.start = .returned) := by
  rw [h.sh]
  split
  · exact ⟨Nat.le_refl _, iff_of_true rfl ‹_›⟩
  · exact ⟨Nat.zero_le _, iff_of_false nofun ‹_›⟩

theorem hs_inv_step {s s' : Hs} {a : HsAct} (h : HsInv s) (hs : hsStep true s a = some s') : HsInv s' := by
  cases a with
  | startCall =>
    obtain ⟨hg, hs⟩ := Option.ite_none_right_eq_some.mp hs
    cases hs
    refine ⟨fun hi => ?_, h.lock, h.snd, h.sh.trans (by rw [hg]; rfl)⟩
    rcases h.st hi with e | e <;> cases hg.symm.trans e
  | startFlag =>
    obtain ⟨hg, hs⟩ := Option.ite_none_right_eq_some.mp hs
    cases hs
    exact ⟨fun _ => .inl rfl, h.lock, fun _ _ _ => rfl, h.sh.trans (by rw [hg.1]; rfl)⟩
  | startWait =>
    obtain ⟨hg, hs⟩ := Option.ite_none_right_eq_some.mp hs
    cases hs
    exact ⟨fun _ => .inr rfl, h.lock, h.snd, h.sh.trans (by rw [hg]; rfl)⟩
  | closeCall =>
    cases hs
    exact ⟨h.st, h.lock.concat rfl, List.forall_mem_concat h.snd nofun, h.sh⟩
  | closeLock j =>
    obtain ⟨hg, hs⟩ := Option.ite_none_right_eq_some.mp hs
    split at hs
    · rename_i hi
      cases hs
      exact ⟨h.st, h.lock.acquire hg.2 hg.1 rfl, List.forall_mem_set h.snd fun _ => hi, h.sh⟩
    · cases hs
      exact ⟨h.st, h.lock.set hg.1 rfl, List.forall_mem_set h.snd nofun, h.sh⟩
  | handshake j =>
    obtain ⟨hg, hs⟩ := Option.ite_none_right_eq_some.mp hs
    cases hs
    refine ⟨nofun, h.lock.set hg.1 rfl, fun p hp he => ?_, ?_⟩
    · -- the sender held the mutex, so nobody else is sending
      subst he
      cases h.lock.mem_set (.inr (h.lock.eq_some hg.1 rfl)) hp rfl
    · show s.shutdowns + 1 = 1
      rw [h.sh, hg.2]; rfl
  | closeUnlock j =>
    obtain ⟨hg, hs⟩ := Option.ite_none_right_eq_some.mp hs
    cases hs
    exact ⟨h.st, h.lock.release hg rfl rfl, List.forall_mem_set h.snd nofun, h.sh⟩
  | closeRest j =>
    obtain ⟨hg, hs⟩ := Option.ite_none_right_eq_some.mp hs
    cases hs
    exact ⟨h.st, h.lock.set hg rfl, List.forall_mem_set h.snd nofun, h.sh⟩

theorem hs_inv_run (acts : List HsAct) : HsInv (hsRun true {} acts) :=
  (hsRun_skips true).inv (fun _ _ _ => hs_inv_step) acts {} ⟨nofun, .nil, nofun, rfl⟩

theorem hs_step_measure {held : Bool} {s s' : Hs} {a : HsAct} (hs : hsStep held s a = some s')
    (ha : a ≠ .closeCall) : hsMeasure s' < hsMeasure s := by
  cases a with
  | closeCall => exact absurd rfl ha
  | startCall =>
    obtain ⟨hg, hs⟩ := Option.ite_none_right_eq_some.mp hs
    cases hs
    exact Nat.add_lt_add_right (show StartPc.rank .starting < s.start.rank by rw [hg]; decide) _
  | startFlag =>
    obtain ⟨hg, hs⟩ := Option.ite_none_right_eq_some.mp hs
    cases hs
    exact Nat.add_lt_add_right (show StartPc.rank .flagged < s.start.rank by rw [hg.1]; decide) _
  | startWait =>
    obtain ⟨hg, hs⟩ := Option.ite_none_right_eq_some.mp hs
    cases hs
    exact Nat.add_lt_add_right (show StartPc.rank .waiting < s.start.rank by rw [hg]; decide) _
  | closeLock j =>
    obtain ⟨hg, hs⟩ := Option.ite_none_right_eq_some.mp hs
    split at hs
    · cases hs; exact Nat.add_lt_add_left (List.sum_map_set_lt ClPc.rank hg.1 (by decide)) _
    · cases hs; exact Nat.add_lt_add_left (List.sum_map_set_lt ClPc.rank hg.1 (by decide)) _
  | handshake j =>
    obtain ⟨hg, hs⟩ := Option.ite_none_right_eq_some.mp hs
    cases hs
    exact Nat.add_lt_add (show StartPc.rank .returned < s.start.rank by rw [hg.2]; decide) (List.sum_map_set_lt ClPc.rank hg.1 (by decide))
  | closeUnlock j | closeRest j =>
    obtain ⟨hg, hs⟩ := Option.ite_none_right_eq_some.mp hs
    cases hs
    exact Nat.add_lt_add_left (List.sum_map_set_lt ClPc.rank hg (by decide)) _

theorem wsRun_skips : Sched.Skips wsStep wsRun :=
  ⟨fun _ => rfl, fun s a as => by rw [wsRun]; cases wsStep s a <;> rfl⟩

/-- the websocket's mutex has two kinds of holder; projected to the `stop` calls, `Sched.Holds` applies (`WsInv.lk1` covers `start`) -/
def stopHolder : Option WsHolder → Option Nat
  | some (.stop j) => some j
  | _ => none

theorem stopHolder_eq_some {l : Option WsHolder} {j : Nat} : stopHolder l = some j ↔ l = some (.stop j) := by
  cases l with
  | none => exact ⟨nofun, nofun⟩
  | some hd =>
    cases hd with
    | start => exact ⟨nofun, nofun⟩
    | stop k => exact ⟨fun h => by cases h; rfl, fun h => by cases h; rfl⟩

def WsStopPc.holds : WsStopPc → Bool
  | .shutting => true
  | _ => false

/-- what holds of the websocket's start/stop hand-shake in every reachable state -/
structure WsInv (s : Ws) : Prop where
  st   : s.started = true ↔ (s.start = .locked ∨ s.start = .sending)
  sv   : s.serving = true → s.started = true ∧ stopHolder s.lock = none
  lock : Sched.Holds WsStopPc.holds (stopHolder s.lock) s.stops
  sh   : ∀ p ∈ s.stops, p = WsStopPc.shutting → s.start = .sending
  lk1  : s.lock = some .start ↔ s.start = .locked

theorem WsInv.shutting {s : Ws} (h : WsInv s) {j : Nat} (hj : s.stops[j]? = some .shutting) :
    s.lock = some (.stop j) ∧ s.start = .sending :=
  ⟨stopHolder_eq_some.mp (h.lock.eq_some hj rfl), h.sh _ (List.mem_of_getElem? hj) rfl⟩

theorem WsInv.holder {s : Ws} (h : WsInv s) {k : Nat} (hl : s.lock = some (.stop k)) :
    s.stops[k]? = some .shutting := by
  obtain ⟨p, hp, hh⟩ := (h.lock k).mp (stopHolder_eq_some.mpr hl)
  cases p with
  | shutting => exact hp
  | _ => cases hh

theorem ws_inv_step {s s' : Ws} {a : WsAct} (h : WsInv s) (hs : wsStep s a = some s') : WsInv s' := by
  cases a with
  | startLock =>
    obtain ⟨hg, hs⟩ := Option.ite_none_right_eq_some.mp hs
    cases hs
    have hl := h.lock
    rw [hg.2] at hl
    refine ⟨⟨fun _ => .inl rfl, fun _ => rfl⟩, fun _ => ⟨rfl, rfl⟩, hl, fun p hp he => ?_, ⟨fun _ => rfl, fun _ => rfl⟩⟩
    subst he
    exact (hl.nobody rfl hp rfl).elim
  | startUnlock =>
    obtain ⟨hg, hs⟩ := Option.ite_none_right_eq_some.mp hs
    cases hs
    have hl := h.lock
    rw [h.lk1.mpr hg] at hl
    exact ⟨⟨fun _ => .inr rfl, fun _ => h.st.mpr (.inl hg)⟩, fun hv => ⟨(h.sv hv).1, rfl⟩, hl,
      fun _ _ _ => rfl, ⟨nofun, nofun⟩⟩
  | stopCall =>
    cases hs
    exact ⟨h.st, h.sv, h.lock.concat rfl, List.forall_mem_concat h.sh nofun, h.lk1⟩
  | stopLock j =>
    obtain ⟨hg, hs⟩ := Option.ite_none_right_eq_some.mp hs
    have hl := h.lock
    rw [hg.2] at hl
    split at hs
    · rename_i hst
      cases hs
      -- `start` does not hold the mutex, so it is past its critical section
      have hstart : s.start = .sending := (h.st.mp hst).resolve_left fun e => by
        cases hg.2.symm.trans (h.lk1.mpr e)
      exact ⟨h.st, nofun, hl.acquire rfl hg.1 rfl, List.forall_mem_set h.sh fun _ => hstart,
        ⟨nofun, fun e => by cases hstart.symm.trans e⟩⟩
    · cases hs
      exact ⟨h.st, h.sv, h.lock.set hg.1 rfl, List.forall_mem_set h.sh nofun, h.lk1⟩
  | handshake j =>
    obtain ⟨hg, hs⟩ := Option.ite_none_right_eq_some.mp hs
    cases hs
    have hj : stopHolder s.lock = some j := h.lock.eq_some hg.1 rfl
    refine ⟨⟨nofun, fun e => by rcases e with e | e <;> cases e⟩, fun hv => ?_, h.lock.release hg.1 rfl rfl,
      fun p hp he => ?_, ⟨nofun, nofun⟩⟩
    · cases hj.symm.trans (h.sv hv).2
    · subst he
      cases h.lock.mem_set (.inr hj) hp rfl

theorem ws_inv_run (acts : List WsAct) : WsInv (wsRun {} acts) :=
  wsRun_skips.inv (fun _ _ _ => ws_inv_step) acts {}
    ⟨⟨nofun, fun h => by rcases h with h | h <;> cases h⟩, nofun, .nil, nofun, ⟨nofun, nofun⟩⟩

theorem ws_step_measure {s s' : Ws} {a : WsAct} (hs : wsStep s a = some s') (ha : a ≠ .stopCall) :
    wsMeasure s' < wsMeasure s := by
  cases a with
  | stopCall => exact absurd rfl ha
  | startLock =>
    obtain ⟨hg, hs⟩ := Option.ite_none_right_eq_some.mp hs
    cases hs
    exact Nat.add_lt_add_right (show WsStartPc.rank .locked < s.start.rank by rw [hg.1]; decide) _
  | startUnlock =>
    obtain ⟨hg, hs⟩ := Option.ite_none_right_eq_some.mp hs
    cases hs
    exact Nat.add_lt_add_right (show WsStartPc.rank .sending < s.start.rank by rw [hg]; decide) _
  | stopLock j =>
    obtain ⟨hg, hs⟩ := Option.ite_none_right_eq_some.mp hs
    split at hs
    · cases hs; exact Nat.add_lt_add_left (List.sum_map_set_lt WsStopPc.rank hg.1 (by decide)) _
    · cases hs; exact Nat.add_lt_add_left (List.sum_map_set_lt WsStopPc.rank hg.1 (by decide)) _
  | handshake j =>
    obtain ⟨hg, hs⟩ := Option.ite_none_right_eq_some.mp hs
    cases hs
    exact Nat.add_lt_add (show WsStartPc.rank .returned < s.start.rank by rw [hg.2]; decide)
      (List.sum_map_set_lt WsStopPc.rank hg.1 (by decide))

def LoopPc.alive : LoopPc → Bool
  | .accepting | .gotErr | .sendQuit => true
  | _ => false

def LnStopPc.holds : LnStopPc → Bool
  | .waiting | .finishing => true
  | _ => false

/-- what holds of the TCP/TLS listener in every reachable state -/
structure LnInv (s : Ln) : Prop where
  /-- `close(t.quit)` happens under the lock, and the lock is only released with a fresh channel -/
  qc    : s.quitClosed = s.lock.isSome
  lock  : Sched.Holds LnStopPc.holds s.lock s.stops
  lsock : ∀ j : Nat, s.lock = some j → s.sockOpen = false
  sync  : ∀ p ∈ s.stops, p.holds = true → s.loop.alive = (p == .waiting)
  /-- a `Stop` reads `listening` as it takes the lock, to know whether there is an accept loop to wait for -/
  lis   : s.lock = none → s.listening = s.loop.alive
  stp   : s.stopped = true → s.closed = true ∧ s.sockOpen = false ∧ s.loop.alive = false ∧ s.listening = false

theorem lnRun_skips : Sched.Skips lnStep lnRun :=
  ⟨fun _ => rfl, fun s a as => by rw [lnRun]; cases lnStep s a <;> rfl⟩

theorem LnInv.loop_congr {s : Ln} (h : LnInv s) {l : LoopPc} (hl : l.alive = s.loop.alive) : LnInv { s with loop := l } :=
  { h with sync := fun p hp hh => hl.trans (h.sync p hp hh)
           lis := fun hk => (h.lis hk).trans hl.symm
           stp := fun hst => ⟨(h.stp hst).1, (h.stp hst).2.1, hl.trans (h.stp hst).2.2.1, (h.stp hst).2.2.2⟩ }

theorem ln_inv_step {s s' : Ln} {a : LnAct} (h : LnInv s) (hs : lnStep s a = some s') : LnInv s' := by
  cases a with
  | listen =>
    obtain ⟨hg, hs⟩ := Option.ite_none_right_eq_some.mp hs
    split at hs
    · cases hs
      exact h.loop_congr (by rw [hg.1]; rfl)
    · rename_i hcl
      cases hs
      exact { h with sync := fun p hp hh => (h.lock.nobody hg.2 hp hh).elim
                     lis := fun _ => rfl
                     stp := fun hst => absurd (h.stp hst).1 hcl }
  | accept =>
    obtain ⟨_, hs⟩ := Option.ite_none_right_eq_some.mp hs
    cases hs
    exact { h with }
  | acceptErr =>
    obtain ⟨hg, hs⟩ := Option.ite_none_right_eq_some.mp hs
    cases hs
    exact h.loop_congr (by rw [hg]; rfl)
  | checkQuit =>
    obtain ⟨hg, hs⟩ := Option.ite_none_right_eq_some.mp hs
    cases hs
    exact h.loop_congr (by rw [hg]; split <;> rfl)
  | stopCall =>
    cases hs
    exact { h with lock := h.lock.concat rfl
                   sync := List.forall_mem_concat h.sync nofun }
  | stopLock j =>
    obtain ⟨hg, hs⟩ := Option.ite_none_right_eq_some.mp hs
    cases hs
    refine { h with qc := rfl
                    lock := h.lock.acquire hg.2 hg.1 (by split <;> rfl)
                    lsock := fun _ _ => rfl
                    sync := fun p hp hh => ?_
                    lis := nofun
                    stp := fun hst => ⟨(h.stp hst).1, rfl, (h.stp hst).2.2⟩ }
    -- the only call in a holding state is this one, and `lis` says that the `listening` it read is the loop's `alive`
    rw [h.lock.mem_set (.inl hg.2) hp hh, ← h.lis hg.2]
    cases s.listening <;> rfl
  | quitShake j =>
    obtain ⟨hg, hs⟩ := Option.ite_none_right_eq_some.mp hs
    cases hs
    have hj := h.lock.eq_some hg.1 rfl
    exact { h with lock := h.lock.set hg.1 rfl
                   sync := fun p hp hh => by rw [h.lock.mem_set (.inr hj) hp hh]; rfl
                   lis := fun hk => nomatch hj.symm.trans hk
                   stp := fun hst => by have := (h.stp hst).2.2.1; rw [hg.2] at this; cases this }
  | stopFinish j =>
    obtain ⟨hg, hs⟩ := Option.ite_none_right_eq_some.mp hs
    cases hs
    have hj := h.lock.eq_some hg rfl
    have hdead : s.loop.alive = false := h.sync _ (List.mem_of_getElem? hg) rfl
    exact ⟨rfl, h.lock.release hg rfl rfl, nofun,
      fun p hp hh => (by rw [h.lock.mem_set (.inr hj) hp hh] at hh; cases hh),
      fun _ => hdead.symm, fun _ => ⟨rfl, h.lsock j hj, hdead, rfl⟩⟩

theorem ln_inv_run (acts : List LnAct) : LnInv (lnRun {} acts) :=
  lnRun_skips.inv (fun _ _ _ => ln_inv_step) acts {} ⟨rfl, .nil, nofun, nofun, fun _ => rfl, nofun⟩

theorem ln_stopped_step {s s' : Ln} {a : LnAct} (h : LnInv s) (hst : s.stopped = true)
    (hs : lnStep s a = some s') : s'.stopped = true ∧ s'.handed = s.handed := by
  cases a with
  | accept =>
    -- the socket is closed, so nothing is accepted
    obtain ⟨hg, hs⟩ := Option.ite_none_right_eq_some.mp hs
    cases (h.stp hst).2.1.symm.trans hg.2
  | listen =>
    obtain ⟨_, hs⟩ := Option.ite_none_right_eq_some.mp hs
    split at hs <;> cases hs <;> exact ⟨hst, rfl⟩
  | stopCall => cases hs; exact ⟨hst, rfl⟩
  | stopFinish j => obtain ⟨_, hs⟩ := Option.ite_none_right_eq_some.mp hs; cases hs; exact ⟨rfl, rfl⟩
  | acceptErr | checkQuit | stopLock j | quitShake j =>
    obtain ⟨_, hs⟩ := Option.ite_none_right_eq_some.mp hs; cases hs; exact ⟨hst, rfl⟩

theorem ll_inv_run (s : Ll) (h : s.listening = false → s.blocked = 0) (acts : List LlAct) :
    (llRun s acts).listening = false → (llRun s acts).blocked = 0 := by
  induction acts generalizing s with
  | nil => exact h
  | cons a as ih =>
    apply ih
    cases a with
    | listen =>
      simp only [llStep]
      split
      · exact h
      · nofun
    | connect =>
      simp only [llStep]
      split
      · exact h
      · exact h
    | stop =>
      simp only [llStep]
      split
      · exact fun _ => rfl
      · exact h

end C10

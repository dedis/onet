import OnetVerif.Model.C19Core
import Mathlib.Tactic.Ring
import Mathlib.Algebra.Order.Field.Basic
import Mathlib.Algebra.BigOperators.Group.List.Basic

/-! C19 helper lemmas: the accumulator code of `Model/C19Core.lean` over an arbitrary linearly ordered
field `K` (ℚ, ℝ, …) with an arbitrary function in the place of `math.Sqrt`. -/
namespace C19

/-- the function used where the Go code calls `math.Sqrt` (no assumption on it) -/
class HasSqrt (K : Type) where
  sq : K → K

section field
set_option linter.unusedSectionVars false
variable {K : Type} [Field K] [LinearOrder K] [IsStrictOrderedRing K] [HasSqrt K]

/-- exact arithmetic in the place of `float64` -/
instance fieldNum : Num K where
  add := (· + ·)
  sub := (· - ·)
  mul := (· * ·)
  div := (· / ·)
  ofNat := fun n => (n : K)
  lt := fun a b => decide (a < b)
  sqrt := HasSqrt.sq

@[simp] theorem num_add (a b : K) : Num.add a b = a + b := rfl
@[simp] theorem num_sub (a b : K) : Num.sub a b = a - b := rfl
@[simp] theorem num_mul (a b : K) : Num.mul a b = a * b := rfl
@[simp] theorem num_div (a b : K) : Num.div a b = a / b := rfl
@[simp] theorem num_ofNat (n : Nat) : (Num.ofNat n : K) = (n : K) := rfl
@[simp] theorem num_lt (a b : K) : (Num.lt a b : Bool) = decide (a < b) := rfl
@[simp] theorem num_sqrt (a : K) : Num.sqrt a = HasSqrt.sq a := rfl
@[simp] theorem zero_eq : (zero : K) = 0 := by simp [zero]

def sumSq (xs : List K) : K := (xs.map fun x => x * x).sum

/-- what the loop of `Value.Collect` maintains after having consumed `xs` -/
structure Inv (t : Value K) (xs : List K) : Prop where
  n : t.n = xs.length
  sum : t.sum = xs.sum
  oldM : t.oldM = t.newM
  oldS : t.oldS = t.newS
  mean : (t.n : K) * t.newM = xs.sum
  m2 : t.newS = sumSq xs - (t.n : K) * t.newM * t.newM
  dev : xs ≠ [] → t.dev = HasSqrt.sq (t.newS / ((t.n - 1 : ℕ) : K))
  minMem : xs ≠ [] → t.min ∈ xs
  minLe : ∀ x ∈ xs, t.min ≤ x
  maxMem : xs ≠ [] → t.max ∈ xs
  maxGe : ∀ x ∈ xs, x ≤ t.max

theorem inv_reset (t : Value K) : Inv t.reset [] := by
  refine ⟨rfl, zero_eq, rfl, rfl, ?_, ?_, fun h => absurd rfl h, fun h => absurd rfl h, fun _ h => (nomatch h),
    fun h => absurd rfl h, fun _ h => (nomatch h)⟩
  · show ((0 : ℕ) : K) * zero = 0
    rw [Nat.cast_zero, zero_mul]
  · show zero = 0 - ((0 : ℕ) : K) * zero * zero
    rw [Nat.cast_zero, zero_mul, zero_mul, sub_zero, zero_eq]

/-! `n` values with mean `M` (`n * M = S`) and sum of squares `Q`, then `x`; `M'`, `S'` the new mean and sum of squared
deviations.  With `d = (x - M) / (n + 1)`, `x = M + (n + 1) * d` and both are polynomial identities. -/

theorem welford_mean {n : ℕ} {M M' S x : K} (hM : M' = M + (x - M) / ((n + 1 : ℕ) : K)) (h : (n : K) * M = S) :
    ((n + 1 : ℕ) : K) * M' = S + x := by
  rw [hM, ← h, mul_add, mul_div_cancel₀ _ (Nat.cast_ne_zero.mpr n.succ_ne_zero), Nat.cast_succ]; ring

theorem welford_m2 {n : ℕ} {M M' S S' Q Q' x : K} (hM : M' = M + (x - M) / ((n + 1 : ℕ) : K))
    (hS : S' = S + (x - M) * (x - M')) (h : S = Q - (n : K) * M * M) (hQ : Q' = Q + x * x) :
    S' = Q' - ((n + 1 : ℕ) : K) * M' * M' := by
  obtain ⟨d, hd⟩ : ∃ d, (x - M) / ((n + 1 : ℕ) : K) = d := ⟨_, rfl⟩
  have hx : x = M + d * ((n + 1 : ℕ) : K) :=
    sub_eq_iff_eq_add'.mp ((div_eq_iff (Nat.cast_ne_zero.mpr n.succ_ne_zero)).mp hd)
  rw [hS, hQ, h, hM, hd, hx, Nat.cast_succ]; ring

theorem sum_snoc (xs : List K) (x : K) : (xs ++ [x]).sum = xs.sum + x := by
  rw [List.sum_append, List.sum_singleton]

theorem sumSq_snoc (xs : List K) (x : K) : sumSq (xs ++ [x]) = sumSq xs + x * x := by
  unfold sumSq
  rw [List.map_append]
  exact sum_snoc _ _

/-- also for the first value, where the code assigns `x` and 0 instead of computing them -/
theorem step_eq {t : Value K} {xs : List K} (h : Inv t xs) (x : K) {M' S' : K}
    (hM : M' = t.newM + (x - t.newM) / ((t.n + 1 : ℕ) : K)) (hS : S' = t.newS + (x - t.newM) * (x - M')) :
    t.step x =
      { t with n := t.n + 1,
               min := if x < t.min ∨ t.n = 0 then x else t.min,
               max := if t.max < x ∨ t.n = 0 then x else t.max,
               oldM := M', newM := M', oldS := S', newS := S',
               dev := HasSqrt.sq (S' / ((t.n : ℕ) : K)),
               sum := t.sum + x } := by
  subst hS hM
  by_cases h0 : t.n = 0
  · have hS : t.newS = 0 := by rw [h.m2, h0, Nat.cast_zero, zero_mul, zero_mul, sub_zero, List.length_eq_zero_iff.mp (h.n.symm.trans h0)]; rfl
    -- the code leaves `newS` as it is, which is 0 (`hS`); with `n = 0` Welford's formulas give what it assigns:
    -- `newM + (x - newM) / 1 = x` and `0 + (x - newM) * (x - x) = 0`
    simp only [Value.step, h0, zero_add, BEq.rfl, ↓reduceIte, num_lt, Bool.or_true, num_add, zero_eq, hS,
      tsub_self, num_ofNat, Nat.cast_zero, num_div, div_zero, num_sqrt, or_true, Nat.cast_one, div_one,
      add_sub_cancel, sub_self, mul_zero, add_zero]
  · simp only [Value.step, Nat.reduceBeqDiff, beq_iff_eq, h0, ↓reduceIte, num_lt, Bool.or_eq_true,
      decide_eq_true_eq, or_false, num_add, h.oldM, num_sub, num_ofNat, Nat.cast_add, Nat.cast_one, num_div,
      h.oldS, num_mul, add_tsub_cancel_right, num_sqrt]

/-- a running extremum, for minimum and maximum alike: `lt`, `le` are the order or its converse -/
theorem extremum_step {β : Type} {lt le : β → β → Prop} [DecidableRel lt] (hlt : ∀ {a b}, lt a b → le a b)
    (hnl : ∀ {a b}, ¬lt a b → le b a) (hrefl : ∀ a, le a a) (htrans : ∀ {a b c}, le a b → le b c → le a c)
    {xs : List β} {m x : β} {n : ℕ} (hn : n = xs.length) (hm : xs ≠ [] → m ∈ xs) (hle : ∀ y ∈ xs, le m y) :
    (if lt x m ∨ n = 0 then x else m) ∈ xs ++ [x] ∧ ∀ y ∈ xs ++ [x], le (if lt x m ∨ n = 0 then x else m) y := by
  have hn0 : ∀ y ∈ xs, n ≠ 0 := fun y hy h0 => by
    rw [List.length_eq_zero_iff.mp (hn.symm.trans h0)] at hy; cases hy
  split
  · next hc =>
    refine ⟨List.mem_append_right _ (List.mem_singleton_self _), fun y hy => ?_⟩
    rcases List.mem_append.mp hy with hy | hy
    · exact htrans (hlt (hc.resolve_right (hn0 y hy))) (hle y hy)
    · rw [List.mem_singleton.mp hy]; exact hrefl x
  · next hc =>
    refine ⟨List.mem_append_left _ (hm fun e => hc (.inr (by rw [hn, e]; rfl))), fun y hy => ?_⟩
    rcases List.mem_append.mp hy with hy | hy
    · exact hle y hy
    · rw [List.mem_singleton.mp hy]; exact hnl fun h => hc (.inl h)

theorem inv_step (t : Value K) (xs : List K) (x : K) (h : Inv t xs) : Inv (t.step x) (xs ++ [x]) := by
  have hmin := extremum_step (lt := (· < ·)) (le := (· ≤ ·)) (x := x) le_of_lt not_lt.mp le_refl le_trans
    h.n h.minMem h.minLe
  have hmax := extremum_step (lt := fun a b => b < a) (le := fun a b => b ≤ a) (x := x) le_of_lt not_lt.mp le_refl
    (fun h1 h2 => le_trans h2 h1) h.n h.maxMem h.maxGe
  obtain ⟨M', hM⟩ : ∃ M', M' = t.newM + (x - t.newM) / ((t.n + 1 : ℕ) : K) := ⟨_, rfl⟩
  obtain ⟨S', hS⟩ : ∃ S', S' = t.newS + (x - t.newM) * (x - M') := ⟨_, rfl⟩
  rw [step_eq h x hM hS]
  exact {
    n := by rw [List.length_append, ← h.n]; rfl
    sum := by rw [sum_snoc, ← h.sum]
    oldM := rfl
    oldS := rfl
    mean := (welford_mean hM h.mean).trans (sum_snoc xs x).symm
    m2 := welford_m2 hM hS h.m2 (sumSq_snoc xs x)
    dev := fun _ => rfl
    minMem := fun _ => hmin.1
    minLe := hmin.2
    maxMem := fun _ => hmax.1
    maxGe := hmax.2 }

theorem inv_foldl (xs ys : List K) (t : Value K) (h : Inv t ys) :
    Inv (xs.foldl Value.step t) (ys ++ xs) := by
  induction xs generalizing t ys with
  | nil => rwa [List.append_nil]
  | cons x xs ih =>
    rw [List.foldl_cons, List.append_cons]
    exact ih (ys ++ [x]) (t.step x) (inv_step t ys x h)

/-- after `Collect` the accumulators describe exactly the stored values -/
theorem inv_collect (t : Value K) : Inv t.collect t.store :=
  inv_foldl t.store [] t.reset (inv_reset t)

theorem sum_sq_dev (xs : List K) (m : K) :
    (xs.map (fun x => (x - m) * (x - m))).sum = sumSq xs - 2 * m * xs.sum + (xs.length : K) * m * m := by
  induction xs with
  | nil => simp [sumSq]
  | cons x xs ih =>
    simp only [sumSq] at ih ⊢
    simp only [List.map_cons, List.sum_cons, ih, List.length_cons]; push_cast; ring

theorem Inv.mean_eq {t : Value K} {xs : List K} (h : Inv t xs) (hne : xs ≠ []) :
    t.newM = xs.sum / (xs.length : K) := by
  have hl : (xs.length : K) ≠ 0 := Nat.cast_ne_zero.mpr (List.length_pos_iff.mpr hne).ne'
  rw [eq_div_iff hl, mul_comm, ← h.n, h.mean]

theorem Inv.m2_eq {t : Value K} {xs : List K} (h : Inv t xs) :
    t.newS = (xs.map fun x => (x - t.newM) * (x - t.newM)).sum := by
  rw [sum_sq_dev, h.m2, ← h.mean, h.n]; ring

theorem Inv.perm {t u : Value K} {xs ys : List K} (a : Inv t xs) (b : Inv u ys) (hp : xs.Perm ys)
    (hne : xs ≠ []) : t.n = u.n ∧ t.values = u.values := by
  have hne' : ys ≠ [] := fun e => hne (e ▸ hp).eq_nil
  have hn : t.n = u.n := by rw [a.n, b.n, hp.length_eq]
  have hsum : t.sum = u.sum := by rw [a.sum, b.sum, hp.sum_eq]
  have hM : t.newM = u.newM := by rw [a.mean_eq hne, b.mean_eq hne', hp.sum_eq, hp.length_eq]
  have hS : t.newS = u.newS := by rw [a.m2, b.m2, hn, hM, sumSq, sumSq, (hp.map _).sum_eq]
  have hdev : t.dev = u.dev := by rw [a.dev hne, b.dev hne', hS, hn]
  have hmin : t.min = u.min :=
    le_antisymm (a.minLe _ (hp.mem_iff.mpr (b.minMem hne'))) (b.minLe _ (hp.mem_iff.mp (a.minMem hne)))
  have hmax : t.max = u.max :=
    le_antisymm (b.maxGe _ (hp.mem_iff.mp (a.maxMem hne))) (a.maxGe _ (hp.mem_iff.mpr (b.maxMem hne')))
  exact ⟨hn, by rw [Value.values, Value.values, hmin, hmax, hM, hsum, hdev]⟩

end field
end C19

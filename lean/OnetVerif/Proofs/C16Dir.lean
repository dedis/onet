import OnetVerif.Model.C16Dir
import OnetVerif.Proofs.Hex
/-! C16 helper lemmas for the data-directory model: injectivity of the hexadecimal file names, the
frame conditions of start / call / close on files of other servers, and the simulation of a
directory history by the database history of one server (`dir_sim`).  Core only. -/
namespace C16

/-- byte strings (the model's `Nat`s stand for bytes) -/
def IsBytes (b : Bytes) : Prop := ∀ x ∈ b, x < 256
instance (b : Bytes) : Decidable (IsBytes b) := by unfold IsBytes; infer_instance

theorem hexDigit_inj {a b : Nat} (ha : a < 16) (hb : b < 16) (h : hexDigit a = hexDigit b) : a = b :=
  Hex.digit_inj ha hb h

/-- `%x` masks the high digit, `Hex.enc` does not: the same on bytes -/
theorem hexOf_eq : ∀ {b : Bytes}, IsBytes b → hexOf b = Hex.enc b
  | [], _ => rfl
  | x :: r, h => by
    rw [hexOf, hexOf_eq fun y hy => h y (.tail _ hy), Nat.mod_eq_of_lt (Nat.div_lt_of_lt_mul (h x (.head _)))]; rfl

theorem hexOf_inj : ∀ (a b : Bytes), (∀ x ∈ a, x < 256) → (∀ x ∈ b, x < 256) → hexOf a = hexOf b → a = b :=
  fun _ _ ha hb h => Hex.enc_inj ha hb (hexOf_eq ha ▸ hexOf_eq hb ▸ h)

theorem dbName_inj {a b : Bytes} (ha : IsBytes a) (hb : IsBytes b) (h : hexOf a ++ dotDb = hexOf b ++ dotDb) : a = b :=
  hexOf_inj a b ha hb (List.append_cancel_right h)

/-- the server with key `q` uses no file name of the server with key `pub` -/
structure Apart (h : Bytes → Bytes) (pub q : Bytes) : Prop where
  nn : newName h q ≠ newName h pub
  on : oldName q ≠ newName h pub
  no : newName h q ≠ oldName pub
  oo : oldName q ≠ oldName pub

theorem Apart.ne {h : Bytes → Bytes} {pub q : Bytes} (a : Apart h pub q) : q ≠ pub :=
  fun e => a.oo (by rw [e])

/-- file names differ as soon as keys and hashes differ (hexadecimal notation is injective) -/
theorem apart_of_hash (h : Bytes → Bytes) (pub q : Bytes) (hp : IsBytes pub) (hq : IsBytes q)
    (hhp : IsBytes (h pub)) (hhq : IsBytes (h q))
    (h1 : h q ≠ h pub) (h2 : q ≠ h pub) (h3 : h q ≠ pub) (h4 : q ≠ pub) : Apart h pub q :=
  ⟨fun e => h1 (dbName_inj hhq hhp e), fun e => h2 (dbName_inj hq hhp e),
   fun e => h3 (dbName_inj hhq hp e), fun e => h4 (dbName_inj hq hp e)⟩

theorem self_apart (h : Bytes → Bytes) (pub : Bytes) (hp : IsBytes pub) (hhp : IsBytes (h pub))
    (hfix : h pub ≠ pub) : newName h pub ≠ oldName pub :=
  fun e => hfix (dbName_inj hhp hp e)

theorem setFile_same (d : Dir) (n : Bytes) (c : Option Db) : setFile d n c n = c := if_pos rfl
theorem setFile_other (d : Dir) (n m : Bytes) (c : Option Db) (hne : m ≠ n) : setFile d n c m = d m := if_neg hne

/-- what a server with key `pub` finds when it is started on the directory: the file with the legacy
name if there is one (it is taken over and replaces whatever has the new name), else the file with
the new name, else a new, empty database -/
def initialDb (h : Bytes → Bytes) (d : Dir) (pub : Bytes) : Db :=
  match d (oldName pub) with
  | some c => c
  | none => (d (newName h pub)).getD Db.empty

theorem initialDb_old {h : Bytes → Bytes} {d : Dir} {pub : Bytes} {c : Db} (hc : d (oldName pub) = some c) :
    initialDb h d pub = c := by
  unfold initialDb; rw [hc]

theorem initialDb_new {h : Bytes → Bytes} {d : Dir} {pub : Bytes} (ho : d (oldName pub) = none) :
    initialDb h d pub = (d (newName h pub)).getD Db.empty := by
  unfold initialDb; rw [ho]

theorem migrate_new (h : Bytes → Bytes) (d : Dir) (pub : Bytes) :
    ((migrate h d pub) (newName h pub)).getD Db.empty = initialDb h d pub := by
  unfold migrate initialDb
  cases d (oldName pub) with
  | none => rfl
  | some c => simp [setFile_same]

theorem migrate_old (h : Bytes → Bytes) (d : Dir) (pub : Bytes) (hself : newName h pub ≠ oldName pub) :
    (migrate h d pub) (oldName pub) = none := by
  unfold migrate
  cases hd : d (oldName pub) with
  | none => simpa using hd
  | some c => simp [setFile, hself.symm]

theorem migrate_other (h : Bytes → Bytes) (d : Dir) (pub m : Bytes) (h1 : m ≠ oldName pub) (h2 : m ≠ newName h pub) :
    (migrate h d pub) m = d m := by
  unfold migrate
  cases d (oldName pub) with
  | none => rfl
  | some c => simp [setFile, h1, h2]

/-- the first thing a start does: the server's file holds what `initialDb` says, with the contexts of
the registered services made; no file with the legacy name is left -/
theorem startOn_file (h : Bytes → Bytes) (d : Dir) (pub : Bytes) (services : List Bytes)
    (hself : newName h pub ≠ oldName pub) :
    startOn h d pub services (newName h pub) = some (startServer (initialDb h d pub) services) ∧
    startOn h d pub services (oldName pub) = none := by
  unfold startOn openFile
  constructor
  · rw [setFile_same, migrate_new]
  · rw [setFile_other _ _ _ _ hself.symm]; exact migrate_old h d pub hself

theorem startOn_other (h : Bytes → Bytes) (d : Dir) (pub m : Bytes) (services : List Bytes)
    (h1 : m ≠ oldName pub) (h2 : m ≠ newName h pub) : startOn h d pub services m = d m := by
  unfold startOn openFile
  rw [setFile_other _ _ _ _ h2, migrate_other h d pub m h1 h2]

theorem closeOn_other (h : Bytes → Bytes) (d : Dir) (srv : Server) (m : Bytes) (h2 : m ≠ newName h srv.pub) :
    closeOn h d srv m = d m := by
  unfold closeOn; split
  · exact setFile_other _ _ _ _ h2
  · rfl

theorem callOn_other (h : Bytes → Bytes) (known : List Bytes) (d : Dir) (p svc : Bytes) (op : Op) (m : Bytes)
    (h2 : m ≠ newName h p) : (callOn h known d p svc op).1 m = d m := by
  unfold callOn
  cases d (newName h p) with
  | none => rfl
  | some db => exact setFile_other _ _ _ _ h2

theorem callOn_file (h : Bytes → Bytes) (known : List Bytes) (d : Dir) (p svc : Bytes) (op : Op) (db : Db)
    (hfile : d (newName h p) = some db) :
    callOn h known d p svc op =
      (setFile d (newName h p) (some (step known db svc op).1), (step known db svc op).2) := by
  unfold callOn; rw [hfile]

theorem resultsOf_cons_self (pub : Bytes) (r : Res) (l : List (Bytes × Res)) :
    resultsOf pub ((pub, r) :: l) = r :: resultsOf pub l := by
  simp [resultsOf]

theorem resultsOf_cons_other {pub p : Bytes} (hp : p ≠ pub) (r : Res) (l : List (Bytes × Res)) :
    resultsOf pub ((p, r) :: l) = resultsOf pub l := by
  simp [resultsOf, hp]

/-- an event that the theorems about the server with key `pub` allow: its own starts and calls,
its own closes as a server that keeps its file, and anything of servers whose file names are apart -/
def Fits (h : Bytes → Bytes) (pub : Bytes) : DEv → Prop
  | .start srv _ => srv.pub = pub ∨ Apart h pub srv.pub
  | .call p _ _ => p = pub ∨ Apart h pub p
  | .close srv => (srv.pub = pub ∧ srv.delDb = false) ∨ Apart h pub srv.pub

/-- **simulation**: on a directory where the server's file exists and no legacy file is around, a
history of the directory looks to the server with key `pub` exactly like the history `proj pub` of
its database — same results, same final contents — whatever the other servers did in between; and
no legacy file appears. -/
theorem dir_sim (h : Bytes → Bytes) (known : List Bytes) (pub : Bytes) (hself : newName h pub ≠ oldName pub)
    (devs : List DEv) (hok : ∀ e ∈ devs, Fits h pub e) (d : Dir) (db : Db)
    (hfile : d (newName h pub) = some db) (hold : d (oldName pub) = none) :
    resultsOf pub (drun h known d devs).2 = (run known db (proj pub devs)).2 ∧
    (drun h known d devs).1 (newName h pub) = some (run known db (proj pub devs)).1 ∧
    (drun h known d devs).1 (oldName pub) = none := by
  induction devs generalizing d db with
  | nil => exact ⟨rfl, hfile, hold⟩
  | cons e devs ih =>
    have ih := ih fun e he => hok e (List.mem_cons_of_mem _ he)
    have he := hok e List.mem_cons_self
    -- an event of a server whose names are apart leaves both files of `pub` as they are
    cases e with
    | start srv services =>
      dsimp only [drun, proj]
      by_cases hp : srv.pub = pub
      · rw [if_pos hp, hp]
        obtain ⟨f1, f2⟩ := startOn_file h d pub services hself
        rw [initialDb_new hold, hfile] at f1
        exact ih _ _ f1 f2
      · rw [if_neg hp]
        have ha := he.resolve_left hp
        exact ih _ _ ((startOn_other h d srv.pub _ services ha.on.symm ha.nn.symm).trans hfile)
          ((startOn_other h d srv.pub _ services ha.oo.symm ha.no.symm).trans hold)
    | call p svc op =>
      dsimp only [drun, proj]
      by_cases hp : p = pub
      · subst hp
        rw [if_pos rfl, callOn_file h known d p svc op db hfile, resultsOf_cons_self]
        obtain ⟨i1, i2, i3⟩ := ih _ (step known db svc op).1 (setFile_same _ _ _)
          ((setFile_other _ _ _ _ hself.symm).trans hold)
        exact ⟨congrArg _ i1, i2, i3⟩
      · rw [if_neg hp, resultsOf_cons_other hp]
        have ha := he.resolve_left hp
        exact ih _ db ((callOn_other h known d p svc op _ ha.nn.symm).trans hfile)
          ((callOn_other h known d p svc op _ ha.no.symm).trans hold)
    | close srv =>
      dsimp only [drun, proj]
      rcases he with ⟨_, hdel⟩ | ha
      · have : closeOn h d srv = d := by unfold closeOn; rw [hdel]; rfl
        rw [this]
        exact ih d db hfile hold
      · exact ih _ _ ((closeOn_other h d srv _ ha.nn.symm).trans hfile)
          ((closeOn_other h d srv _ ha.no.symm).trans hold)

end C16

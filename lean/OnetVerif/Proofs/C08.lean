import OnetVerif.Model.C08
import OnetVerif.Proofs.Hex
/-! What the functions of `Model/C08.lean` and `Model/C08Name.lean` return, for the theorems of `Props/C08.lean` and
`Props/C08Gen.lean`: above all the verifier, in its normal form (`verifyPeerG_cons`) and, all tests on, as a conjunction.
The world's step relation `step_spec`, stated with `Signs`, and the invariants over it stand in `Props/C08.lean`.  Core only. -/
namespace C08

theorem ite_some_eq_none {α : Type} {p : Prop} [Decidable p] {x : α} {r : Option α} :
    (if p then some x else r) = none ↔ ¬ p ∧ r = none := by
  split <;> simp [*]

variable {s : Suite} {n : Nonce} {c : Cert} {raw raw' : List Cert} {S : Setting} {w w' : World} {i : Nat}

theorem schnorrVerify_iff {pub : Key} {cn : Name} {sg : Sig} :
    schnorrVerify pub n cn sg = true ↔ sg = .sig pub n cn := beq_iff_eq

def Check.on (en : Check → Bool) : Check → Bool
  | .parse | .sigPresent | .cnDecodes => true
  | ch => en ch

theorem Check.on_true (ch : Check) : Check.on (fun _ => true) ch = true := by
  cases ch <;> rfl

theorem Check.on_mono {en en' : Check → Bool} (h : ∀ ch, en' ch = true → en ch = true) (ch : Check) :
    Check.on en' ch = true → Check.on en ch = true := by
  cases ch <;> first | exact id | exact h _

theorem cond_ite_same {α : Type} {a : Bool} {p : Prop} [Decidable p] {x y : α} :
    (bif a then x else if p then x else y) = bif a || decide p then x else y := by
  cases a <;> by_cases p <;> simp [*]

/-- on `[]` the answer is `oneRaw` whatever the switches (`verifyPeerG.eq_1`): hence the cons -/
theorem verifyPeerG_cons (en : Check → Bool) (s : Suite) (them : Option Key) (n : Nonce) (c : Cert)
    (rest : List Cert) :
    verifyPeerG en s them n (c :: rest) =
      Check.order.find? fun ch => Check.on en ch && objects s them n (c :: rest) ch := by
  rw [verifyPeerG.eq_def]
  -- `find?` distinguishes cases on the Boolean itself, `if` on a `Decidable` instance: with `bif` on the left both
  -- sides are case distinctions on Booleans, equal by `rfl` once the `match`es of the last tests are decided.  The
  -- right side is unfolded by `dsimp`, which leaves no proof term that would keep `c.ext` from being generalised.
  simp only [cond_ite_same, ← Bool.cond_eq_ite]
  dsimp only [Check.order, List.find?, objects, List.head?]
  have : ((c :: rest).length != 1) = !rest.isEmpty := by cases rest <;> rfl
  rw [this]
  cases c.ext with
  | none => rfl
  | some sg =>
    cases pubFromCN s c.cn with
    | none => rfl
    | some pub => cases them <;> rfl

theorem verifyPeerG_mono {en en' : Check → Bool} (h : ∀ ch, en' ch = true → en ch = true) {them : Option Key}
    (hv : verifyPeerG en s them n raw = none) : verifyPeerG en' s them n raw = none := by
  cases raw with
  | nil => cases hv
  | cons c rest =>
    rw [verifyPeerG_cons, List.find?_eq_none] at hv ⊢
    intro ch hch hp
    rw [Bool.and_eq_true] at hp
    exact hv ch hch (Bool.and_eq_true _ _ ▸ ⟨Check.on_mono h ch hp.1, hp.2⟩)

theorem verifyPeer_none_eq (s : Suite) (t : Key) (n : Nonce) (raw : List Cert) :
    verifyPeer s none n raw = verifyPeerG (fun ch => ch != .expected && ch != .cnIsExpected) s (some t) n raw := by
  cases raw <;> rfl

theorem verifyPeer_cons_eq_none (s : Suite) (them : Option Key) (n : Nonce) (c : Cert) (rest : List Cert) :
    verifyPeer s them n (c :: rest) = none ↔
      rest = [] ∧ c.parses = true ∧ c.count ≠ 0 ∧ c.count = 1 ∧ x509ok c = true ∧
      (∀ t, them = some t → expectedOk t c = true) ∧
      ∃ sg pub, c.ext = some sg ∧ pubFromCN s c.cn = some pub ∧ (∀ t, them = some t → pub = t) ∧
        sg = .sig pub n c.cn := by
  -- `ite_some_eq_none` makes each `if` its conjunct, a proposition, at once (from `verifyPeerG_cons` the Boolean tests of
  -- `objects` would each have to be turned into one first); `schnorrVerify` stays folded until the `if`s are gone
  simp only [verifyPeer, verifyPeerG, ite_some_eq_none, bne, Bool.true_and, List.isEmpty_iff,
    Bool.not_eq_false, Bool.not_eq_eq_eq_not, Bool.not_true, beq_eq_false_iff_ne, ne_eq, Decidable.not_not]
  refine and_congr_right' <| and_congr_right' <| and_congr_right' <| and_congr_right' <| and_congr_right' <|
    and_congr ?_ ?_
  · cases them <;> simp
  · cases c.ext with
    | none => simp
    | some sg =>
      cases pubFromCN s c.cn with
      | none => simp
      | some pub =>
        -- the last two `if`s: `forall_eq'` puts the expected key in for the bound one, `exists_eq_left'` fixes `sg`, `pub`
        cases them <;>
          simp only [ite_some_eq_none, schnorrVerify_iff, Option.some.injEq,
            Bool.not_eq_true', Bool.not_eq_false, beq_eq_false_iff_ne, ne_eq, Decidable.not_not,
            Bool.false_eq_true, not_false_eq_true, true_and, and_true, reduceCtorEq, false_imp_iff,
            implies_true, forall_eq', exists_and_left, exists_eq_left']

theorem expectedOk_of_mem_uris {t : Key} (h : ⟨true, 0, pubToCN t⟩ ∈ c.uris) :
    expectedOk t c = true := by
  rw [expectedOk, List.isEmpty_eq_false_iff.mpr (List.ne_nil_of_mem h)]
  exact List.any_eq_true.mpr ⟨_, h, by simp⟩

theorem receiveServerIdentity_ok {first : First} {dst : Identity}
    (h : receiveServerIdentity s raw first = .ok dst) : first = .identity dst ∧ peerKey s raw = some dst.pub := by
  revert h
  fun_cases receiveServerIdentity s raw first <;> rintro ⟨⟩
  exact ⟨rfl, ‹_›⟩

/-- the common body of `acceptConn` and `acceptSession`; `k` is what each does with the registered identity -/
theorem accept_setup {β : Type} {validPeer : Identity → Bool} {closed : Bool} {first : First}
    {k : Identity → List (Identity × β)} (hk : ∀ dst, ∀ d ∈ k dst, d.1 = dst)
    {d : Identity × β}
    (hd : d ∈ (match verifyPeer s none n raw with
      | some _ => []
      | none =>
        match receiveServerIdentity s raw first with
        | .error _ => []
        | .ok dst => if validPeer dst && !closed then k dst else [])) :
    first = .identity d.1 ∧ verifyPeer s none n raw = none ∧ peerKey s raw = some d.1.pub := by
  split at hd
  · cases hd
  · rename_i hv
    split at hd
    · cases hd
    · rename_i dst hr
      split at hd
      · rw [hk dst d hd]
        exact ⟨(receiveServerIdentity_ok hr).1, hv, (receiveServerIdentity_ok hr).2⟩
      · cases hd

/-- the loop treats the stream frame by frame: what it does with a sequence is what it does with its
parts, one after the other (no frame changes how a later one is handled) -/
theorem handleConn_append (remote : Identity) (l₁ l₂ : List Frame) :
    handleConn remote (l₁ ++ l₂) = handleConn remote l₁ ++ handleConn remote l₂ := by
  induction l₁ with
  | nil => rfl
  | cons f l ih => cases f <;> simp [handleConn, ih]

theorem handleConn_sender (frames : List Frame) (remote : Identity) :
    ∀ d ∈ handleConn remote frames, d.1 = remote := by
  induction frames with
  | nil => exact nofun
  | cons f l ih =>
    cases f with
    | none => exact ih
    | some p => exact List.forall_mem_cons.mpr ⟨rfl, ih⟩

theorem run_cons {S : Setting} {w₀ w : World} {e : Ev} {es : List Ev} (h : run S w₀ (e :: es) = some w) :
    ∃ w', step S w₀ e = some w' ∧ run S w' es = some w := by
  rw [run] at h
  cases hs : step S w₀ e with
  | none => rw [hs] at h; cases h
  | some w' => exact ⟨w', rfl, by rwa [hs] at h⟩

theorem signFor_some {k : Key} {st : Style}
    (h : signFor S w k st n = some w') :
    S.adv k = false ∧ knownNonce w n = true ∧
      w' = if n = .badSize then w else { w with log := (k, n, st.name k) :: w.log } := by
  unfold signFor at h
  by_cases hc : (S.adv k || !knownNonce w n) = true
  · rw [if_pos hc] at h
    cases h
  · rw [if_neg hc, ← apply_ite some] at h
    rw [Bool.or_eq_true, not_or, Bool.not_eq_true, Bool.not_eq_true, Bool.not_eq_false'] at hc
    exact ⟨hc.1, hc.2, (Option.some.inj h).symm⟩

theorem verifyAt_some (h : verifyAt S w i raw = some w') :
    w' = w ∨ ∃ c pub, raw = [c] ∧ pubFromCN S.suite c.cn = some pub ∧ c.ext = some (.sig pub (.hon i) c.cn) ∧
      w' = { w with acc := (i, c) :: w.acc } := by
  unfold verifyAt at h
  split at h
  · cases h
  · split at h
    · rename_i c rest hv
      cases h
      obtain ⟨rfl, -, -, -, -, -, _, pub, hext, hpub, -, rfl⟩ := (verifyPeer_cons_eq_none ..).mp hv
      exact .inr ⟨c, pub, rfl, hpub, hext, rfl⟩
    · cases h
      exact .inl rfl

theorem presentable_mono {adv : Key → Bool} {l l' : List (Key × Nonce × Name)}
    (h : ∀ x, x ∈ l → x ∈ l') {sg : Sig} (hp : presentable adv l sg = true) :
    presentable adv l' sg = true := by
  cases sg with
  | junk i => rfl
  | sig k n cn =>
    simp only [presentable, Bool.or_eq_true, List.contains_iff_mem] at hp ⊢
    exact hp.imp_right (h _)

def Fresh (S : Setting) (w : World) (i : Nat) (c : Cert) : Prop :=
  ∃ pub, pubFromCN S.suite c.cn = some pub ∧ (S.adv pub = true ∨ (pub, .hon i, c.cn) ∈ w.log)

theorem Fresh.mono (hlog : ∀ x, x ∈ w.log → x ∈ w'.log) : Fresh S w i c → Fresh S w' i c :=
  fun ⟨pub, h, hl⟩ => ⟨pub, h, hl.imp_right (hlog _)⟩

theorem validityAt_ok (nb na now : Int) : validityAt nb na now = .ok ↔ nb ≤ now ∧ now ≤ na := by
  fun_cases validityAt nb na now
  · exact ⟨nofun, fun h => absurd h.1 (Int.not_le.mpr ‹_›)⟩
  · exact ⟨nofun, fun h => absurd h.2 (Int.not_le.mpr ‹_›)⟩
  · exact ⟨fun _ => ⟨Int.not_lt.mp ‹_›, Int.not_lt.mp ‹_›⟩, fun _ => rfl⟩

/-- the predicate `newTLSConn` searches the attempts with -/
theorem attempt_passes {them : Key} {a : Option (List Cert)} :
    (match a with
      | some raw => (verifyPeer s (some them) n raw).isNone
      | none => false) = true ↔ ∃ raw, a = some raw ∧ verifyPeer s (some them) n raw = none := by
  cases a <;> simp

theorem acceptFull_some {cfg : TlsCfg} (h : acceptFull cfg s n raw = some raw') :
    raw' = raw ∧ (cfg.requireClientCert = true → cfg.hasVerifier = true → verifyPeer s none n raw = none) := by
  revert h
  -- no certificate and none demanded; the verifier accepts; there is no verifier
  fun_cases acceptFull cfg s n raw <;> rintro ⟨⟩
  · exact ⟨(List.isEmpty_iff.mp ‹_›).symm, fun h => absurd h ‹_›⟩
  · exact ⟨rfl, fun _ _ => Option.isNone_iff_eq_none.mp ‹_›⟩
  · exact ⟨rfl, fun _ h => absurd h ‹_›⟩

theorem acceptHello_proved {cfg : TlsCfg} (ht : cfg.ticketsDisabled = true) (hr : cfg.requireClientCert = true)
    (hv : cfg.hasVerifier = true) {nonce : Nonce} {sessions : List (List Cert)} {h : Hello}
    (hacc : acceptHello cfg s nonce sessions h = some raw) :
    verifyPeer s none nonce raw = none := by
  cases h with
  | full r =>
    obtain ⟨rfl, hp⟩ := acceptFull_some hacc
    exact hp hr hv
  | resume i fb =>
    rw [acceptHello, ht, if_pos rfl] at hacc
    obtain ⟨rfl, hp⟩ := acceptFull_some hacc
    exact hp hr hv

theorem ovStep_accepted {st : OvSt} {e : OvEv} {p : Nat × List Cert}
    (hp : p ∈ (ovStep false s st e).accepted) :
    p ∈ st.accepted ∨ verifyPeer s none (.hon p.1) p.2 = none := by
  revert hp
  fun_cases ovStep false s st e <;> intro hp
  -- a hello
  · exact .inl hp
  -- certificates of an open connection, accepted
  · rename_i c raw _ ha
    rcases List.mem_cons.mp hp with rfl | hp
    · obtain ⟨raw', ha⟩ := Option.isSome_iff_exists.mp ha
      obtain ⟨rfl, hv⟩ := acceptFull_some ha
      exact .inr (hv rfl rfl)
    · exact .inl hp
  -- refused; of a connection that is not open
  · exact .inl hp
  · exact .inl hp

namespace NameBytes

theorem hexEncode_eq : hexEncode = Hex.enc := by
  funext l
  induction l with
  | nil => rfl
  | cons b r ih => rw [hexEncode, ih]; rfl

theorem hexDecode_eq : ∀ l, hexDecode l = Hex.dec l
  | [] => rfl
  | [_] => rfl
  | a :: b :: r => by
    rw [hexDecode, hexDecode_eq r, Hex.dec]
    simp only [Nat.mul_comm 16]
    rfl

theorem fromHexChar_hexDigit : ∀ n, n < 16 → fromHexChar (hexDigit n) = some n := Hex.val_digit

theorem fromHexChar_upper_hexDigit : ∀ n, n < 16 → fromHexChar (upper (hexDigit n)) = some n := by decide

theorem hexDigit_ne_typeByte : ∀ n, n < 16 → hexDigit n ≠ typeByte := by decide

theorem hexEncode_length (bs : List Nat) : (hexEncode bs).length = 2 * bs.length := by
  rw [hexEncode_eq, Hex.enc_length]

theorem pubFromCN_of_hexDecode {P : Type} {g : Group P} (hg : g.Lawful) {p : P} {rest tail : List Nat}
    (h : hexDecode rest = some (g.marshal p ++ tail)) : pubFromCN g (typeByte :: rest) = .ok p := by
  simp only [pubFromCN, if_true, h]
  rw [if_neg (by rw [List.length_append, hg.marshal_len p]; omega), List.take_left' (hg.marshal_len p),
    hg.roundtrip p]

theorem pubFromCN_eq_empty_iff {P : Type} (g : Group P) (cn : List Nat) :
    pubFromCN g cn = .error .empty ↔ cn = [] := by
  cases cn with
  | nil => exact ⟨fun _ => rfl, fun _ => rfl⟩
  | cons c rest =>
    refine ⟨fun h => False.elim ?_, nofun⟩
    -- behind the first test every way out is another error, or a key
    simp only [pubFromCN] at h
    (repeat' split at h) <;> cases h

end NameBytes

end C08

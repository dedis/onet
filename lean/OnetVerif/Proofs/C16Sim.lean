import OnetVerif.Proofs.C16
/-! C16: the storage primitives replace one bucket; a call is one `access` of one bucket its service owns
(`step_touches`), whence frame and locality; one call on the database is simulated by the same call on the
per-service specification.  Core only. -/
namespace C16

theorem putIn_eq (db : Db) (n k v : Bytes) :
    putIn db n k v = (db n).map fun b =>
      if validKey k then (update db n (fun k' => if k' = k then some v else b k'), .ok) else (db, .errTx) := by
  unfold putIn
  cases db n with
  | none => rfl
  | some b =>
    show (if k = [] ∨ k.length > maxKeySize then some (db, Res.errTx) else some (update db n _, Res.ok))
      = some (if validKey k then _ else _)
    by_cases hk : k = [] ∨ k.length > maxKeySize
    · rw [if_pos hk, if_neg (show ¬ validKey k from not_not_intro hk)]
    · rw [if_neg hk, if_pos (show validKey k from hk)]

theorem delIn_eq (db : Db) (n k : Bytes) :
    delIn db n k = (db n).map fun b => (update db n (fun k' => if k' = k then none else b k'), .ok) := by
  unfold delIn; cases db n <;> rfl

theorem getFrom_eq (db : Db) (n k : Bytes) : getFrom db n k = (db n).map (· k) := rfl

/-- one access of bucket `n`: `f` is shown the bucket (`none`: there is none), may replace it, and answers -/
def access (db : Db) (n : Bytes) (f : Option Bucket → Option Bucket × Res) : Db × Res :=
  ((f (db n)).1.elim db (update db n), (f (db n)).2)

theorem access_other (db : Db) (n : Bytes) (f : Option Bucket → Option Bucket × Res) {m : Bytes} (h : m ≠ n) :
    (access db n f).1 m = db m := by
  unfold access
  cases (f (db n)).1 with
  | none => rfl
  | some b => exact update_other _ _ _ _ h

theorem ready_access (db : Db) (n : Bytes) (f : Option Bucket → Option Bucket × Res) {t : Bytes} (h : Ready db t) :
    Ready (access db n f).1 t := by
  unfold access
  cases (f (db n)).1 with
  | none => exact h
  | some b => exact ready_update db n b t h

theorem access_res {db₁ db₂ : Db} {n : Bytes} (h : db₁ n = db₂ n) (f : Option Bucket → Option Bucket × Res) :
    (access db₁ n f).2 = (access db₂ n f).2 := congrArg (fun o => (f o).2) h

/-- stated on the `match` that `step` makes of a write, so that `step`'s cases meet it by computation (likewise the next two) -/
theorem touches_put (n k v : Bytes) (e : Res) :
    ∃ f, ∀ db, (match putIn db n k v with | none => (db, e) | some r => r) = access db n f :=
  ⟨fun o => o.elim (none, e) fun b =>
      if validKey k then (some fun k' => if k' = k then some v else b k', .ok) else (none, .errTx),
    fun db => by
      unfold access
      rw [putIn_eq]
      cases db n with
      | none => rfl
      | some b => dsimp only [Option.map_some, Option.elim]; split <;> rfl⟩

theorem touches_del (n k : Bytes) (e : Res) :
    ∃ f, ∀ db, (match delIn db n k with | none => (db, e) | some r => r) = access db n f :=
  ⟨fun o => o.elim (none, e) fun b => (some fun k' => if k' = k then none else b k', .ok),
    fun db => by unfold access; rw [delIn_eq]; cases db n <;> rfl⟩

theorem touches_get (n k : Bytes) (e r : Res) (g : Bytes → Res) :
    ∃ f, ∀ db, (match getFrom db n k with
      | none => (db, e)
      | some none => (db, r)
      | some (some v) => (db, g v)) = access db n f :=
  ⟨fun o => (none, match o.map (· k) with | none => e | some none => r | some (some v) => g v),
    fun db => by
      dsimp only [access, getFrom]
      cases db n with
      | none => rfl
      | some b => dsimp only [Option.map_some]; cases b k <;> rfl⟩

theorem step_touches (known : List Bytes) (s : Bytes) (op : Op) :
    ∃ n, Owns s n ∧ ∃ f, ∀ db, step known db s op = access db n f := by
  -- by computation a writing call is the match of `touches_put` / `touches_del`, a reading call but `loadVersion` that of `touches_get`
  cases op with
  | save k raw => exact ⟨_, .main, touches_put _ k raw _⟩
  | saveVersion v => exact ⟨_, .version, touches_put ..⟩
  | bput x k v => exact ⟨_, .extra x, touches_put _ k v _⟩
  | bdel x k => exact ⟨_, .extra x, touches_del _ k _⟩
  | addBucket x => exact ⟨_, .extra x, fun o => (some (o.getD fun _ => none), .name (extraName s x)), fun _ => rfl⟩
  | saveBad k => exact ⟨_, .main, fun _ => (none, .errMarshal), fun _ => rfl⟩
  | load k | loadRaw k => exact ⟨_, .main, touches_get _ k _ _ _⟩
  | bget x k => exact ⟨_, .extra x, touches_get _ k _ _ _⟩
  | loadVersion =>
    -- the answer is read off a database whose every bucket is the version bucket; every branch of the decision returns `db` itself
    refine ⟨_, .version, fun o => (none, (step known (fun _ => o) s .loadVersion).2), fun db => ?_⟩
    dsimp only [step, access, getFrom]
    exact Prod.ext (by split <;> (try split) <;> rfl) (by split <;> (try split) <;> rfl)

theorem step_frame (known : List Bytes) (db : Db) (s : Bytes) (op : Op) (n : Bytes) (hn : ¬ Owns s n) :
    (step known db s op).1 n = db n := by
  obtain ⟨m, hm, f, hf⟩ := step_touches known s op
  rw [hf]
  exact access_other db m f fun e => hn (e ▸ hm)

theorem ready_step (known : List Bytes) (db : Db) (s : Bytes) (op : Op) (t : Bytes) (h : Ready db t) :
    Ready (step known db s op).1 t := by
  obtain ⟨n, -, f, hf⟩ := step_touches known s op
  rw [hf]
  exact ready_access db n f h

theorem step_local (known : List Bytes) (db₁ db₂ : Db) (s : Bytes) (op : Op)
    (h : ∀ n, Owns s n → db₁ n = db₂ n) : (step known db₁ s op).2 = (step known db₂ s op).2 := by
  obtain ⟨n, hn, f, hf⟩ := step_touches known s op
  rw [hf, hf]
  exact access_res (h n hn) f

theorem abs_congr {db₁ db₂ : Db} {t : Bytes} (h : ∀ n, Owns t n → db₁ n = db₂ n) :
    SameAt t (abs db₁) (abs db₂) :=
  ⟨funext fun k => congrArg (·.bind (· k)) (h _ .main), congrArg (·.bind (· dbVersionKey)) (h _ .version),
   funext fun x => h _ (.extra x)⟩

theorem abs_update_main (db : Db) (s : Bytes) (b : Bucket) :
    SameAt s (abs (update db (mainName s) b)) { abs db with main := fun _ => b } :=
  ⟨funext fun _ => (content_update ..).trans (if_pos rfl),
   (content_update ..).trans (if_neg (main_ne_version s).symm),
   funext fun x => update_other _ _ _ _ (main_ne_extra s x).symm⟩

theorem abs_update_version (db : Db) (s : Bytes) (b : Bucket) :
    SameAt s (abs (update db (versionName s) b)) { abs db with ver := fun _ => b dbVersionKey } :=
  ⟨funext fun _ => (content_update ..).trans (if_neg (main_ne_version s)),
   (content_update ..).trans (if_pos rfl),
   funext fun x => update_other _ _ _ _ (version_ne_extra s x).symm⟩

theorem sameAt_extra {db : Db} {σ : Spec} {s : Bytes} (ha : SameAt s (abs db) σ) (x : Bytes) (b : Bucket) :
    SameAt s (abs (update db (extraName s x) b))
      { σ with extra := fun s' x' => if s' = s ∧ x' = x then some b else σ.extra s' x' } ∧
    ∀ t, t ≠ s → SameAt t { σ with extra := fun s' x' => if s' = s ∧ x' = x then some b else σ.extra s' x' } σ := by
  refine ⟨⟨.trans (funext fun k => ?_) ha.1, .trans ?_ ha.2.1, funext fun x' => ?_⟩,
    fun t e => ⟨rfl, rfl, funext fun x' => if_neg fun h => e h.1⟩⟩
  · exact (content_update ..).trans (if_neg (main_ne_extra s x))
  · exact (content_update ..).trans (if_neg (version_ne_extra s x))
  · show (if extraName s x' = extraName s x then some b else db (extraName s x')) = ite (s = s ∧ x' = x) _ _
    simp only [extra_inj, true_and, ← ha.2.2]
    rfl

theorem step_own (known : List Bytes) (db : Db) (σ : Spec) (s : Bytes) (op : Op) (hr : Ready db s)
    (ha : SameAt s (abs db) σ) :
    (step known db s op).2 = (specStep known σ s op).2 ∧
    SameAt s (abs (step known db s op).1) (specStep known σ s op).1 ∧
    ∀ t, t ≠ s → SameAt t (specStep known σ s op).1 σ := by
  have keep : ∀ t, t ≠ s → SameAt t σ σ := fun t _ => .refl t σ
  obtain ⟨gm, gv, ge⟩ := id ha
  obtain ⟨bm, hbm⟩ := Option.isSome_iff_exists.mp hr.1
  obtain ⟨bv, hbv⟩ := Option.isSome_iff_exists.mp hr.2
  have hmain : σ.main s = bm := by rw [← gm]; funext k; show (db (mainName s)).bind (· k) = _; rw [hbm]; rfl
  have hver : σ.ver s = bv dbVersionKey := by rw [← gv]; show (db (versionName s)).bind _ = _; rw [hbv]; rfl
  have hextra : ∀ x, σ.extra s x = db (extraName s x) := fun x => (congrFun ge x).symm
  cases op with
  | save k raw =>
    dsimp only [step, specStep]
    rw [putIn_eq, hbm, Option.map_some]
    by_cases hk : validKey k
    · rw [if_pos hk, if_pos hk]
      refine ⟨rfl, (abs_update_main db s _).trans ⟨funext fun k' => ?_, gv, ge⟩,
        fun t e => ⟨funext fun k' => if_neg fun h => e h.1, rfl, rfl⟩⟩
      show (if k' = k then some raw else bm k') = ite (s = s ∧ k' = k) _ _
      simp only [true_and, hmain]
    · rw [if_neg hk, if_neg hk]; exact ⟨rfl, ha, keep⟩
  | saveBad k => exact ⟨rfl, ha, keep⟩
  | load k | loadRaw k =>
    dsimp only [step, specStep]
    rw [getFrom_eq, hbm, Option.map_some, hmain]
    cases bm k <;> exact ⟨rfl, ha, keep⟩
  | saveVersion v =>
    dsimp only [step, specStep]
    rw [putIn_eq, hbv, Option.map_some, if_pos dbVersionKey_valid]
    refine ⟨rfl, (abs_update_version db s _).trans ⟨gm, ?_, ge⟩, fun t e => ⟨rfl, if_neg e, rfl⟩⟩
    show (if dbVersionKey = dbVersionKey then some (encodeVersion v) else bv dbVersionKey)
      = if s = s then some (encodeVersion v) else σ.ver s
    rw [if_pos rfl, if_pos rfl]
  | loadVersion =>
    dsimp only [step, specStep]
    rw [getFrom_eq, hbv, Option.map_some, hver]
    cases bv dbVersionKey with
    | none => exact ⟨rfl, ha, keep⟩
    | some b =>
      cases b with
      | nil => exact ⟨rfl, ha, keep⟩
      | cons c r =>
        dsimp only
        cases decodeVersion (c :: r) <;> exact ⟨rfl, ha, keep⟩
  | addBucket x =>
    dsimp only [step, specStep]
    rw [createBucket_eq, hextra]
    exact ⟨rfl, sameAt_extra ha x _⟩
  | bput x k v =>
    dsimp only [step, specStep]
    rw [putIn_eq, hextra]
    cases db (extraName s x) with
    | none => exact ⟨rfl, ha, keep⟩
    | some b =>
      dsimp only [Option.map_some]
      by_cases hk : validKey k
      · rw [if_pos hk, if_pos hk]; exact ⟨rfl, sameAt_extra ha x _⟩
      · rw [if_neg hk, if_neg hk]; exact ⟨rfl, ha, keep⟩
  | bget x k =>
    dsimp only [step, specStep]
    rw [getFrom_eq, hextra]
    cases db (extraName s x) with
    | none => exact ⟨rfl, ha, keep⟩
    | some b => dsimp only [Option.map_some]; cases b k <;> exact ⟨rfl, ha, keep⟩
  | bdel x k =>
    dsimp only [step, specStep]
    rw [delIn_eq, hextra]
    cases db (extraName s x) with
    | none => exact ⟨rfl, ha, keep⟩
    | some b => exact ⟨rfl, sameAt_extra ha x _⟩

theorem step_own₂ (known : List Bytes) (db : Db) (s : Bytes) (op op' : Op) (hr : Ready db s) :
    (step known (step known db s op).1 s op').2 =
      (specStep known (specStep known (abs db) s op).1 s op').2 :=
  (step_own known _ _ s op' (ready_step known db s op s hr)
    (step_own known db (abs db) s op hr (.refl _ _)).2.1).1

/-- **one call is simulated by the specification** -/
theorem sim_step (known : List Bytes) {S : List Bytes} (hS : PairwiseIndep S) (db : Db) (σ : Spec)
    {s : Bytes} (hs : s ∈ S) (hr : ∀ t ∈ S, Ready db t) (ha : AgreeOn S (abs db) σ) (op : Op) :
    (step known db s op).2 = (specStep known σ s op).2 ∧
    AgreeOn S (abs (step known db s op).1) (specStep known σ s op).1 ∧
    ∀ t ∈ S, Ready (step known db s op).1 t := by
  have ha := agreeOn_iff.mp ha
  obtain ⟨hres, hown, hoth⟩ := step_own known db σ s op (hr s hs) (ha s hs)
  refine ⟨hres, agreeOn_iff.mpr fun t ht => ?_, fun t ht => ready_step known db s op t (hr t ht)⟩
  by_cases e : t = s
  · exact e ▸ hown
  · -- another service owns none of the buckets the call may have replaced
    have hI : Indep s t := hS s hs t ht (Ne.symm e)
    have hdb : SameAt t (abs (step known db s op).1) (abs db) :=
      abs_congr fun n hn => step_frame known db s op n fun hsn => names_disjoint hI hsn hn
    exact hdb.trans (SameAt.trans (ha t ht) (hoth t e).symm)

/-- a restart with services from `S` is invisible to the services in `S` -/
theorem sim_restart {S : List Bytes} (hS : PairwiseIndep S) (db : Db) (l : List Bytes) (hl : ∀ t ∈ l, t ∈ S) :
    AgreeOn S (abs (startServer db l)) (abs db) := by
  refine agreeOn_iff.mpr fun s hs => ?_
  refine ⟨funext fun k => content_startServer .., content_startServer .., funext fun x => ?_⟩
  apply startServer_other
  intro t ht
  by_cases e : t = s
  · subst e; exact ⟨(main_ne_extra t x).symm, (version_ne_extra t x).symm⟩
  · have hI : Indep s t := hS s hs t (hl t ht) (Ne.symm e)
    exact ⟨fun h => names_disjoint hI (Owns.extra x) (h ▸ Owns.main),
           fun h => names_disjoint hI (Owns.extra x) (h ▸ Owns.version)⟩

end C16

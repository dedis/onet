import OnetVerif.Model.C01
import OnetVerif.Proofs.Sched
import OnetVerif.Proofs.Lists
/-! Property C01, receive path (`Model/C01.lean`): `step` and `stepTh` are read off once as relations (`Step`: the
enabled actions, `Region`: the regions of an arrival thread); every step invariant is a case analysis on them.
Core-only. -/
namespace C01

/-- thread `t` still carries message `m`: it has neither handed it over nor parked it -/
def pre (m : Nat) (t : Th) : Bool := t.m == m && (t.pc == .lookup || t.pc == .park)
def at_ (p : Pc) (t : Th) : Bool := t.pc == p

/-- the invariant: conservation of messages plus "somebody will still flush what is parked" -/
structure Inv (s : St) : Prop where
  /-- every arrived message is in exactly one place: delivered, parked, or carried by a thread
  that has not parked or delivered it yet -/
  cons : ∀ m, s.arrived.count m = s.delivered.count m + s.refused.count m + s.parked.count m + s.thr.countP (pre m)
  /-- a requested tree has a request in flight or about to leave -/
  reqd : s.tree = .requested → 0 < s.reqs ∨ 0 < s.thr.countP (at_ .send)
  /-- tree present and something parked: a flush is pending or the parking thread will re-check -/
  pres : s.tree = .present → s.parked ≠ [] → 0 < s.flushes ∨ 0 < s.thr.countP (at_ .recheck)
  /-- tree unknown and something parked: its thread is still on the way to request the tree -/
  abst : s.tree = .absent → s.parked ≠ [] →
          0 < s.thr.countP (at_ .recheck) ∨ 0 < s.thr.countP (at_ .chk) ∨ 0 < s.thr.countP (at_ .reg)

theorem inv_init : Inv {} := by
  constructor <;> simp

theorem run_skips : Sched.Skips step run := ⟨fun _ => rfl, fun s a as => by rw [run]; cases step s a <;> rfl⟩

/-- one constructor per way `step` answers `some`, with its guard -/
inductive Step (s : St) : Act → St → Prop
  | arrive (m : Nat) : Step s (.arrive m) { s with arrived := s.arrived ++ [m], thr := s.thr ++ [⟨m, .lookup⟩] }
  | thread {i : Nat} {t : Th} : s.thr[i]? = some t → t.pc ≠ .done → Step s (.thread i) (stepTh s i t)
  | answer : s.reqs ≠ 0 → s.tree = .requested →
      Step s .respond { s with reqs := s.reqs - 1, tree := .present, flushes := s.flushes + 1 }
  | lateAnswer : s.reqs ≠ 0 → s.tree ≠ .requested → Step s .respond { s with reqs := s.reqs - 1 }
  | localSet : Step s .localSet { s with tree := .present, flushes := s.flushes + 1 }
  | flush : s.flushes ≠ 0 →
      Step s .flush { s with flushes := s.flushes - 1, parked := [],
                             thr := s.thr ++ s.parked.map (fun m => ⟨m, .lookup⟩) }
  | expire : s.tree = .present ∧ s.insts ≠ [] ∧ s.parked = [] ∧ s.flushes = 0 ∧ (∀ t ∈ s.thr, t.pc = .done) →
      Step s .expire { s with tree := .absent, insts := [] }
  | localStart : Step s .localStart
      { s with tree := .present, flushes := s.flushes + 1,
               insts := (if s.insts.contains localTok then s.insts else s.insts ++ [localTok]) }

theorem Step.of_eq {s s' : St} {a : Act} (hs : step s a = some s') : Step s a s' := by
  revert hs
  fun_cases step s a <;> rintro ⟨⟩
  · exact .arrive _
  · exact .thread ‹_› ‹_›
  · exact .answer ‹_› ‹_›
  · exact .lateAnswer ‹_› ‹_›
  · exact .localSet
  · exact .flush ‹_›
  · exact .expire ‹_›
  · exact .localStart

/-- `stepTh` without the thread list: from pc, to pc, the rest of the state afterwards -/
inductive Region (s : St) (m : Nat) : Pc → Pc → St → Prop
  | refuse : s.tree = .present → bad m = true → Region s m .lookup .done { s with refused := s.refused ++ [m] }
  | deliver : s.tree = .present → bad m = false →
      Region s m .lookup .done
        { s with delivered := s.delivered ++ [m],
                 insts := (if s.insts.contains (tok m) then s.insts else s.insts ++ [tok m]),
                 flushes := (if createFlush s m then s.flushes + 1 else s.flushes) }
  | miss : s.tree ≠ .present → Region s m .lookup .park s
  | park : Region s m .park .recheck { s with parked := s.parked ++ [m] }
  | found : s.tree = .present → Region s m .recheck .done { s with flushes := s.flushes + 1 }
  | notFound : s.tree ≠ .present → Region s m .recheck .chk s
  | unknown : s.tree = .absent → Region s m .chk .reg s
  | known : s.tree ≠ .absent → Region s m .chk .done s
  | register : Region s m .reg .send { s with tree := (if s.tree = .absent then .requested else s.tree) }
  | request : Region s m .send .done { s with reqs := s.reqs + 1 }

theorem stepTh_region (s : St) (i m : Nat) {a : Pc} (hnd : a ≠ .done) :
    ∃ b s₁, Region s m a b s₁ ∧ stepTh s i ⟨m, a⟩ = { s₁ with thr := s.thr.set i ⟨m, b⟩ } := by
  fun_cases stepTh s i ⟨m, a⟩ <;> subst ‹Th.pc _ = _›
  · exact ⟨_, _, .refuse ‹_› ‹_›, rfl⟩
  · exact ⟨_, _, .deliver ‹_› (eq_false_of_ne_true ‹_›), rfl⟩
  · exact ⟨_, _, .miss ‹_›, rfl⟩
  · exact ⟨_, _, .park, rfl⟩
  · exact ⟨_, _, .found ‹_›, rfl⟩
  · exact ⟨_, _, .notFound ‹_›, rfl⟩
  · exact ⟨_, _, .unknown ‹_›, rfl⟩
  · exact ⟨_, _, .known ‹_›, rfl⟩
  · exact ⟨_, _, .register, rfl⟩
  · exact ⟨_, _, .request, rfl⟩
  · exact absurd rfl hnd

theorem move_counts {l : List Th} {i : Nat} {m0 : Nat} {a : Pc} (h : l[i]? = some ⟨m0, a⟩) (b : Pc) :
    let l' := l.set i ⟨m0, b⟩
    (∀ p, l'.countP (at_ p) + (if a = p then 1 else 0) = l.countP (at_ p) + (if b = p then 1 else 0)) ∧
    (∀ m, l'.countP (pre m) + (if pre m ⟨m0, a⟩ then 1 else 0)
            = l.countP (pre m) + (if pre m ⟨m0, b⟩ then 1 else 0)) := by
  refine ⟨fun p => ?_, fun m => List.countP_set' h⟩
  have := List.countP_set' (p := at_ p) (t' := ⟨m0, b⟩) h
  simpa [at_] using this

theorem Region.cons {s s₁ : St} {m0 : Nat} {a b : Pc} (hr : Region s m0 a b s₁) (m : Nat) :
    s₁.arrived = s.arrived ∧
    s₁.delivered.count m + s₁.refused.count m + s₁.parked.count m + (if pre m ⟨m0, b⟩ then 1 else 0)
      = s.delivered.count m + s.refused.count m + s.parked.count m + (if pre m ⟨m0, a⟩ then 1 else 0) := by
  -- the thread holds its message (`pre`) at `lookup` and `park` only; a region that takes it from there appends it
  -- to exactly one of the three lists, every other region leaves lists and `pre` alone
  cases hr <;>
    simp only [pre, List.count_append, List.count_singleton, beq_iff_eq, Bool.and_eq_true, Bool.or_eq_true,
      reduceCtorEq, or_self, or_true, true_or, and_true, and_false, if_false, Nat.add_zero, true_and] <;>
    omega

theorem pos_stay {l : List Th} {i m0 : Nat} {a p : Pc} (h : l[i]? = some ⟨m0, a⟩) (b : Pc) (hne : a ≠ p)
    (hp : 0 < l.countP (at_ p)) : 0 < (l.set i ⟨m0, b⟩).countP (at_ p) := by
  have := (move_counts h b).1 p
  rw [if_neg hne] at this; omega

theorem pos_at {l : List Th} {i m0 : Nat} {a : Pc} (h : l[i]? = some ⟨m0, a⟩) (b : Pc) :
    0 < (l.set i ⟨m0, b⟩).countP (at_ b) :=
  List.countP_pos_iff.mpr ⟨_, List.mem_set (List.lt_length_of_getElem? h) _, beq_self_eq_true b⟩

theorem inv_thread (s : St) (i : Nat) (t : Th) (hI : Inv s) (ht : s.thr[i]? = some t)
    (hnd : t.pc ≠ .done) : Inv (stepTh s i t) := by
  obtain ⟨m0, a⟩ := t
  obtain ⟨b, s₁, hr, e⟩ := stepTh_region s i m0 (a := a) hnd
  rw [e]
  refine { cons := fun m => ?_, reqd := ?_, pres := ?_, abst := ?_ }
  · have h1 := hI.cons m; have h2 := (move_counts ht b).2 m; have ⟨h3, h4⟩ := hr.cons m
    dsimp only; rw [h3]; omega
  -- Each liveness clause names the regions that touch it; in every other region the thread does not leave a pc the
  -- clause counts, so the old evidence survives (`pos_stay`).
  · cases hr with
    | register => exact fun _ => .inr (pos_at ht _)
    | request => exact fun _ => .inl (Nat.succ_pos _)
    | _ => exact fun h => (hI.reqd h).imp_right (pos_stay ht _ nofun)
  · cases hr with
    | deliver =>
      refine fun h hne => (hI.pres h hne).imp (fun hf => ?_) (pos_stay ht _ nofun)
      dsimp only; split
      · exact Nat.succ_pos _
      · exact hf
    | park => exact fun _ _ => .inr (pos_at ht _)
    | found => exact fun _ _ => .inl (Nat.succ_pos _)
    | notFound hpr => exact fun h => absurd h hpr
    | register =>
      intro h
      dsimp only at h; split at h
      · cases h
      · exact fun hne => (hI.pres h hne).imp_right (pos_stay ht _ nofun)
    | _ => exact fun h hne => (hI.pres h hne).imp_right (pos_stay ht _ nofun)
  · cases hr with
    | park => exact fun _ _ => .inl (pos_at ht _)
    | found hpr => intro h; rw [hpr] at h; cases h
    | notFound => exact fun _ _ => .inr (.inl (pos_at ht _))
    | unknown => exact fun _ _ => .inr (.inr (pos_at ht _))
    | known hab => exact fun h => absurd h hab
    | register =>
      intro h
      dsimp only at h; split at h
      · cases h
      · contradiction
    | _ => exact fun h hne =>
      (hI.abst h hne).imp (pos_stay ht _ nofun) (.imp (pos_stay ht _ nofun) (pos_stay ht _ nofun))

theorem countP_pre_spawn (m : Nat) (ms : List Nat) :
    (ms.map (fun x => (⟨x, .lookup⟩ : Th))).countP (pre m) = ms.count m := by
  rw [List.countP_map]
  exact List.countP_congr fun x _ => by simp [pre]

theorem inv_step (s s' : St) (a : Act) (hI : Inv s) (hs : step s a = some s') : Inv s' := by
  cases Step.of_eq hs with
  | thread ht hnd => exact inv_thread s _ _ hI ht hnd
  | arrive m =>
    refine { cons := fun m' => ?_, reqd := ?_, pres := ?_, abst := ?_ } <;> dsimp only
    · have := hI.cons m'
      rw [List.count_append, List.countP_append, List.count_singleton, List.countP_singleton]
      simp only [pre, beq_self_eq_true, Bool.true_or, Bool.and_true, beq_iff_eq]
      omega
    · exact fun h => (hI.reqd h).imp_right (List.countP_pos_append _)
    · exact fun h hne => (hI.pres h hne).imp_right (List.countP_pos_append _)
    · exact fun h hne =>
        (hI.abst h hne).imp (List.countP_pos_append _) (.imp (List.countP_pos_append _) (List.countP_pos_append _))
  | answer | localSet | localStart =>
    refine { hI with reqd := ?_, pres := ?_, abst := ?_ } <;> dsimp only
    · intro h; cases h
    · exact fun _ _ => .inl (Nat.succ_pos _)
    · intro h; cases h
  | lateAnswer hreq htr => exact { hI with reqd := fun h => absurd h htr }
  | expire hg =>
    refine { hI with reqd := ?_, pres := ?_, abst := ?_ } <;> dsimp only
    · intro h; cases h
    · intro h; cases h
    · intro _ hne; exact absurd hg.2.2.1 hne
  | flush hfl =>
    refine { cons := fun m => ?_, reqd := ?_, pres := ?_, abst := ?_ } <;> dsimp only
    · have := hI.cons m
      rw [List.countP_append, countP_pre_spawn, List.count_nil]; omega
    · exact fun h => (hI.reqd h).imp_right (List.countP_pos_append _)
    · intro _ hne; exact absurd rfl hne
    · intro _ hne; exact absurd rfl hne

theorem countP_eq_zero_of_done {l : List Th} (hd : ∀ t ∈ l, t.pc = .done) {q : Th → Bool}
    (hq : ∀ m, q ⟨m, .done⟩ = false) : l.countP q = 0 := by
  rw [List.countP_eq_zero]
  intro t ht
  have := hd t ht
  obtain ⟨m, pc⟩ := t
  subst this
  rw [hq]; exact Bool.false_ne_true

theorem refused_only_bad_step (s s' : St) (a : Act) (h : ∀ m ∈ s.refused, bad m = true)
    (hs : step s a = some s') : ∀ m ∈ s'.refused, bad m = true := by
  cases Step.of_eq hs with
  | @thread i t ht hnd =>
    obtain ⟨m0, pc⟩ := t
    obtain ⟨b, s₁, hr, e⟩ := stepTh_region s i m0 (a := pc) hnd
    rw [e]
    cases hr with
    | refuse _ hb => exact List.forall_mem_concat h hb
    | _ => exact h
  | _ => exact h

theorem insts_tree_step (s s' : St) (a : Act) (h : s.insts ≠ [] → s.tree = .present) (hs : step s a = some s') :
    s'.insts ≠ [] → s'.tree = .present := by
  cases Step.of_eq hs with
  | @thread i t ht hnd =>
    obtain ⟨m0, pc⟩ := t
    obtain ⟨b, s₁, hr, e⟩ := stepTh_region s i m0 (a := pc) hnd
    rw [e]
    cases hr with
    | deliver hpr _ => exact fun _ => hpr
    | register =>
      intro hne
      have := h hne
      show (if s.tree = .absent then .requested else s.tree) = TS.present
      rw [this]; rfl
    | _ => exact h
  | expire => exact fun hne => absurd rfl hne
  | answer | localSet | localStart => exact fun _ => rfl
  | _ => exact h

end C01

import OnetVerif.Proofs.C20Lemmas
/-! Property C20 — the transcription of `netip.parseIPv4Fields` (`v4loop`) accepts exactly the IPv4 literals of the
independent grammar (`Octet`, `IPv4` in `Proofs/C20Spec.lean`), and `net.ParseIP ≠ nil` exactly those and the IPv6
literals.  Core only. -/
namespace C20

theorem octet_nodot {f : Str} (h : Octet f) : 46 ∉ f := not_mem_digits h.1.2 rfl

theorem foldl_dec_ge (r : Str) (acc : Nat) : acc ≤ r.foldl (fun a d => a * 10 + (d - 48)) acc := by
  induction r generalizing acc with
  | nil => exact Nat.le_refl _
  | cons d r ih =>
    exact Nat.le_trans (Nat.le_trans (Nat.le_mul_of_pos_right acc (by decide)) (Nat.le_add_right _ _)) (ih _)

theorem decVal_snoc (pre : Str) (c : Nat) : decVal (pre ++ [c]) = decVal pre * 10 + (c - 48) := by
  simp only [decVal, List.foldl_append, List.foldl_cons, List.foldl_nil]

theorem decVal_append_ge (pre f : Str) : decVal pre ≤ decVal (pre ++ f) := by
  simp only [decVal, List.foldl_append]
  exact foldl_dec_ge f _

theorem decVal_single_zero {a : Nat} (ha : isDigit a = true) : decVal [a] = 0 ↔ a = 48 := by
  obtain ⟨x, _, rfl⟩ := digit_val ha
  simp only [decVal, List.foldl_cons, List.foldl_nil, Nat.zero_mul, Nat.zero_add, Nat.add_sub_cancel]
  exact ⟨fun e => by rw [e], fun e => Nat.add_right_cancel (m := 48) (by rw [e])⟩

/-- `hz` and `hv` are the two tests of the digit branch of `parseIPv4Fields` -/
theorem octet_snoc {pre : Str} {c : Nat} (hpre : pre = [] ∨ Octet pre) (hc : isDigit c = true)
    (hz : ¬ (pre.length = 1 ∧ decVal pre = 0)) (hv : decVal pre * 10 + (c - 48) ≤ 255) : Octet (pre ++ [c]) := by
  refine ⟨⟨by simp, ?_⟩, by rwa [decVal_snoc], ?_⟩
  · intro d hd
    rcases List.mem_append.mp hd with hd | hd
    · rcases hpre with rfl | hp
      · cases hd
      · exact hp.1.2 d hd
    · rw [List.mem_singleton.mp hd]; exact hc
  · rcases pre with _ | ⟨a, _ | ⟨b, r⟩⟩
    · exact fun hl => absurd hl (Nat.lt_irrefl 1)
    · intro _ e
      have hp := hpre.resolve_left (List.cons_ne_nil _ _)
      exact hz ⟨rfl, (decVal_single_zero (hp.1.2 a (List.mem_cons_self ..))).mpr (Option.some.inj e)⟩
    · exact fun _ => (hpre.resolve_left (List.cons_ne_nil _ _)).2.2 (Nat.lt_add_left_iff_pos.mpr (Nat.succ_pos _))

/-- the loop started inside a field: `pre` is the part of it already read, the state `(val, digLen)` is `(decVal pre, pre.length)` -/
theorem v4loop_iff (s : Str) : ∀ (pre : Str) (pos : Nat) (first prevDot : Bool),
    (pre = [] ∨ Octet pre) → ((first = true ∨ prevDot = true) ↔ pre = []) → pos ≤ 3 → (pre = [] → s = [] → pos < 3) →
    (v4loop s (decVal pre) pos pre.length first prevDot = true ↔
      ∃ f fs, splitDot s = f :: fs ∧ Octet (pre ++ f) ∧ (∀ g ∈ fs, Octet g) ∧ pos + fs.length = 3) := by
  induction s with
  | nil =>
    intro pre pos first prevDot hpre _ hpos hend
    simp only [v4loop, splitDot, decide_eq_true_eq, List.exists_cons_eq, List.append_nil, List.length_nil, Nat.add_zero]
    constructor
    · intro hp
      have hne : pre ≠ [] := fun e => Nat.lt_irrefl 3 (Nat.lt_of_le_of_lt hp (hend e rfl))
      exact ⟨hpre.resolve_left hne, nofun, Nat.le_antisymm hpos hp⟩
    · rintro ⟨_, _, hp⟩
      exact Nat.le_of_eq hp.symm
  | cons c rest ih =>
    intro pre pos first prevDot hpre hflag hpos _
    obtain ⟨f', fs, hsp⟩ := List.exists_cons_of_ne_nil (splitDot_ne_nil rest)
    by_cases hdig : isDigit c = true
    · have hc46 : c ≠ 46 := fun e => by rw [e] at hdig; cases hdig
      have happ : pre ++ c :: f' = pre ++ [c] ++ f' := List.append_cons pre c f'
      rw [splitDot, if_neg hc46, hsp, List.exists_cons_eq]
      simp only [v4loop, hdig, if_true]
      by_cases hz : pre.length = 1 ∧ decVal pre = 0
      · -- `pre` is `0`: no further digit
        rw [if_pos hz]
        simp only [Bool.false_eq_true, false_iff]
        rintro ⟨ho, _⟩
        obtain ⟨a, rfl⟩ := List.length_eq_one_iff.mp hz.1
        have ha := (decVal_single_zero (ho.1.2 a (List.mem_cons_self ..))).mp hz.2
        exact ho.2.2 (Nat.lt_add_left_iff_pos.mpr (Nat.succ_pos _)) (by rw [ha]; rfl)
      · rw [if_neg hz]
        by_cases hbig : decVal pre * 10 + (c - 48) > 255
        · rw [if_pos hbig]
          simp only [Bool.false_eq_true, false_iff]
          rintro ⟨ho, _⟩
          have := Nat.le_trans (decVal_append_ge (pre ++ [c]) f') (happ ▸ ho.2.1)
          rw [decVal_snoc] at this
          exact Nat.not_le.mpr hbig this
        · rw [if_neg hbig]
          have := ih (pre ++ [c]) pos false false (Or.inr (octet_snoc hpre hdig hz (Nat.not_lt.mp hbig)))
            (by simp) hpos (fun e => absurd e (by simp))
          rw [decVal_snoc, List.length_append, hsp, List.exists_cons_eq, ← happ] at this
          exact this
    · by_cases hdot : c = 46
      · subst hdot
        rw [splitDot, if_pos rfl, hsp, List.exists_cons_eq]
        simp only [v4loop, hdig, Bool.false_eq_true, if_false, if_true, List.append_nil, List.forall_mem_cons,
          List.length_cons]
        by_cases hbad : (first || rest.isEmpty || prevDot) = true
        · -- an empty field before or after this dot
          rw [if_pos hbad]
          simp only [Bool.false_eq_true, false_iff]
          rintro ⟨ho, ⟨hf', _⟩, _⟩
          simp only [Bool.or_eq_true, List.isEmpty_iff] at hbad
          have hne : pre ≠ [] := fun e => ho.1.1 e
          rcases hbad with (hf | hr) | hpd
          · exact hne (hflag.mp (Or.inl hf))
          · rw [hr, splitDot] at hsp
            exact hf'.1.1 (List.cons.inj hsp).1.symm
          · exact hne (hflag.mp (Or.inr hpd))
        · rw [if_neg hbad]
          simp only [Bool.or_eq_true, List.isEmpty_iff, not_or] at hbad
          obtain ⟨⟨hf, hr⟩, hpd⟩ := hbad
          have hne : pre ≠ [] := fun e => (hflag.mpr e).elim hf hpd
          by_cases hp3 : pos = 3
          · rw [if_pos hp3]
            simp only [Bool.false_eq_true, false_iff]
            rintro ⟨_, _, hp⟩
            omega
          · rw [if_neg hp3]
            have := ih [] (pos + 1) false true (Or.inl rfl) ⟨fun _ => rfl, fun _ => Or.inr rfl⟩ (by omega)
              (fun _ e => absurd e hr)
            rw [hsp, List.exists_cons_eq, List.nil_append] at this
            rw [show v4loop rest 0 (pos + 1) 0 false true = true ↔ _ from this]
            exact ⟨fun ⟨a, b, c⟩ => ⟨hpre.resolve_left hne, ⟨a, b⟩, by omega⟩, fun ⟨_, ⟨a, b⟩, c⟩ => ⟨a, b, by omega⟩⟩
      · rw [splitDot, if_neg hdot, hsp, List.exists_cons_eq]
        simp only [v4loop, hdig, Bool.false_eq_true, if_false, hdot, false_iff]
        rintro ⟨ho, _⟩
        exact hdig (ho.1.2 c (List.mem_append_right _ (List.mem_cons_self ..)))

/-- **`parseIPv4` accepts exactly the dotted quads** -/
theorem parseIPv4_iff (s : Str) : parseIPv4 s = true ↔ IPv4 s := by
  have := v4loop_iff s [] 0 true false (Or.inl rfl) ⟨fun _ => rfl, fun _ => Or.inl rfl⟩ (Nat.zero_le 3)
    (fun _ _ => by decide)
  rw [show parseIPv4 s = true ↔ _ from this]
  constructor
  · rintro ⟨f, fs, hsp, hf, hoct, hp⟩
    match fs, hp, hoct, hsp with
    | [b, c, d], _, hoct, hsp =>
      refine ⟨f, b, c, d, hf, hoct b (by simp), hoct c (by simp), hoct d (by simp), ?_⟩
      rw [← (joinDot_splitDot s).1, hsp]
      rfl
  · rintro ⟨a, b, c, d, ha, hb, hc, hd, rfl⟩
    refine ⟨a, [b, c, d], ?_, ha, by simpa using ⟨hb, hc, hd⟩, rfl⟩
    rw [splitDot_append_dot (octet_nodot ha), splitDot_append_dot (octet_nodot hb),
      splitDot_append_dot (octet_nodot hc), splitDot_nodot (octet_nodot hd)]

theorem ipv4_find {s : Str} (h : IPv4 s) :
    s.find? (fun c => c = 46 || c = 58 || c = 37) = some 46 := by
  obtain ⟨a, b, c, d, ha, _, _, _, rfl⟩ := h
  have hnone : a.find? (fun c => c = 46 || c = 58 || c = 37) = none := by
    rw [List.find?_eq_none]
    intro x hx
    have := ha.1.2 x hx
    simp [isDigit] at this ⊢
    omega
  rw [List.find?_append, hnone]
  simp

/-- **`net.ParseIP ≠ nil` accepts exactly the IPv4 literals of the grammar and the IPv6 literals** -/
theorem parseIP_iff (s : Str) : parseIP s = true ↔ (IPv4 s ∨ IPv6Lit s) := by
  -- both sides go by the first of `.`, `:`, `%` in `s`
  have h4 : IPv4 s ↔ s.find? (fun c => c = 46 || c = 58 || c = 37) = some 46 ∧ parseIPv4 s = true := by
    rw [parseIPv4_iff]; exact ⟨fun h => ⟨ipv4_find h, h⟩, And.right⟩
  rw [h4, IPv6Lit, parseIP]
  cases s.find? (fun c => c = 46 || c = 58 || c = 37) with
  | none => simp
  | some c =>
    by_cases h46 : c = 46
    · simp [h46]
    · by_cases h58 : c = 58
      · simp [h58]
      · simp [h46, h58]

end C20

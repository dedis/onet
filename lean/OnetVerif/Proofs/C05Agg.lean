import OnetVerif.Model.C05Agg
import OnetVerif.Proofs.Sched
/-! The aggregation model of C05 (`Model/C05Agg.lean`): its moves and the invariant of its steps. -/
namespace C05
namespace Agg

/-- the invocation that is running, if any -/
def cur (s : St) : List (Bool × List Nat) := match s.pc with | .handling a ms => [(a, ms)] | _ => []

theorem aggs_append (a b : List Msg) : aggs (a ++ b) = aggs a ++ aggs b := List.filter_append ..

theorem directs_append (a b : List Msg) : directs (a ++ b) = directs a ++ directs b := List.filter_append ..

theorem aggs_directs_of_all (l : List Msg) (h : ∀ x ∈ l, direct x = false) : aggs l = l ∧ directs l = [] :=
  ⟨List.filter_eq_self.mpr fun x hx => by rw [h x hx]; rfl,
   List.filter_eq_nil_iff.mpr fun x hx => by rw [h x hx]; exact Bool.false_ne_true⟩

theorem aggs_snoc (l : List Msg) {x : Msg} (hd : direct x = false) : aggs (l ++ [x]) = aggs l ++ [x] := by
  rw [aggs_append, (aggs_directs_of_all [x] (List.forall_mem_singleton.mpr hd)).1]

theorem directs_snoc (l : List Msg) {x : Msg} (hd : direct x = false) : directs (l ++ [x]) = directs l := by
  rw [directs_append, (aggs_directs_of_all [x] (List.forall_mem_singleton.mpr hd)).2, List.append_nil]

theorem run_skips : Sched.Skips step run := ⟨fun _ => rfl, fun s a as => by rw [run]; cases step s a <;> rfl⟩

inductive Move (s : St) : Act → St → Prop
  | refuse (x) : s.closing = true → Move s (.accept x) s
  | accept (x) : s.closing = false →
      Move s (.accept x) { s with queue := s.queue ++ [x], token := true, accepted := s.accepted ++ [x] }
  | close : Move s .close { s with closing := true, token := true }
  | stop : s.pc = .top → s.closing = true → Move s .reader { s with pc := .stopped }
  | sleep : s.pc = .top → s.closing = false → s.queue = [] → Move s .reader { s with pc := .waiting }
  | single (x q) : s.pc = .top → s.closing = false → s.queue = x :: q → direct x = true →
      Move s .reader { s with queue := q, popped := s.popped ++ [x], given := s.given ++ [x],
                              pc := .handling false [x.m], started := s.started ++ [(false, [x.m])] }
  | batch (x q) : s.pc = .top → s.closing = false → s.queue = x :: q → direct x = false →
      (s.buf ++ [x]).length = s.nch →
      Move s .reader { s with queue := q, popped := s.popped ++ [x], buf := [], given := s.given ++ (s.buf ++ [x]),
                              pc := .handling true ((s.buf ++ [x]).map (·.m)),
                              started := s.started ++ [(true, (s.buf ++ [x]).map (·.m))] }
  | buffer (x q) : s.pc = .top → s.closing = false → s.queue = x :: q → direct x = false →
      (s.buf ++ [x]).length ≠ s.nch →
      Move s .reader { s with queue := q, popped := s.popped ++ [x], buf := s.buf ++ [x] }
  | finish (a ms) : s.pc = .handling a ms → Move s .reader { s with pc := .top, finished := s.finished ++ [(a, ms)] }
  | wake : s.pc = .waiting → s.token = true → Move s .reader { s with pc := .top, token := s.closing }

theorem step_move {s s' : St} {a : Act} (h : step s a = some s') : Move s a s' := by
  revert h
  fun_cases step s a <;> rintro ⟨⟩
  · exact .refuse _ ‹_›
  · exact .accept _ (Bool.eq_false_iff.mpr ‹_›)
  · exact .close
  · exact .stop ‹_› ‹_›
  · exact .sleep ‹_› (Bool.eq_false_iff.mpr ‹_›) ‹_›
  · exact .single _ _ ‹_› (Bool.eq_false_iff.mpr ‹_›) ‹_› ‹_›
  · exact .batch _ _ ‹_› (Bool.eq_false_iff.mpr ‹_›) ‹_› (Bool.eq_false_iff.mpr ‹_›) (beq_iff_eq.mp ‹_›)
  · exact .buffer _ _ ‹_› (Bool.eq_false_iff.mpr ‹_›) ‹_› (Bool.eq_false_iff.mpr ‹_›)
      fun e => ‹¬ _ == _› (beq_iff_eq.mpr e)
  · exact .finish _ _ ‹_›
  · exact .wake ‹_› ‹_›

theorem Move.step_eq {s s' : St} {a : Act} (h : Move s a s') : step s a = some s' := by
  cases h <;> simp_all [step]

structure Inv (s : St) : Prop where
  order  : s.accepted = s.popped ++ s.queue
  serial : s.started = s.finished ++ cur s
  aggf   : aggs s.given ++ s.buf = aggs s.popped
  dirf   : directs s.given = directs s.popped
  bufagg : ∀ x ∈ s.buf, direct x = false
  vals   : (s.started.map (·.2)).flatten = s.given.map (·.m)
  size   : ∀ b ∈ s.started, b.1 = true → b.2.length = s.nch
  small  : s.nch ≠ 0 → s.buf.length < s.nch

theorem inv_init (k : Nat) : Inv { nch := k } :=
  ⟨rfl, rfl, rfl, rfl, (fun _ h => nomatch h), rfl, (fun _ h => nomatch h), Nat.pos_of_ne_zero⟩

theorem step_nch {s s' : St} {a : Act} (hs : step s a = some s') : s'.nch = s.nch := by
  cases step_move hs with
  | refuse | accept | close | stop | sleep | single | batch | buffer | finish | wake => rfl

theorem inv_step (s s' : St) (a : Act) (h : Inv s) (hs : step s a = some s') : Inv s' := by
  have ⟨ho, hse, haf, hdf, hb, hv, hsz, hsm⟩ := h
  cases step_move hs with
  | refuse | close => exact { h with }
  | accept x => exact { h with order := (congrArg (· ++ [x]) ho).trans (List.append_assoc _ _ _) }
  | stop hpc | sleep hpc | wake hpc =>
    simp only [cur, hpc] at hse
    exact { h with serial := hse }
  | finish a ms hpc =>
    simp only [cur, hpc] at hse
    exact { h with serial := hse.trans (List.append_nil _).symm }
  | single x q hpc _ hq hd =>
    simp only [cur, hpc, List.append_nil] at hse
    rw [hq, List.append_cons] at ho
    have hx : aggs [x] = [] := List.filter_cons_of_neg (by rw [hd]; exact Bool.false_ne_true)
    refine ⟨ho, congrArg (· ++ [_]) hse, ?_, ?_, hb, ?_, ?_, hsm⟩
    · show aggs (s.given ++ [x]) ++ s.buf = aggs (s.popped ++ [x])
      rw [aggs_append, aggs_append, hx, List.append_nil, List.append_nil, haf]
    · show directs (s.given ++ [x]) = directs (s.popped ++ [x])
      rw [directs_append, directs_append, hdf]
    · show ((s.started ++ [(false, [x.m])]).map (·.2)).flatten = (s.given ++ [x]).map (·.m)
      rw [List.map_append, List.flatten_append, hv, List.map_append]; rfl
    · exact List.forall_mem_concat hsz fun h => nomatch h
  | batch x q hpc _ hq hd hfull =>
    -- the buffer is complete: handed over as it is
    simp only [cur, hpc, List.append_nil] at hse
    rw [hq, List.append_cons] at ho
    refine ⟨ho, congrArg (· ++ [_]) hse, ?_, ?_, (fun _ h => nomatch h), ?_, ?_, Nat.pos_of_ne_zero⟩
    · show aggs (s.given ++ (s.buf ++ [x])) ++ [] = aggs (s.popped ++ [x])
      rw [List.append_nil, ← List.append_assoc, aggs_snoc _ hd, aggs_snoc _ hd, aggs_append, (aggs_directs_of_all _ hb).1, haf]
    · show directs (s.given ++ (s.buf ++ [x])) = directs (s.popped ++ [x])
      rw [← List.append_assoc, directs_snoc _ hd, directs_snoc _ hd, directs_append, (aggs_directs_of_all _ hb).2,
        List.append_nil, hdf]
    · show ((s.started ++ [(true, (s.buf ++ [x]).map (·.m))]).map (·.2)).flatten = (s.given ++ (s.buf ++ [x])).map (·.m)
      simp only [List.map_append, List.flatten_append, hv, List.map_cons, List.map_nil, List.flatten_cons,
        List.flatten_nil, List.append_nil]
    · exact List.forall_mem_concat hsz fun _ => (List.length_map _).trans hfull
  | buffer x q _ _ hq hd hnf =>
    rw [hq, List.append_cons] at ho
    refine ⟨ho, hse, ?_, ?_, List.forall_mem_concat hb hd, hv, hsz, ?_⟩
    · show aggs s.given ++ (s.buf ++ [x]) = aggs (s.popped ++ [x])
      rw [aggs_snoc _ hd, ← List.append_assoc, haf]
    · show directs s.given = directs (s.popped ++ [x])
      rw [directs_snoc _ hd, hdf]
    · intro hn
      have := hsm hn
      rw [List.length_append] at hnf ⊢
      exact Nat.lt_of_le_of_ne this hnf

/-- no lost wake-up: a reader that sleeps while messages are queued has its token -/
def Wake (s : St) : Prop := s.pc = .waiting → s.queue ≠ [] → s.token = true

theorem wake_step (s s' : St) (a : Act) (h : Wake s) (hs : step s a = some s') : Wake s' := by
  cases step_move hs with
  | refuse => exact h
  | accept | close => exact fun _ _ => rfl
  | sleep _ _ hq => exact fun _ hne => absurd hq hne
  | buffer _ _ hpc => exact fun hp => nomatch hpc.symm.trans hp
  | stop | single | batch | finish | wake => exact fun hp => nomatch hp

theorem reachable (k : Nat) (as : List Act) :
    Inv (run { nch := k } as) ∧ Wake (run { nch := k } as) ∧ (run { nch := k } as).nch = k :=
  run_skips.inv (P := fun s => Inv s ∧ Wake s ∧ s.nch = k)
    (fun s s' a h hs => ⟨inv_step s s' a h.1 hs, wake_step s s' a h.2.1 hs, (step_nch hs).trans h.2.2⟩) as _
    ⟨inv_init k, fun _ h => absurd rfl h, rfl⟩

theorem length_cur_le (s : St) : (cur s).length ≤ 1 := by
  unfold cur; split
  · exact Nat.le_refl 1
  · exact Nat.zero_le 1

end Agg
end C05

import OnetVerif.Proofs.C03Bytes
import OnetVerif.Proofs.Sched
/-! Property C03, the sending side: what the write loops of `sendRaw` leave on the wire under any transport (`Wrote`), a
caller that keeps calling `Send` (`sendAll_spec`), the invariant of concurrent senders on one connection (`CInv`), and the
queue step of the in-memory transport. -/
namespace C03

/-- a transport that never fails a write (it may still take the bytes in pieces of any size) -/
def NoFail (o : List WAct) : Prop := ∀ a ∈ o, ∃ k, a = WAct.acc k

theorem NoFail.tail {a : WAct} {o : List WAct} (h : NoFail (a :: o)) : NoFail o :=
  fun x hx => h x (List.mem_cons_of_mem a hx)

/-- result `r` of writing the bytes `x` over the transport `o`: what the header write, the body loop and `sendRaw` all meet -/
structure Wrote (r : Segs × Bool × List WAct) (x : List Nat) (o : List WAct) : Prop where
  pre : r.1.flatten <+: x
  all : r.2.1 = true → r.1.flatten = x
  ok : NoFail o → r.2.1 = true ∧ NoFail r.2.2

theorem Wrote.whole (x : List Nat) (o o' : List WAct) (h : NoFail o → NoFail o') : Wrote ([x], true, o') x o :=
  ⟨List.flatten_singleton ▸ List.prefix_rfl, fun _ => List.flatten_singleton, fun ho => ⟨rfl, h ho⟩⟩

theorem Wrote.failed (x : List Nat) (k : Nat) (o : List WAct) : Wrote ([x.take k], false, o) x (.fail k :: o) :=
  ⟨List.flatten_singleton ▸ List.take_prefix k x, (fun h => nomatch h),
    fun h => by obtain ⟨_, e⟩ := h _ List.mem_cons_self; cases e⟩

/-- the `if` is that of `sendRaw` (header, then body) and of a turn of the body loop (one piece, then the rest) -/
theorem Wrote.seq {r1 r2 : Segs × Bool × List WAct} {x1 x2 : List Nat} {o : List WAct}
    (h1 : Wrote r1 x1 o) (h2 : Wrote r2 x2 r1.2.2) :
    Wrote (if r1.2.1 then (r1.1 ++ r2.1, r2.2) else r1) (x1 ++ x2) o := by
  by_cases hok : r1.2.1 = true
  · rw [if_pos hok]
    refine ⟨?_, fun h => ?_, fun h => h2.ok (h1.ok h).2⟩
    · rw [List.flatten_append, h1.all hok]; exact (List.prefix_append_right_inj x1).mpr h2.pre
    · rw [List.flatten_append, h1.all hok, h2.all h]
  · rw [if_neg hok]
    exact ⟨h1.pre.trans (List.prefix_append x1 x2), fun h => absurd h hok, fun h => absurd (h1.ok h).1 hok⟩

theorem writeHeader_wrote (hdr : List Nat) (o : List WAct) : Wrote (writeHeader hdr o) hdr o := by
  cases o with
  | nil => exact .whole hdr [] [] id
  | cons a o =>
    cases a with
    | acc k =>
      have := (Wrote.whole (hdr.take k) (.acc k :: o) o NoFail.tail).seq (.whole (hdr.drop k) o o id)
      rwa [List.take_append_drop] at this
    | fail k => exact .failed hdr k o

theorem writeBody_wrote (fuel : Nat) (rest : List Nat) (o : List WAct) (hf : rest.length ≤ fuel) :
    Wrote (writeBody fuel rest o) rest o := by
  induction fuel generalizing rest o with
  | zero =>
    obtain rfl : rest = [] := List.eq_nil_of_length_eq_zero (Nat.le_zero.mp hf)
    exact ⟨List.nil_prefix, fun _ => rfl, fun h => ⟨rfl, h⟩⟩
  | succ fuel ih =>
    cases rest with
    | nil => exact ⟨List.nil_prefix, fun _ => rfl, fun h => ⟨rfl, h⟩⟩
    | cons a t =>
      cases o with
      | nil => exact .whole _ [] [] id
      | cons w o =>
        cases w with
        | fail k => exact .failed _ k o
        | acc k =>
          have := (Wrote.whole ((a :: t).take (max k 1)) (.acc k :: o) o NoFail.tail).seq
            (ih ((a :: t).drop (max k 1)) o (by
              rw [List.length_drop]
              exact Nat.sub_le_of_le_add (Nat.le_trans hf (Nat.add_le_add_left (Nat.le_max_right k 1) fuel))))
          rwa [List.take_append_drop] at this

/-- what `sendRaw` leaves on the wire is a prefix of the frame — the whole frame when it reports
success -/
theorem sendRaw_wrote (b : List Nat) (o : List WAct) : Wrote (sendRaw b o) (encFrame b) o :=
  (writeHeader_wrote (be32 b.length) o).seq (writeBody_wrote b.length b _ (Nat.le_refl _))

theorem send_open (c : SConn) (b : List Nat) (hc : c.closed = false) :
    (c.send b).2 = (sendRaw b c.oracle).2.1 ∧ (c.send b).1.closed = (!(sendRaw b c.oracle).2.1) ∧
    (c.send b).1.out = c.out ++ (sendRaw b c.oracle).1 ∧ (c.send b).1.oracle = (sendRaw b c.oracle).2.2 := by
  rw [SConn.send, hc]; exact ⟨rfl, rfl, rfl, rfl⟩

theorem sendAll_closed (c : SConn) (hc : c.closed = true) (bufs : List (List Nat)) :
    c.sendAll bufs = (c, List.replicate bufs.length false) := by
  induction bufs with
  | nil => rfl
  | cons b l ih =>
    have h1 : c.send b = (c, false) := by rw [SConn.send, hc]; rfl
    rw [SConn.sendAll, h1, ih]; rfl

theorem sendAll_cons (c : SConn) (b : List Nat) (l : List (List Nat)) :
    c.sendAll (b :: l) = (((c.send b).1.sendAll l).1, (c.send b).2 :: ((c.send b).1.sendAll l).2) := rfl

theorem sendAll_spec (bufs : List (List Nat)) (c : SConn) (pre : List (List Nat))
    (hc : c.closed = false) (hout : c.out.flatten = wire pre) :
    ∃ j k, j ≤ bufs.length ∧ (NoFail c.oracle → j = bufs.length) ∧
      (c.sendAll bufs).2 = List.replicate j true ++ List.replicate (bufs.length - j) false ∧
      (c.sendAll bufs).1.out.flatten =
        wire (pre ++ bufs.take j) ++ ((bufs[j]?.map encFrame).getD []).take k := by
  induction bufs generalizing c pre with
  | nil =>
    exact ⟨0, 0, Nat.le_refl 0, fun _ => rfl, rfl, by rw [List.take_nil, List.append_nil]; exact hout.trans (List.append_nil _).symm⟩
  | cons b l ih =>
    have hw := sendRaw_wrote b c.oracle
    obtain ⟨h2, hcl, ho, hor⟩ := send_open c b hc
    rw [sendAll_cons, h2]
    by_cases hok : (sendRaw b c.oracle).2.1 = true
    · -- this frame went out completely
      obtain ⟨j, k, hj, hnf, hres, he⟩ := ih (c.send b).1 (pre ++ [b]) (by rw [hcl, hok]; rfl)
        (by rw [ho, List.flatten_append, hout, hw.all hok, wire_append]; exact congrArg _ (List.append_nil _).symm)
      refine ⟨j + 1, k, Nat.succ_le_succ hj, fun h => congrArg (· + 1) (hnf (hor ▸ (hw.ok h).2)), ?_, ?_⟩
      · rw [hres, hok, List.length_cons, Nat.add_sub_add_right]; rfl
      · rw [List.append_assoc] at he; exact he
    · -- the write failed: closed, every later call refused
      have hf : (sendRaw b c.oracle).2.1 = false := Bool.eq_false_iff.mpr hok
      rw [sendAll_closed _ (by rw [hcl, hf]; rfl) l, hf]
      exact ⟨0, _, Nat.zero_le _, fun h => absurd (hw.ok h).1 hok, rfl,
        by rw [ho, List.flatten_append, hout, List.prefix_iff_eq_take.mp hw.pre, List.take_zero, List.append_nil]; rfl⟩

theorem sendAll_noFail (bufs : List (List Nat)) (o : List WAct) (ho : NoFail o) :
    (({ oracle := o } : SConn).sendAll bufs).2 = List.replicate bufs.length true ∧
    (({ oracle := o } : SConn).sendAll bufs).1.out.flatten = wire bufs := by
  obtain ⟨j, k, _, hnf, hres, he⟩ := sendAll_spec bufs { oracle := o } [] rfl rfl
  obtain rfl := hnf ho
  rw [List.getElem?_eq_none (Nat.le_refl _), List.take_length, List.nil_append, Option.map_none, Option.getD_none,
    List.take_nil, List.append_nil] at he
  exact ⟨by rw [hres, Nat.sub_self]; exact List.append_nil _, he⟩

/-! ### concurrent senders: `sendMutex` -/

theorem setThr_same (s : CS) (i : Nat) (t : Thr) : s.setThr i t i = t := if_pos rfl

theorem setThr_other (s : CS) (i j : Nat) (t : Thr) (h : j ≠ i) : s.setThr i t j = s.thr j := if_neg h

/-- what holds in every reachable state of the senders of one connection -/
def CInv (q : Nat → List (List Nat)) (s : CS) : Prop :=
  (∀ i, ((s.log.filter (fun e => e.1 == i)).map (·.2)) ++ (s.thr i).todo = q i) ∧
  ((s.locked = none ∧ (∀ i, (s.thr i).cur = none) ∧ s.wire = wire (s.log.map (·.2))) ∨
   (∃ h r pre b, s.locked = some h ∧ (∀ j, j ≠ h → (s.thr j).cur = none) ∧ (s.thr h).cur = some r ∧
      s.log = pre ++ [(h, b)] ∧
      ∃ n, s.wire = wire (pre.map (·.2)) ++ (encFrame b).take n ∧ r = (encFrame b).drop n))

theorem CInv.order {q : Nat → List (List Nat)} {s : CS} (h : CInv q s) (i : Nat) :
    ((s.log.filter (fun e => e.1 == i)).map (·.2)) ++ (s.thr i).todo = q i := h.1 i

theorem CInv.unlocked {q : Nat → List (List Nat)} {s : CS} (h : CInv q s) (hl : s.locked = none) :
    (∀ i, (s.thr i).cur = none) ∧ s.wire = wire (s.log.map (·.2)) := by
  rcases h.2 with ⟨_, hcur, hw⟩ | ⟨_, _, _, _, hl', _⟩
  · exact ⟨hcur, hw⟩
  · rw [hl] at hl'; cases hl'

theorem CInv.locked {q : Nat → List (List Nat)} {s : CS} {h : Nat} (hi : CInv q s) (hl : s.locked = some h) :
    ∃ pre b n, s.log = pre ++ [(h, b)] ∧ s.wire = wire (pre.map (·.2)) ++ (encFrame b).take n ∧
      (s.thr h).cur = some ((encFrame b).drop n) := by
  rcases hi.2 with ⟨hl', _, _⟩ | ⟨h', r, pre, b, hl', _, hh, hlog, n, hw, hr⟩
  · rw [hl] at hl'; cases hl'
  · rw [hl] at hl'; cases hl'
    exact ⟨pre, b, n, hlog, hw, hr ▸ hh⟩

theorem cinv_init (q : Nat → List (List Nat)) : CInv q (cinit q) :=
  ⟨fun _ => rfl, .inl ⟨rfl, fun _ => rfl, rfl⟩⟩

theorem cstep_inv (q : Nat → List (List Nat)) (s s' : CS) (i k : Nat) (hinv : CInv q s)
    (hs : cstep true s i k = some s') : CInv q s' := by
  obtain ⟨hord, hst⟩ := hinv
  have hord' : ∀ t : Thr, t.todo = (s.thr i).todo → ∀ j,
      ((s.log.filter (fun e => e.1 == j)).map (·.2)) ++ (s.setThr i t j).todo = q j :=
    fun t ht j => by
      by_cases hj : j = i
      · rw [hj, setThr_same, ht, ← hj]; exact hord j
      · rw [setThr_other s i j t hj]; exact hord j
  unfold cstep at hs
  rcases hst with ⟨hl, hcur, hw⟩ | ⟨h, r, pre, b, hl, hoth, hh, hlog, n, hw, hr⟩
  · -- nobody inside Send
    rw [hcur i] at hs
    simp only at hs
    cases htodo : (s.thr i).todo with
    | nil => rw [htodo] at hs; simp at hs
    | cons b rest =>
      rw [htodo] at hs
      simp only [hl, Option.isSome_none, Bool.and_false, Bool.false_eq_true, if_false, Option.some.injEq] at hs
      subst hs
      refine ⟨fun j => ?_, .inr ⟨i, encFrame b, s.log, b, rfl, fun j hj => ?_, ?_, rfl, 0, ?_, rfl⟩⟩
      · show ((s.log ++ [(i, b)]).filter _).map _ ++ (s.setThr i _ j).todo = q j
        rw [List.filter_append, List.map_append, ← hord j]
        by_cases hj : j = i
        · rw [hj, setThr_same, htodo, List.append_assoc]; simp
        · have hne : (i == j) = false := by simpa using fun h => hj h.symm
          rw [setThr_other s i j _ hj]; simp [hne]
      · exact (congrArg Thr.cur (setThr_other s i j _ hj)).trans (hcur j)
      · exact congrArg Thr.cur (setThr_same s i _)
      · exact hw.trans (List.append_nil _).symm
  · -- thread h is inside Send
    by_cases hi : i = h
    · subst hi
      rw [hh] at hs
      simp only at hs
      by_cases hre : r.isEmpty = true
      · -- releases the mutex
        simp only [hre, if_true, Option.some.injEq] at hs
        subst hs
        have hr' : r = [] := by simpa using hre
        refine ⟨hord' _ rfl, .inl ⟨rfl, fun j => ?_, ?_⟩⟩
        · by_cases hj : j = i
          · rw [hj]; exact congrArg Thr.cur (setThr_same s i _)
          · exact (congrArg Thr.cur (setThr_other s i j _ hj)).trans (hoth j hj)
        · have hn : (encFrame b).length ≤ n := List.drop_eq_nil_iff.mp (hr.symm.trans hr')
          show s.wire = wire (s.log.map (·.2))
          rw [hw, hlog, List.map_append, wire_append, List.take_of_length_le hn]
          exact congrArg _ (List.append_nil _).symm
      · -- writes a piece
        simp only [hre, Bool.false_eq_true, if_false, Option.some.injEq] at hs
        subst hs
        refine ⟨hord' _ rfl, .inr ⟨i, r.drop (max k 1), pre, b, hl, fun j hj => ?_, ?_, hlog,
          n + max k 1, ?_, ?_⟩⟩
        · exact (congrArg Thr.cur (setThr_other s i j _ hj)).trans (hoth j hj)
        · exact congrArg Thr.cur (setThr_same s i _)
        · show s.wire ++ r.take (max k 1) = _
          rw [hw, hr, List.append_assoc, List.take_add]
        · rw [hr, List.drop_drop]
    · -- another thread: it can only be waiting for the mutex
      rw [hoth i hi] at hs
      simp only at hs
      cases htodo : (s.thr i).todo with
      | nil => rw [htodo] at hs; simp at hs
      | cons b' rest => rw [htodo] at hs; simp [hl] at hs

theorem cstep_none {s : CS} {i k : Nat} (h : cstep true s i k = none) :
    (s.thr i).cur = none ∧ ((s.thr i).todo = [] ∨ s.locked.isSome = true) := by
  unfold cstep at h
  cases hc : (s.thr i).cur with
  | some r => rw [hc] at h; by_cases hr : r.isEmpty = true <;> simp [hr] at h
  | none =>
    rw [hc] at h
    refine ⟨rfl, ?_⟩
    cases ht : (s.thr i).todo with
    | nil => exact .inl rfl
    | cons b rest =>
      rw [ht] at h
      cases hl : s.locked with
      | none => simp [hl] at h
      | some j => exact .inr rfl

theorem crun_skips : Sched.Skips (fun s (a : Nat × Nat) => cstep true s a.1 a.2) (crun true) :=
  ⟨fun _ => rfl, fun s a as => by rw [crun]; cases cstep true s a.1 a.2 <;> rfl⟩

theorem crun_inv (q : Nat → List (List Nat)) (sched : List (Nat × Nat)) (s : CS) (hinv : CInv q s) :
    CInv q (crun true s sched) :=
  crun_skips.inv (fun s s' a h hs => cstep_inv q s s' a.1 a.2 h hs) sched s hinv

theorem log_mem_queue (q : Nat → List (List Nat)) (s : CS) (hinv : CInv q s) (i : Nat) (b : List Nat)
    (h : (i, b) ∈ s.log) : b ∈ q i := by
  rw [← hinv.order i]
  apply List.mem_append_left
  exact List.mem_map.mpr ⟨(i, b), List.mem_filter.mpr ⟨h, by simp⟩, rfl⟩

/-! ### the in-memory transport -/

theorem lstep_fifo (cap : Nat) (s s' : LQ) (a : LAct) (h : lstep cap s a = some s') :
    s'.got ++ s'.out ++ s'.inc =
      s.got ++ s.out ++ s.inc ++ (match (motive := LAct → List (List Nat)) a with | .send b => [b] | _ => []) := by
  cases a with
  | send b =>
    simp only [lstep] at h
    split at h
    · cases h; simp
    · cases h
  | move =>
    simp only [lstep] at h
    split at h
    · cases h
    · rename_i b rest heq
      split at h
      · cases h; simp [heq]
      · cases h
  | recv =>
    simp only [lstep] at h
    split at h
    · cases h
    · rename_i b rest heq
      cases h; simp [heq]

end C03

import OnetVerif.Model.C05Chan
import OnetVerif.Proofs.Sched
import OnetVerif.Proofs.Lists
/-! The channel model of C05 (`Model/C05Chan.lean`): its moves, the invariant of its steps, and what becomes of a
dispatched message. -/
namespace C05
namespace Chan

/-- the message the reader is carrying to the channel, if any -/
def carrying (s : St) : List Nat := match s.pc with | .sending m => [m] | _ => []

/-- the message whose handler is running, if any -/
def cur (s : St) : List Nat := match s.pc with | .handling m => [m] | _ => []

theorem cmsgs_append (a b : List (Bool × Nat)) : cmsgs (a ++ b) = cmsgs a ++ cmsgs b := by
  simp only [cmsgs, List.filter_append, List.map_append]

theorem hmsgs_append (a b : List (Bool × Nat)) : hmsgs (a ++ b) = hmsgs a ++ hmsgs b := by
  simp only [hmsgs, List.filter_append, List.map_append]

theorem fated_append (f : Fate) (a b : List (Nat × Fate)) : fated f (a ++ b) = fated f a ++ fated f b := by
  simp only [fated, List.filter_append, List.map_append]

theorem fated_snoc_ne {f g : Fate} (h : (g == f) = false) (l : List (Nat × Fate)) (m : Nat) :
    fated f (l ++ [(m, g)]) = fated f l := by
  rw [fated_append]
  show fated f l ++ (List.filter (fun p => p.2 == f) [(m, g)]).map (·.1) = fated f l
  rw [List.filter_cons_of_neg (by rw [h]; exact Bool.false_ne_true)]
  exact List.append_nil _

theorem run_skips : Sched.Skips step run := ⟨fun _ => rfl, fun s a as => by rw [run]; cases step s a <;> rfl⟩

inductive Move (s : St) : Act → St → Prop
  | refuse (c m) : s.closing = true → Move s (.accept c m) s
  | accept (c m) : s.closing = false →
      Move s (.accept c m) { s with queue := s.queue ++ [(c, m)], token := true, accepted := s.accepted ++ [(c, m)] }
  | close : Move s .close { s with closing := true, token := true }
  | take (m c) : s.chan = m :: c → Move s .take { s with chan := c, taken := s.taken ++ [m] }
  | stop : s.pc = .top → s.closing = true → Move s .reader { s with pc := .stopped }
  | popH (m q) : s.pc = .top → s.closing = false → s.queue = (false, m) :: q →
      Move s .reader { s with queue := q, pc := .handling m, popped := s.popped ++ [(false, m)],
                              started := s.started ++ [m] }
  | popC (m q) : s.pc = .top → s.closing = false → s.queue = (true, m) :: q →
      Move s .reader { s with queue := q, pc := .sending m, popped := s.popped ++ [(true, m)] }
  | sleep : s.pc = .top → s.closing = false → s.queue = [] → Move s .reader { s with pc := .waiting }
  | finish (m) : s.pc = .handling m → Move s .reader { s with pc := .top, finished := s.finished ++ [m] }
  | late (m) : s.pc = .sending m → s.chan.length < s.cap → s.closing = true →
      Move s .reader { s with pc := .top, log := s.log ++ [(m, .late)] }
  | send (m) : s.pc = .sending m → s.chan.length < s.cap → s.closing = false →
      Move s .reader { s with pc := .top, chan := s.chan ++ [m], log := s.log ++ [(m, .put)] }
  | full (m) : s.pc = .sending m → ¬ s.chan.length < s.cap →
      Move s .reader { s with pc := .top, log := s.log ++ [(m, .full)] }
  | wake : s.pc = .waiting → s.token = true → Move s .reader { s with pc := .top, token := s.closing }

theorem step_move {s s' : St} {a : Act} (h : step s a = some s') : Move s a s' := by
  revert h
  fun_cases step s a <;> rintro ⟨⟩
  · exact .refuse _ _ ‹_›
  · exact .accept _ _ (Bool.eq_false_iff.mpr ‹_›)
  · exact .close
  · exact .take _ _ ‹_›
  · exact .stop ‹_› ‹_›
  · exact .popH _ _ ‹_› (Bool.eq_false_iff.mpr ‹_›) ‹_›
  · exact .popC _ _ ‹_› (Bool.eq_false_iff.mpr ‹_›) ‹_›
  · exact .sleep ‹_› (Bool.eq_false_iff.mpr ‹_›) ‹_›
  · exact .finish _ ‹_›
  · exact .late _ ‹_› ‹_› ‹_›
  · exact .send _ ‹_› ‹_› (Bool.eq_false_iff.mpr ‹_›)
  · exact .full _ ‹_› ‹_›
  · exact .wake ‹_› ‹_›

theorem step_sending {s : St} {m : Nat} (hp : s.pc = .sending m) :
    step s .reader = some (if s.chan.length < s.cap then
      if s.closing then { s with pc := .top, log := s.log ++ [(m, .late)] }
      else { s with pc := .top, chan := s.chan ++ [m], log := s.log ++ [(m, .put)] }
      else { s with pc := .top, log := s.log ++ [(m, .full)] }) := by
  simp only [step, hp, apply_ite some]

structure Inv (s : St) : Prop where
  order : s.accepted = s.popped ++ s.queue
  hstart : s.started = hmsgs s.popped
  serial : s.started = s.finished ++ cur s
  clog : (s.log.map (·.1)) ++ carrying s = cmsgs s.popped
  chan : s.taken ++ s.chan = put s

theorem inv_init (c : Nat) : Inv { cap := c } := ⟨rfl, rfl, rfl, rfl, rfl⟩

theorem inv_step (s s' : St) (a : Act) (h : Inv s) (hs : step s a = some s') : Inv s' := by
  have ⟨ho, hh, hse, hc, hch⟩ := h
  cases step_move hs with
  | refuse | close => exact { h with }
  | accept c m => exact { h with order := (congrArg (· ++ [(c, m)]) ho).trans (List.append_assoc _ _ _) }
  | take m c hm =>
    rw [hm, List.append_cons] at hch
    exact { h with chan := hch }
  | stop hpc | sleep hpc | wake hpc =>
    simp only [cur, carrying, hpc] at hse hc
    exact { h with serial := hse, clog := hc }
  | popH m q hpc _ hq =>
    simp only [cur, carrying, hpc, List.append_nil] at hse hc
    refine ⟨?_, ?_, congrArg (· ++ [m]) hse, ?_, hch⟩
    · rw [hq, List.append_cons] at ho; exact ho
    · show s.started ++ [m] = hmsgs (s.popped ++ [(false, m)])
      rw [hmsgs_append, hh]; rfl
    · show s.log.map (·.1) ++ [] = cmsgs (s.popped ++ [(false, m)])
      rw [cmsgs_append, hc]; rfl
  | popC m q hpc _ hq =>
    simp only [cur, carrying, hpc, List.append_nil] at hse hc
    refine ⟨?_, ?_, hse.trans (List.append_nil _).symm, ?_, hch⟩
    · rw [hq, List.append_cons] at ho; exact ho
    · show s.started = hmsgs (s.popped ++ [(true, m)])
      rw [hmsgs_append, hh]; exact (List.append_nil _).symm
    · show s.log.map (·.1) ++ [m] = cmsgs (s.popped ++ [(true, m)])
      rw [cmsgs_append, hc]; rfl
  | finish m hpc =>
    simp only [cur, carrying, hpc] at hse hc
    exact { h with serial := hse.trans (List.append_nil _).symm, clog := hc }
  | late m hpc | full m hpc =>
    simp only [cur, carrying, hpc] at hse hc
    refine ⟨ho, hh, hse, ?_, hch.trans (fated_snoc_ne rfl _ m).symm⟩
    show List.map (·.1) (s.log ++ [(m, _)]) ++ [] = cmsgs s.popped
    rw [List.map_append, List.append_nil]; exact hc
  | send m hpc =>
    simp only [cur, carrying, hpc] at hse hc
    refine ⟨ho, hh, hse, ?_, ?_⟩
    · show List.map (·.1) (s.log ++ [(m, Fate.put)]) ++ [] = cmsgs s.popped
      rw [List.map_append, List.append_nil]; exact hc
    · show s.taken ++ (s.chan ++ [m]) = fated .put (s.log ++ [(m, .put)])
      rw [fated_append, ← List.append_assoc, hch]; rfl

theorem fated_sublist (f : Fate) (l : List (Nat × Fate)) : (fated f l).Sublist (l.map (·.1)) :=
  (List.filter_sublist).map _

theorem length_cur_le (s : St) : (cur s).length ≤ 1 := by
  unfold cur; split
  · exact Nat.le_refl 1
  · exact Nat.zero_le 1

theorem mem_fated (f : Fate) (l : List (Nat × Fate)) (m : Nat) : m ∈ fated f l ↔ (m, f) ∈ l := by
  simp [fated]

theorem Inv.not_put_gone {s : St} (h : Inv s) (hn : (cmsgs s.accepted).Nodup) {f : Fate} (hf : f ≠ .put) {m : Nat}
    (hm : m ∈ fated f s.log) : m ∉ s.taken ∧ m ∉ s.chan ∧ m ∉ carrying s ∧ (true, m) ∉ s.queue := by
  rw [h.order, cmsgs_append, ← h.clog] at hn
  -- `hn`: no duplicate in (log ++ carried) ++ queued channel messages; `hn1` splits the outer append, `hn2` the inner
  have hlog' : (m, f) ∈ s.log := (mem_fated _ _ _).mp hm
  have hlog : m ∈ s.log.map (·.1) := List.mem_map.mpr ⟨_, hlog', rfl⟩
  have hn1 := List.nodup_append.mp hn
  have hn2 := List.nodup_append.mp hn1.1
  have hput : m ∉ s.taken ++ s.chan := by
    rw [h.chan]
    -- the log names each message once: the entry `(m, f)` is the entry `(m, .put)`
    exact fun hp => hf (Prod.mk.inj (List.eq_of_nodup_map hn2.1 hlog' ((mem_fated _ _ _).mp hp) rfl)).2
  refine ⟨fun x => hput (List.mem_append_left _ x), fun x => hput (List.mem_append_right _ x),
    fun x => hn2.2.2 m hlog m x rfl, fun x => ?_⟩
  have : m ∈ cmsgs s.queue := List.mem_map.mpr ⟨(true, m), List.mem_filter.mpr ⟨x, rfl⟩, rfl⟩
  exact hn1.2.2 m (List.mem_append_left _ hlog) m this rfl

/-- an invariant because the reader only sees `closing` after a close -/
def NoLate (s : St) : Prop := s.closing = false → fated .late s.log = []

theorem noLate_step (s s' : St) (a : Act) (h : NoLate s) (hs : step s a = some s') : NoLate s' := by
  cases step_move hs with
  | refuse | accept | take | stop | popH | popC | sleep | finish | wake => exact h
  | close => exact fun hc => nomatch hc
  | late _ _ _ hc => exact fun hc' => nomatch hc.symm.trans hc'
  | send m | full m => exact fun hc => (fated_snoc_ne rfl _ m).trans (h hc)

theorem reachable (c : Nat) (as : List Act) : Inv (run { cap := c } as) ∧ NoLate (run { cap := c } as) :=
  run_skips.inv (P := fun s => Inv s ∧ NoLate s)
    (fun s s' a h hs => ⟨inv_step s s' a h.1 hs, noLate_step s s' a h.2 hs⟩) as _ ⟨inv_init c, fun _ => rfl⟩

theorem fated_put_of_no_other (l : List (Nat × Fate)) (h1 : fated .full l = []) (h2 : fated .late l = []) :
    fated .put l = l.map (·.1) := by
  induction l with
  | nil => rfl
  | cons x l ih =>
    obtain ⟨m, f⟩ := x
    cases f with
    | put => exact congrArg (m :: ·) (ih h1 h2)
    | full => cases h1
    | late => cases h2

theorem closed_step (s s' : St) (a : Act) (hc : s.closing = true) (hs : step s a = some s') :
    s'.closing = true ∧ put s' = put s := by
  cases step_move hs with
  | refuse | take | stop | finish | wake => exact ⟨hc, rfl⟩
  | close => exact ⟨rfl, rfl⟩
  | accept _ _ h | popH _ _ _ h | popC _ _ _ h | sleep _ h | send _ _ _ h => exact nomatch hc.symm.trans h
  | late m | full m => exact ⟨hc, fated_snoc_ne rfl _ m⟩

end Chan
end C05

import OnetVerif.Proofs.C20Spec
/-! Decimal numerals as ASCII codes, most significant digit first: `C20.fmtNat` (`strconv.FormatUint(_, 10)`) written
digit by digit (`fmtNat_digit`, `fmtNat_snoc`, `fmtNat_ge`), its characters, and `C20.decVal` as its inverse (`decVal_fmtNat`;
`fmtNat_decVal` on the numerals without leading zero).  C20 formats ports and octets with it; `C13.decAscii`
(`big.Int.String()`) is proved to be the same function in `Proofs/C13.lean`.
Core only. -/
namespace C20

theorem isDigit_iff {c : Nat} : isDigit c = true ↔ 48 ≤ c ∧ c ≤ 57 := by
  simp only [isDigit, Bool.and_eq_true, decide_eq_true_eq]

theorem digit_val {c : Nat} (h : isDigit c = true) : ∃ x, x < 10 ∧ c = x + 48 :=
  have ⟨h1, h2⟩ := isDigit_iff.mp h
  ⟨c - 48, Nat.sub_lt_left_of_lt_add h1 (Nat.lt_succ_of_le h2), (Nat.sub_add_cancel h1).symm⟩

theorem not_mem_digits {p : Str} (h : ∀ c ∈ p, isDigit c = true) {x : Nat} (hx : isDigit x = false) : x ∉ p :=
  fun m => by rw [h x m] at hx; cases hx

theorem digitChar_toNat {x : Nat} (h : x < 10) : (Nat.digitChar x).toNat = x + 48 := by
  revert x; decide

theorem fmtNat_digit {x : Nat} (hx : x < 10) : fmtNat x = [x + 48] := by
  rw [fmtNat, Nat.toDigits_of_lt_base hx, List.map_singleton, digitChar_toNat hx]

theorem fmtNat_snoc {n x : Nat} (hn : 0 < n) (hx : x < 10) : fmtNat (n * 10 + x) = fmtNat n ++ [x + 48] := by
  rw [← fmtNat_digit hx, fmtNat, fmtNat, fmtNat, ← List.map_append,
    Nat.toDigits_append_toDigits (by decide) hn hx, Nat.mul_comm]

theorem fmtNat_ge {n : Nat} (h : ¬ n < 10) : fmtNat n = fmtNat (n / 10) ++ [n % 10 + 48] := by
  have := fmtNat_snoc (n := n / 10) (x := n % 10) (Nat.div_pos (Nat.le_of_not_lt h) (by decide))
    (Nat.mod_lt n (by decide))
  rwa [Nat.div_add_mod'] at this

theorem fmtNat_digits (n : Nat) : ∀ c ∈ fmtNat n, isDigit c = true := by
  have digit : ∀ {x}, x < 10 → ∀ c ∈ [x + 48], isDigit c = true := fun hx c hc => by
    rw [List.mem_singleton.mp hc]
    exact isDigit_iff.mpr ⟨Nat.le_add_left .., Nat.add_le_add_right (Nat.le_of_lt_succ hx) 48⟩
  induction n using Nat.strongRecOn with
  | _ n ih =>
    by_cases h : n < 10
    · rw [fmtNat_digit h]; exact digit h
    · rw [fmtNat_ge h]
      exact List.forall_mem_append.mpr ⟨ih _ (Nat.div_lt_self (by omega) (by decide)), digit (Nat.mod_lt n (by decide))⟩

theorem fmtNat_nodot (n : Nat) : 46 ∉ fmtNat n := not_mem_digits (fmtNat_digits n) rfl

theorem fmtNat_ne_nil (n : Nat) : fmtNat n ≠ [] := by
  simp [fmtNat, Nat.toDigits_ne_nil]

theorem decVal_fmtNat (n : Nat) : decVal (fmtNat n) = n := by
  induction n using Nat.strongRecOn with
  | _ n ih =>
    by_cases h : n < 10
    · rw [fmtNat_digit h]; exact (Nat.zero_add _).trans (Nat.add_sub_cancel ..)
    · rw [fmtNat_ge h, decVal, List.foldl_append, ← decVal, ih _ (Nat.div_lt_self (by omega) (by decide))]
      exact (congrArg _ (Nat.add_sub_cancel ..)).trans (Nat.div_add_mod' n 10)

theorem fmtNat_inj {a b : Nat} : fmtNat a = fmtNat b ↔ a = b :=
  ⟨fun e => by rw [← decVal_fmtNat a, e, decVal_fmtNat], fun e => e ▸ rfl⟩

theorem fmtNat_foldl {ds : Str} (hd : ∀ d ∈ ds, isDigit d = true) {acc : Nat} (hacc : 0 < acc) :
    fmtNat (ds.foldl (fun a d => a * 10 + (d - 48)) acc) = fmtNat acc ++ ds := by
  induction ds generalizing acc with
  | nil => exact (List.append_nil _).symm
  | cons c r ih =>
    obtain ⟨x, hx, rfl⟩ := digit_val (hd c (List.mem_cons_self ..))
    rw [List.foldl_cons, ih (fun d hd' => hd d (List.mem_cons_of_mem _ hd')) (Nat.add_pos_left (Nat.mul_pos hacc (by decide)) _),
      Nat.add_sub_cancel,
      fmtNat_snoc hacc hx, List.append_assoc]
    rfl

theorem fmtNat_decVal {ds : Str} (hd : Digits ds) (hz : 1 < ds.length → ds.head? ≠ some 48) :
    fmtNat (decVal ds) = ds := by
  obtain ⟨hne, hd⟩ := hd
  cases ds with
  | nil => exact absurd rfl hne
  | cons c r =>
    obtain ⟨x, hx, rfl⟩ := digit_val (hd _ (List.mem_cons_self ..))
    rw [decVal, List.foldl_cons, Nat.zero_mul, Nat.zero_add, Nat.add_sub_cancel]
    cases r with
    | nil => exact fmtNat_digit hx
    | cons d r' =>
      have hx0 : 0 < x := Nat.pos_of_ne_zero fun e => hz (by simp) (by rw [e]; rfl)
      rw [fmtNat_foldl (fun d hd' => hd d (List.mem_cons_of_mem _ hd')) hx0, fmtNat_digit hx]
      rfl

end C20

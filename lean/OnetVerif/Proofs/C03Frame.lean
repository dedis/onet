import OnetVerif.Proofs.C03Bytes
/-! Property C03, the receiving side: `recvFrame` under any segmentation is the pure parser `frameSpec` of the bytes in
flight (`recvFrame_spec`); the receive loops are maps over the frames `recvFrames` yields; `specLoop` is the loop as a
parser of the byte stream, and a cut of the stream cuts its events (`specLoop_take`). -/
namespace C03

/-! ### header arithmetic -/

theorem be32_eq (n : Nat) : be32 n = (Wire.leBytes 4 n).reverse := by
  simp only [be32, Wire.leBytes, Nat.div_div_eq_div_mul]; rfl

theorem unbe32_reverse (a b c d : Nat) : unbe32 [d, c, b, a] = Wire.unle [a, b, c, d] := by
  simp only [unbe32, Wire.unle, List.foldr]
  -- an identity of polynomials in the four digits: `grind`, where `omega` is slow
  grind

theorem unbe32_be32 (n : Nat) (h : n < 2^32) : unbe32 (be32 n) = n := by
  rw [be32_eq]
  show unbe32 [_, _, _, _] = n
  rw [unbe32_reverse]
  exact (Wire.unle_leBytes 4 n).trans (Nat.mod_eq_of_lt h)

theorem be32_length (n : Nat) : (be32 n).length = 4 := by simp [be32]

theorem encFrame_length (b : List Nat) : (encFrame b).length = 4 + b.length := by
  simp [encFrame, be32_length]

/-! ### one `Read`, and the read-until-full loop, against the concatenation of the segments -/

theorem read_spec (c : Segs) (n : Nat) (hn : 1 ≤ n) :
    (c.flatten = [] → read c n = none) ∧
    (c.flatten ≠ [] → ∃ bs c', read c n = some (bs, c') ∧ 1 ≤ bs.length ∧ bs.length ≤ n ∧
        bs ++ c'.flatten = c.flatten) := by
  induction c with
  | nil => exact ⟨fun _ => rfl, fun h => absurd rfl h⟩
  | cons s rest ih =>
    cases s with
    | nil => exact ih
    | cons a t =>
      refine ⟨fun h => absurd h (List.cons_ne_nil a _), fun _ => ?_⟩
      by_cases hle : (a :: t).length ≤ n
      · exact ⟨a :: t, rest, if_pos hle, Nat.succ_le_succ (Nat.zero_le _), hle, rfl⟩
      · refine ⟨(a :: t).take n, (a :: t).drop n :: rest, if_neg hle, ?_, ?_, ?_⟩
        · rw [List.length_take]; exact Nat.le_min.mpr ⟨hn, Nat.succ_le_succ (Nat.zero_le _)⟩
        · exact List.length_take_le _ _
        · rw [List.flatten_cons, ← List.append_assoc, List.take_append_drop, List.flatten_cons]

theorem readExact_zero (fuel : Nat) (c : Segs) (acc : List Nat) :
    readExact fuel c 0 acc = (some acc, c) := by
  cases fuel <;> rfl

/-- the loop returns exactly the first `n` bytes in flight and leaves the rest, whatever the
segmentation; it reports EOF iff fewer than `n` bytes were in flight. -/
theorem readExact_spec (fuel : Nat) (c : Segs) (n : Nat) (acc : List Nat) (hf : n ≤ fuel) :
    (n ≤ c.flatten.length → ∃ c', readExact fuel c n acc = (some (acc ++ c.flatten.take n), c') ∧
        c'.flatten = c.flatten.drop n) ∧
    (c.flatten.length < n → (readExact fuel c n acc).1 = none) := by
  induction fuel generalizing c n acc with
  | zero =>
    obtain rfl : n = 0 := Nat.le_zero.mp hf
    exact ⟨fun _ => ⟨c, by rw [readExact_zero, List.take_zero, List.append_nil], rfl⟩,
      fun h => absurd h (Nat.not_lt_zero _)⟩
  | succ fuel ih =>
    cases n with
    | zero =>
      exact ⟨fun _ => ⟨c, by rw [readExact_zero, List.take_zero, List.append_nil], rfl⟩,
        fun h => absurd h (Nat.not_lt_zero _)⟩
    | succ n =>
      have hr := read_spec c (n + 1) (Nat.succ_le_succ (Nat.zero_le n))
      by_cases he : c.flatten = []
      · have hstep : readExact (fuel + 1) c (n + 1) acc = (none, []) := by
          rw [readExact, hr.1 he]
        rw [hstep, he]
        exact ⟨fun h => absurd h (Nat.not_succ_le_zero n), fun _ => rfl⟩
      · obtain ⟨bs, c', hread, h1, h2, h3⟩ := hr.2 he
        have hstep : readExact (fuel + 1) c (n + 1) acc =
            readExact fuel c' (n + 1 - bs.length) (acc ++ bs) := by
          rw [readExact, hread]
        have ih' := ih c' (n + 1 - bs.length) (acc ++ bs)
          (Nat.sub_le_of_le_add (Nat.le_trans hf (Nat.add_le_add_left h1 fuel)))
        rw [hstep, ← h3, List.length_append]
        constructor
        · intro h
          obtain ⟨c'', e1, e2⟩ := ih'.1 (Nat.sub_le_of_le_add (Nat.add_comm bs.length _ ▸ h))
          refine ⟨c'', ?_, ?_⟩
          · rw [e1, List.take_append, List.take_of_length_le h2, List.append_assoc]
          · rw [e2, List.drop_append, List.drop_of_length_le h2, List.nil_append]
        · intro h
          exact ih'.2 (Nat.lt_sub_of_add_lt (Nat.add_comm bs.length _ ▸ h))

theorem readExact_nil (c : Segs) (n : Nat) :
    (n ≤ c.flatten.length → ∃ c', readExact n c n [] = (some (c.flatten.take n), c') ∧
        c'.flatten = c.flatten.drop n) ∧
    (c.flatten.length < n → ∃ c', readExact n c n [] = (none, c')) := by
  have h := readExact_spec n c n [] (Nat.le_refl n)
  exact ⟨h.1, fun hl => ⟨_, Prod.ext (h.2 hl) rfl⟩⟩

/-- `receiveRawProd` as a function of the bytes in flight alone: the answer, and the bytes left
when the loop may go on -/
def frameSpec (max : Nat) (bs : List Nat) : Except RecvErr (List Nat) × List Nat :=
  if bs.length < 4 then (.error .eof, [])
  else if unbe32 (bs.take 4) > max then (.error .tooBig, bs.drop 4)
  else if (bs.drop 4).length < unbe32 (bs.take 4) then (.error .eof, [])
  else (.ok ((bs.drop 4).take (unbe32 (bs.take 4))), (bs.drop 4).drop (unbe32 (bs.take 4)))

/-- `recvFrame` under any segmentation computes `frameSpec` of the concatenation -/
theorem recvFrame_spec (max : Nat) (c : Segs) :
    (recvFrame max c).1 = (frameSpec max c.flatten).1 ∧
    (∀ b, (recvFrame max c).1 = .ok b → (recvFrame max c).2.flatten = (frameSpec max c.flatten).2) := by
  have s1 := readExact_nil c 4
  unfold frameSpec
  by_cases hl : c.flatten.length < 4
  · obtain ⟨c1, e1⟩ := s1.2 hl
    rw [if_pos hl]
    simp only [recvFrame, e1]
    exact ⟨trivial, fun _ h => nomatch h⟩
  · obtain ⟨c1, e1, f1⟩ := s1.1 (Nat.le_of_not_lt hl)
    rw [if_neg hl]
    by_cases hbig : unbe32 (c.flatten.take 4) > max
    · rw [if_pos hbig]
      simp only [recvFrame, e1, if_pos hbig]
      exact ⟨trivial, fun _ h => nomatch h⟩
    · rw [if_neg hbig, ← f1]
      have s2 := readExact_nil c1 (unbe32 (c.flatten.take 4))
      by_cases hl2 : c1.flatten.length < unbe32 (c.flatten.take 4)
      · obtain ⟨c2, e2⟩ := s2.2 hl2
        rw [if_pos hl2]
        simp only [recvFrame, e1, if_neg hbig, e2]
        exact ⟨trivial, fun _ h => nomatch h⟩
      · obtain ⟨c2, e2, f2⟩ := s2.1 (Nat.le_of_not_lt hl2)
        rw [if_neg hl2]
        simp only [recvFrame, e1, if_neg hbig, e2]
        exact ⟨trivial, fun b _ => f2⟩

theorem frameSpec_header (max n : Nat) (rest : List Nat) (h32 : n < 2 ^ 32) :
    frameSpec max (be32 n ++ rest) =
      if n > max then (.error .tooBig, rest)
      else if rest.length < n then (.error .eof, [])
      else (.ok (rest.take n), rest.drop n) := by
  have h4 : ¬ (be32 n ++ rest).length < 4 := by
    rw [List.length_append, be32_length]; exact Nat.not_lt.mpr (Nat.le_add_right 4 _)
  rw [frameSpec, if_neg h4, show (be32 n ++ rest).take 4 = be32 n from rfl,
    show (be32 n ++ rest).drop 4 = rest from rfl, unbe32_be32 n h32]

theorem frameSpec_enc (max : Nat) (b tail : List Nat) (hb : b.length ≤ max) (h32 : b.length < 2 ^ 32) :
    frameSpec max (encFrame b ++ tail) = (.ok b, tail) := by
  rw [encFrame, List.append_assoc, frameSpec_header max _ _ h32, if_neg (Nat.not_lt.mpr hb),
    if_neg (by rw [List.length_append]; exact Nat.not_lt.mpr (Nat.le_add_right _ _)),
    List.take_left, List.drop_left]

theorem frameSpec_short (max : Nat) (bs : List Nat) (h : bs.length < 4) :
    frameSpec max bs = (.error .eof, []) := if_pos h

theorem lt_of_header {a l b f : Nat} (h1 : 4 + l + a = b) (h2 : b < f + 1) : a < f := by omega

theorem frameSpec_progress (max : Nat) (bs b : List Nat) (h : (frameSpec max bs).1 = .ok b) :
    4 + b.length + (frameSpec max bs).2.length = bs.length := by
  rw [frameSpec] at h ⊢
  by_cases h1 : bs.length < 4
  · rw [if_pos h1] at h; cases h
  · rw [if_neg h1] at h ⊢
    by_cases h2 : unbe32 (bs.take 4) > max
    · rw [if_pos h2] at h; cases h
    · rw [if_neg h2] at h ⊢
      by_cases h3 : (bs.drop 4).length < unbe32 (bs.take 4)
      · rw [if_pos h3] at h; cases h
      · rw [if_neg h3] at h ⊢
        cases h
        rw [Nat.add_assoc, ← List.length_append, List.take_append_drop, List.length_drop,
          Nat.add_sub_cancel' (Nat.le_of_not_lt h1)]

/-- what a cut of the stream does to the next frame: the cut stream's frame is EOF, or it is the
uncut stream's answer with the correspondingly cut rest -/
theorem frameSpec_take (max : Nat) (bs : List Nat) (k : Nat) :
    (frameSpec max (bs.take k)).1 = .error .eof ∨
    ((frameSpec max (bs.take k)).1 = (frameSpec max bs).1 ∧
      ∀ b, (frameSpec max bs).1 = .ok b →
        (frameSpec max (bs.take k)).2 = (frameSpec max bs).2.take (k - 4 - b.length)) := by
  by_cases h1 : (bs.take k).length < 4
  · exact .inl (by rw [frameSpec_short max _ h1])
  · have h1' := h1
    rw [List.length_take, Nat.not_lt, Nat.le_min] at h1'
    have ht : (bs.take k).take 4 = bs.take 4 := by rw [List.take_take, Nat.min_eq_left h1'.1]
    unfold frameSpec
    rw [if_neg h1, if_neg (Nat.not_lt.mpr h1'.2), ht, List.drop_take]
    by_cases h2 : unbe32 (bs.take 4) > max
    · rw [if_pos h2, if_pos h2]
      exact .inr ⟨rfl, fun b hb => nomatch hb⟩
    · rw [if_neg h2, if_neg h2]
      by_cases h3 : ((bs.drop 4).take (k - 4)).length < unbe32 (bs.take 4)
      · exact .inl (by rw [if_pos h3])
      · rw [if_neg h3]
        rw [List.length_take, Nat.not_lt, Nat.le_min] at h3
        rw [if_neg (Nat.not_lt.mpr h3.2), List.take_take, Nat.min_eq_left h3.1]
        refine .inr ⟨rfl, fun b hb => ?_⟩
        obtain rfl := Except.ok.inj hb
        rw [List.drop_take, List.length_take, Nat.min_eq_left h3.2]

/-- a frame cut anywhere (in the header or in the body): EOF, nothing is delivered from it -/
theorem frameSpec_truncated (max : Nat) (b : List Nat) (k : Nat) (hb : b.length ≤ max) (h32 : b.length < 2 ^ 32)
    (hk : k < (encFrame b).length) : (frameSpec max ((encFrame b).take k)).1 = .error .eof := by
  have he := frameSpec_enc max b [] hb h32
  rw [List.append_nil] at he
  rcases frameSpec_take max (encFrame b) k with h | ⟨h, -⟩
  · exact h
  · -- the cut frame cannot answer `.ok b` like the whole one: that takes `4 + b.length` bytes, and it has `k`
    rw [he] at h
    rw [encFrame_length] at hk
    exact absurd hk (Nat.not_lt.mpr
      (Nat.le_trans (Nat.le.intro (frameSpec_progress max _ b h)) (List.length_take_le k _)))

/-- frame-level errors are EOF or too-big, nothing else -/
theorem frameSpec_err (max : Nat) (bs : List Nat) (e : RecvErr) (h : (frameSpec max bs).1 = .error e) :
    e = .eof ∨ e = .tooBig := by
  rw [frameSpec] at h
  by_cases h1 : bs.length < 4
  · rw [if_pos h1] at h; exact .inl (Except.error.inj h).symm
  · rw [if_neg h1] at h
    by_cases h2 : unbe32 (bs.take 4) > max
    · rw [if_pos h2] at h; exact .inr (Except.error.inj h).symm
    · rw [if_neg h2] at h
      by_cases h3 : (bs.drop 4).length < unbe32 (bs.take 4)
      · rw [if_pos h3] at h; exact .inl (Except.error.inj h).symm
      · rw [if_neg h3] at h; cases h

theorem recvFrame_pair (max : Nat) (c : Segs) : ∃ r c', recvFrame max c = (r, c') := ⟨_, _, rfl⟩

theorem recvFrame_err (max : Nat) (c c' : Segs) (e : RecvErr) (h : recvFrame max c = (.error e, c')) :
    e = .eof ∨ e = .tooBig :=
  frameSpec_err max c.flatten e (by rw [← (recvFrame_spec max c).1, h])

theorem recvFrame_progress (max : Nat) (c c' : Segs) (b : List Nat)
    (h : recvFrame max c = (.ok b, c')) : 4 + b.length + inflight c' = inflight c := by
  have sp := recvFrame_spec max c
  rw [h] at sp
  rw [inflight, sp.2 b rfl]
  exact frameSpec_progress max c.flatten b sp.1.symm

theorem recvFrame_enc (max : Nat) (b tail : List Nat) (c : Segs)
    (hb : b.length ≤ max) (h32 : b.length < 2^32) (hc : c.flatten = encFrame b ++ tail) :
    ∃ c', recvFrame max c = (.ok b, c') ∧ c'.flatten = tail := by
  obtain ⟨r, c', hr⟩ := recvFrame_pair max c
  have sp := recvFrame_spec max c
  rw [hr, hc, frameSpec_enc max b tail hb h32] at sp
  exact ⟨c', by rw [hr, show r = .ok b from sp.1], sp.2 b sp.1⟩

/-- `tail` makes the next `receiveRaw` fail with `e`, however it is segmented -/
def EndsWith (max : Nat) (tail : List Nat) (e : RecvErr) : Prop :=
  ∀ c : Segs, c.flatten = tail → (recvFrame max c).1 = .error e

theorem endsWith_of_spec (max : Nat) (tail : List Nat) (e : RecvErr) (h : (frameSpec max tail).1 = .error e) :
    EndsWith max tail e :=
  fun c hc => by rw [(recvFrame_spec max c).1, hc, h]

theorem endsWith_nil (max : Nat) : EndsWith max [] .eof := endsWith_of_spec max [] .eof rfl

/-- a header above the limit: refused before a single body byte is read -/
theorem endsWith_oversize (max n : Nat) (junk : List Nat) (hn : max < n) (h32 : n < 2^32) :
    EndsWith max (be32 n ++ junk) .tooBig :=
  endsWith_of_spec _ _ _ (by rw [frameSpec_header max n junk h32, if_pos hn])

theorem endsWith_truncated (max : Nat) (b : List Nat) (k : Nat) (hb : b.length ≤ max)
    (h32 : b.length < 2^32) (hk : k < (encFrame b).length) :
    EndsWith max ((encFrame b).take k) .eof :=
  endsWith_of_spec _ _ _ (frameSpec_truncated max b k hb h32 hk)

theorem wire_length_ge (frames : List (List Nat)) : 4 * frames.length ≤ (wire frames).length := by
  induction frames with
  | nil => exact Nat.le_refl 0
  | cons b l ih =>
    rw [wire_cons, List.length_append, encFrame_length, List.length_cons, Nat.mul_succ, Nat.add_comm]
    exact Nat.add_le_add (Nat.le_add_right 4 _) ih

theorem recvFrames_err (max fuel : Nat) (c c' : Segs) (e : RecvErr) (h : recvFrame max c = (.error e, c')) :
    recvFrames max (fuel + 1) c = ([], some e) := by
  rw [recvFrames, h]

theorem recvFrames_ok (max fuel : Nat) (c c' : Segs) (b : List Nat) (h : recvFrame max c = (.ok b, c')) :
    recvFrames max (fuel + 1) c = (b :: (recvFrames max fuel c').1, (recvFrames max fuel c').2) := by
  rw [recvFrames, h]

theorem recvFrames_wire (max : Nat) (hmax : max < 2^32) (frames : List (List Nat)) (tail : List Nat)
    (e : RecvErr) (hf : ∀ f ∈ frames, f.length ≤ max) (ht : EndsWith max tail e)
    (fuel : Nat) (hfuel : frames.length + 1 ≤ fuel) (c : Segs) (hc : c.flatten = wire frames ++ tail) :
    recvFrames max fuel c = (frames, some e) := by
  induction frames generalizing c fuel with
  | nil =>
    obtain ⟨fuel, rfl⟩ := Nat.exists_eq_succ_of_ne_zero (Nat.ne_of_gt hfuel)
    obtain ⟨r, c', hr⟩ := recvFrame_pair max c
    obtain rfl : r = .error e := by
      have := ht c hc
      rwa [hr] at this
    exact recvFrames_err max fuel c c' e hr
  | cons b rest ih =>
    obtain ⟨fuel, rfl⟩ := Nat.exists_eq_succ_of_ne_zero (Nat.ne_of_gt (Nat.lt_of_lt_of_le (Nat.succ_pos _) hfuel))
    have hb : b.length ≤ max := hf b List.mem_cons_self
    obtain ⟨c', e1, f1⟩ := recvFrame_enc max b (wire rest ++ tail) c hb (Nat.lt_of_le_of_lt hb hmax)
      (by rw [hc, wire_cons, List.append_assoc])
    rw [recvFrames_ok max fuel c c' b e1,
      ih (fun f h => hf f (List.mem_cons_of_mem _ h)) fuel (Nat.le_of_succ_le_succ hfuel) c' f1]

theorem recvFrames_total (max fuel : Nat) (c : Segs) (h : inflight c < fuel) :
    ∃ fs e, recvFrames max fuel c = (fs, some e) ∧ (e = .eof ∨ e = .tooBig) := by
  induction fuel generalizing c with
  | zero => exact absurd h (Nat.not_lt_zero _)
  | succ fuel ih =>
    obtain ⟨r, c', hr⟩ := recvFrame_pair max c
    cases r with
    | error e => exact ⟨[], e, recvFrames_err max fuel c c' e hr, recvFrame_err max c c' e hr⟩
    | ok b =>
      have hp := recvFrame_progress max c c' b hr
      obtain ⟨fs, e, h1, h2⟩ := ih c' (lt_of_header hp h)
      exact ⟨b :: fs, e, by rw [recvFrames_ok max fuel c c' b hr, h1], h2⟩

theorem classify_not_closed {V : Type} (cd : Codec V) (b : List Nat) :
    (classify cd b).isClosed = false := by
  rw [classify, unmarshal]
  by_cases h1 : b.length < 16
  · rw [if_pos h1]; rfl
  · rw [if_neg h1]
    by_cases h2 : cd.registered (b.take 16) = true
    · rw [if_pos h2]; cases cd.dec (b.take 16) (b.drop 16) <;> rfl
    · rw [if_neg h2]; rfl

theorem classify_error {V : Type} (cd : Codec V) (b : List Nat) (e : RecvErr) (h : unmarshal cd b = .error e) :
    classify cd b = .refused e := by
  have hc := classify_not_closed cd b
  rw [classify, h, react] at hc ⊢
  by_cases hf : fatal (sentinelOf e) = true
  · rw [if_pos hf] at hc; cases hc
  · rw [if_neg hf]

theorem recvLoop_err {V : Type} (cd : Codec V) (max fuel : Nat) (c c' : Segs) (e : RecvErr)
    (h : recvFrame max c = (.error e, c')) :
    recvLoop cd max (fuel + 1) c = [.closed e] := by
  rw [recvLoop, receive, h]
  rcases recvFrame_err max c c' e h with rfl | rfl <;> rfl

theorem recvLoop_ok {V : Type} (cd : Codec V) (max fuel : Nat) (c c' : Segs) (b : List Nat)
    (h : recvFrame max c = (.ok b, c')) :
    recvLoop cd max (fuel + 1) c = classify cd b :: recvLoop cd max fuel c' := by
  rw [recvLoop, receive, h]
  show (if (classify cd b).isClosed then _ else _) = _
  rw [classify_not_closed]
  rfl

def closing {E : Type} (closed : RecvErr → E) (r : Option RecvErr) : List E := (r.map closed).toList

theorem closing_some {E : Type} (closed : RecvErr → E) (e : RecvErr) : closing closed (some e) = [closed e] := rfl

theorem closing_map {E E' : Type} (closed : RecvErr → E) (g : E → E') (r : Option RecvErr) :
    (closing closed r).map g = closing (fun e => g (closed e)) r := by
  cases r <;> rfl

theorem recvLoop_eq_frames {V : Type} (cd : Codec V) (max fuel : Nat) (c : Segs) :
    recvLoop cd max fuel c =
      (recvFrames max fuel c).1.map (classify cd) ++ closing .closed (recvFrames max fuel c).2 := by
  induction fuel generalizing c with
  | zero => rfl
  | succ fuel ih =>
    obtain ⟨r, c', hr⟩ := recvFrame_pair max c
    cases r with
    | error e => rw [recvLoop_err cd max fuel c c' e hr, recvFrames_err max fuel c c' e hr, closing_some]; rfl
    | ok b => rw [recvLoop_ok cd max fuel c c' b hr, ih c', recvFrames_ok max fuel c c' b hr]; rfl

theorem classifyEnv_erase {V : Type} (cd : Codec V) (remote : Nat) (procs : List (List Nat)) (b : List Nat) :
    (classifyEnv cd remote procs b).erase = classify cd b := by
  unfold classifyEnv classify react
  cases unmarshal cd b with
  | ok v => simp only []; split <;> rfl
  | error e => simp only []; split <;> rfl

theorem classifyEnv_not_closed {V : Type} (cd : Codec V) (remote : Nat) (procs : List (List Nat)) (b : List Nat) :
    (classifyEnv cd remote procs b).isClosed = false := by
  have h := classify_not_closed cd b
  rw [← classifyEnv_erase cd remote procs b] at h
  -- `erase` keeps a `closed` event closed, so `classifyEnv` can give none
  cases hc : classifyEnv cd remote procs b with
  | closed e => rw [hc] at h; exact h
  | _ => rfl

theorem recvEnvLoop_eq_frames {V : Type} (cd : Codec V) (max remote : Nat) (procs : List (List Nat))
    (fuel : Nat) (c : Segs) :
    recvEnvLoop cd max remote procs fuel c =
      (recvFrames max fuel c).1.map (classifyEnv cd remote procs) ++ closing .closed (recvFrames max fuel c).2 := by
  induction fuel generalizing c with
  | zero => rfl
  | succ fuel ih =>
    obtain ⟨r, c', hr⟩ := recvFrame_pair max c
    cases r with
    | error e =>
      rw [recvFrames_err max fuel c c' e hr, recvEnvLoop, hr]
      rcases recvFrame_err max c c' e hr with rfl | rfl <;> rfl
    | ok b =>
      rw [recvFrames_ok max fuel c c' b hr, recvEnvLoop, hr]
      simp only [classifyEnv_not_closed, Bool.false_eq_true, if_false, ih c', List.map_cons, List.cons_append]

/-- the loop with the envelope in view is the loop of the delivery theorems: forgetting the
envelope fields gives exactly its events (so every theorem about `recvLoop` speaks about it) -/
theorem recvEnvLoop_erase {V : Type} (cd : Codec V) (max remote : Nat) (procs : List (List Nat))
    (fuel : Nat) (c : Segs) :
    (recvEnvLoop cd max remote procs fuel c).map EnvEvent.erase = recvLoop cd max fuel c := by
  rw [recvEnvLoop_eq_frames, recvLoop_eq_frames, List.map_append, List.map_map]
  congr 1
  · exact List.map_congr_left fun b _ => classifyEnv_erase cd remote procs b
  · exact closing_map _ _ _

/-- the receive loop on `frames` (each within the limit) followed by a tail that ends the
connection with `e`: every frame is classified on its own, in order, then the connection closes. -/
theorem recvLoop_frames {V : Type} (cd : Codec V) (max : Nat) (hmax : max < 2^32)
    (frames : List (List Nat)) (tail : List Nat) (e : RecvErr)
    (hf : ∀ f ∈ frames, f.length ≤ max) (ht : EndsWith max tail e)
    (hfatal : fatal (sentinelOf e) = true)
    (fuel : Nat) (hfuel : frames.length + 1 ≤ fuel) (c : Segs)
    (hc : c.flatten = wire frames ++ tail) :
    recvLoop cd max fuel c = frames.map (classify cd) ++ [.closed e] := by
  rw [recvLoop_eq_frames, recvFrames_wire max hmax frames tail e hf ht fuel hfuel c hc, closing_some]

/-- the default fuel of `recvAll` is enough for any number of frames -/
theorem recvAll_frames {V : Type} (cd : Codec V) (max : Nat) (hmax : max < 2^32)
    (frames : List (List Nat)) (tail : List Nat) (e : RecvErr)
    (hf : ∀ f ∈ frames, f.length ≤ max) (ht : EndsWith max tail e) (c : Segs)
    (hc : c.flatten = wire frames ++ tail) :
    recvAll cd max c = frames.map (classify cd) ++ [.closed e] := by
  rw [recvAll, recvLoop_eq_frames, recvFrames_wire max hmax frames tail e hf ht _ ?_ c hc, closing_some]
  rw [inflight, hc, List.length_append]
  exact Nat.succ_le_succ (Nat.le_trans (Nat.le_trans (Nat.le_mul_of_pos_left _ (by decide)) (wire_length_ge frames))
    (Nat.le_add_right _ _))

/-- **the specification of the receive loop: a parser of the byte stream.**  No segments, no reads:
take a header, test it against the limit, take the body, classify it, go on with the rest. -/
def specLoop {V : Type} (cd : Codec V) (max : Nat) : Nat → List Nat → List (Event V)
  | 0, _ => []
  | fuel + 1, bs =>
    match frameSpec max bs with
    | (.error e, _) => [.closed e]
    | (.ok b, rest) => classify cd b :: specLoop cd max fuel rest

theorem specLoop_err {V : Type} (cd : Codec V) (max fuel : Nat) (bs : List Nat) (e : RecvErr)
    (h : (frameSpec max bs).1 = .error e) : specLoop cd max (fuel + 1) bs = [.closed e] := by
  rw [specLoop]
  split
  · rename_i heq; rw [heq] at h; cases h; rfl
  · rename_i heq; rw [heq] at h; cases h

theorem specLoop_ok {V : Type} (cd : Codec V) (max fuel : Nat) (bs b : List Nat)
    (h : (frameSpec max bs).1 = .ok b) :
    specLoop cd max (fuel + 1) bs = classify cd b :: specLoop cd max fuel (frameSpec max bs).2 := by
  rw [specLoop]
  split
  · rename_i heq; rw [heq] at h; cases h
  · rename_i heq; rw [heq] at h; cases h; rw [heq]

/-- `dropLast`: the close at the cut is the only event the whole stream need not repeat -/
theorem specLoop_take {V : Type} (cd : Codec V) (max fuel : Nat) (bs : List Nat) (k : Nat) :
    (specLoop cd max fuel (bs.take k)).dropLast <+: specLoop cd max fuel bs := by
  induction fuel generalizing bs k with
  | zero => exact List.nil_prefix
  | succ fuel ih =>
    rcases frameSpec_take max bs k with h | ⟨h1, h2⟩
    · rw [specLoop_err cd max fuel _ _ h]; exact List.nil_prefix
    · cases hr : (frameSpec max bs).1 with
      | error e => rw [specLoop_err cd max fuel _ e (h1.trans hr)]; exact List.nil_prefix
      | ok b =>
        rw [specLoop_ok cd max fuel _ b (h1.trans hr), specLoop_ok cd max fuel _ b hr, h2 b hr]
        have := ih (frameSpec max bs).2 (k - 4 - b.length)
        cases hl : specLoop cd max fuel ((frameSpec max bs).2.take (k - 4 - b.length)) with
        | nil => exact List.nil_prefix
        | cons x l =>
          rw [hl] at this
          rw [List.dropLast_cons_of_ne_nil (List.cons_ne_nil x l)]
          exact List.cons_prefix_cons.mpr ⟨rfl, this⟩

/-- more fuel than bytes in flight changes nothing (every turn that goes on consumes a header) -/
theorem specLoop_fuel {V : Type} (cd : Codec V) (max fuel m : Nat) (bs : List Nat) (h : bs.length < fuel) :
    specLoop cd max (fuel + m) bs = specLoop cd max fuel bs := by
  induction fuel generalizing bs with
  | zero => exact absurd h (Nat.not_lt_zero _)
  | succ fuel ih =>
    rw [Nat.add_right_comm]
    cases hr : (frameSpec max bs).1 with
    | error e => rw [specLoop_err cd max _ _ e hr, specLoop_err cd max _ _ e hr]
    | ok b =>
      have := frameSpec_progress max bs b hr
      rw [specLoop_ok cd max _ _ b hr, specLoop_ok cd max _ _ b hr, ih _ (lt_of_header this h)]

/-- the values handed to the dispatcher, in order -/
def delivered {V : Type} : List (Event V) → List V
  | [] => []
  | .deliver v :: l => v :: delivered l
  | _ :: l => delivered l

theorem delivered_append {V : Type} (l₁ l₂ : List (Event V)) :
    delivered (l₁ ++ l₂) = delivered l₁ ++ delivered l₂ := by
  induction l₁ with
  | nil => rfl
  | cons x l ih => cases x <;> simp [delivered, ih]

theorem delivered_prefix {V : Type} (l₁ l₂ : List (Event V)) (h : l₁ <+: l₂) : delivered l₁ <+: delivered l₂ := by
  obtain ⟨t, rfl⟩ := h
  rw [delivered_append]
  exact List.prefix_append _ _

theorem delivered_append_closed {V : Type} (l : List (Event V)) (e : RecvErr) :
    delivered (l ++ [.closed e]) = delivered l := by
  rw [delivered_append]
  exact List.append_nil _

/-- what `Send` writes for a value -/
def bufOf {V : Type} (cd : Codec V) (v : V) : List Nat := cd.tyOf v ++ cd.enc v

theorem marshal_bufOf {V : Type} (cd : Codec V) (v : V) (hs : cd.sendable v = true) :
    marshal cd v = some (bufOf cd v) := if_pos hs

theorem unmarshal_append {V : Type} (cd : Codec V) (ty body : List Nat) (h : ty.length = 16) :
    unmarshal cd (ty ++ body) =
      if cd.registered ty then
        match cd.dec ty body with
        | some v => .ok v
        | none => .error .decode
      else .error .unknownType := by
  have hl : ¬ (ty ++ body).length < 16 := by
    rw [List.length_append, h]; exact Nat.not_lt.mpr (Nat.le_add_right 16 _)
  rw [unmarshal, if_neg hl, ← h, List.take_left, List.drop_left]
  rfl

theorem unmarshal_bufOf {V : Type} (cd : Codec V) (hcd : cd.Sound) (v : V) (hs : cd.sendable v = true) :
    unmarshal cd (bufOf cd v) = .ok v := by
  rw [bufOf, unmarshal_append cd _ _ (hcd.ty_len v hs), hcd.ty_reg v hs, if_pos rfl, hcd.roundtrip v hs]

theorem map_classify_bufOf {V : Type} (cd : Codec V) (hcd : cd.Sound) (vs : List V)
    (hv : ∀ v ∈ vs, cd.sendable v = true) :
    (vs.map (bufOf cd)).map (classify cd) = vs.map .deliver := by
  rw [List.map_map]
  exact List.map_congr_left fun v h => by rw [Function.comp, classify, unmarshal_bufOf cd hcd v (hv v h)]; rfl

theorem map_frames_closed {V : Type} (cd : Codec V) (g : Event V → Event V)
    (hd : ∀ v, g (.deliver v) = .deliver v) (hr : ∀ e, g (.refused e) = .refused e)
    (frames : List (List Nat)) (e : RecvErr) :
    (frames.map (classify cd) ++ [Event.closed e]).map g = frames.map (classify cd) ++ [g (.closed e)] := by
  rw [List.map_append, List.map_map]
  congr 1
  refine List.map_congr_left fun f _ => ?_
  show g (classify cd f) = classify cd f
  have hc := classify_not_closed cd f
  cases hx : classify cd f with
  | deliver v => exact hd v
  | refused e' => exact hr e'
  | closed e' => rw [hx] at hc; cases hc

theorem classifyEnv_bufOf {V : Type} (cd : Codec V) (hcd : cd.Sound) (remote : Nat) (procs : List (List Nat))
    (v : V) (hs : cd.sendable v = true) :
    classifyEnv cd remote procs (bufOf cd v) =
      if procs.contains (cd.tyOf v) then
        EnvEvent.processed { sender := remote, msgType := cd.tyOf v, msg := v, size := (bufOf cd v).length }
      else EnvEvent.noProcessor { sender := remote, msgType := cd.tyOf v, msg := v, size := (bufOf cd v).length } := by
  have t16 : (bufOf cd v).take 16 = cd.tyOf v := by
    rw [bufOf, ← hcd.ty_len v hs, List.take_left]
  simp only [classifyEnv, unmarshal_bufOf cd hcd v hs, t16]

end C03

import OnetVerif.Model.C19Files
/-! C19: the file handling of `RunTests` (`Model/C19Files.lean`).  `specFrom` and `widthFrom` say, without the file list
being threaded through, what file `j` holds after the runs and how many files they need.  Core only. -/
namespace C19

theorem splitColon_ne_nil : ∀ bs : List Nat, splitColon bs ≠ []
  | [] => by simp [splitColon]
  | c :: r => by
    have ih := splitColon_ne_nil r
    unfold splitColon
    cases h : splitColon r with
    | nil => exact absurd h ih
    | cons a t => by_cases hc : c = 58 <;> simp [hc]

section files
variable {S L : Type}

theorem getD_pad (fs : List (List L)) (j : Nat) : (fs ++ [[]])[j]?.getD [] = fs[j]?.getD [] := by
  rw [List.getElem?_append]
  split
  · rfl
  · next h =>
    rw [List.getElem?_eq_none (Nat.not_lt.mp h)]
    cases j - fs.length <;> rfl

theorem getD_modify_append (fs : List (List L)) (o j : Nat) (x : List L) (ho : o < fs.length) :
    (fs.modify o (· ++ x))[j]?.getD [] = fs[j]?.getD [] ++ if j = o then x else [] := by
  rw [List.getElem?_modify]
  by_cases e : j = o
  · subst e
    rw [List.getElem?_eq_getElem ho, if_pos rfl]
    exact if_pos rfl
  · rw [if_neg e, List.append_nil]
    cases fs[j]? with
    | none => rfl
    | some a => exact if_neg fun e' => e e'.symm

theorem writeSet_length (ln : S → List L) (fs : List (List L)) (o : Nat) (s : S) (h : o ≤ fs.length) :
    (writeSet ln fs o s).length = max fs.length (o + 1) := by
  rw [writeSet, List.length_modify]
  split
  · next h1 =>
    rw [List.length_append, List.length_singleton, Nat.le_antisymm h h1]
    exact (Nat.max_eq_right (Nat.le_succ _)).symm
  · next h1 => exact (Nat.max_eq_left (Nat.lt_of_not_le h1)).symm

theorem writeSet_get (ln : S → List L) (fs : List (List L)) (o : Nat) (s : S) (h : o ≤ fs.length) (j : Nat) :
    (writeSet ln fs o s)[j]?.getD [] = fs[j]?.getD [] ++ (if j = o then ln s else []) := by
  rw [writeSet]
  split
  · rw [getD_modify_append _ _ _ _ (by rw [List.length_append, List.length_singleton]; omega), getD_pad]
  · rw [getD_modify_append _ _ _ _ (by omega)]

theorem writeRunFrom_length (ln : S → List L) : ∀ (sets : List S) (o : Nat) (fs : List (List L)), o ≤ fs.length →
    (writeRunFrom ln o sets fs).length = max fs.length (o + sets.length)
  | [], o, fs, h => by rw [writeRunFrom]; exact (Nat.max_eq_left h).symm
  | s :: ss, o, fs, h => by
    have hl := writeSet_length ln fs o s h
    rw [writeRunFrom, writeRunFrom_length ln ss (o + 1) _ (hl ▸ Nat.le_max_right _ _), hl, List.length_cons,
      Nat.max_assoc, Nat.max_eq_right (Nat.le_add_right (o + 1) _), Nat.add_assoc, Nat.add_comm 1]

theorem writeRunFrom_get (ln : S → List L) : ∀ (sets : List S) (o : Nat) (fs : List (List L)), o ≤ fs.length →
    ∀ j, (writeRunFrom ln o sets fs)[j]?.getD [] =
      fs[j]?.getD [] ++ (if j < o then [] else ((sets[j - o]?).map ln).getD [])
  | [], o, fs, h, j => by
    rw [writeRunFrom, List.getElem?_nil]
    split <;> exact (List.append_nil _).symm
  | s :: ss, o, fs, h, j => by
    have hl := writeSet_length ln fs o s h
    rw [writeRunFrom, writeRunFrom_get ln ss (o + 1) _ (hl ▸ Nat.le_max_right _ _) j, writeSet_get ln fs o s h j, List.append_assoc]
    refine congrArg _ ?_
    rcases Nat.lt_trichotomy j o with h1 | rfl | h1
    · rw [if_neg (Nat.ne_of_lt h1), if_pos (Nat.lt_succ_of_lt h1), if_pos h1]
      rfl
    · rw [if_pos rfl, if_pos (Nat.lt_succ_self j), if_neg (Nat.lt_irrefl j), Nat.sub_self, List.append_nil]
      rfl
    · rw [if_neg (Nat.ne_of_gt h1), if_neg (Nat.not_lt.mpr h1), if_neg (Nat.lt_asymm h1), List.nil_append,
        show j - o = j - (o + 1) + 1 from (Nat.succ_pred_eq_of_pos (Nat.sub_pos_of_lt h1)).symm,
        List.getElem?_cons_succ]

/-- file `j` after the runs from index `i` on: what was there, then per executed run that has a result set `j` its lines -/
def specFrom (ss : Int × Int) (j : Nat) : Nat → List (Option (List S)) → List (Line S)
  | _, [] => []
  | i, r :: rs =>
    (if inRange ss i then
      match r with
      | some sets => ((sets[j]?).map (runLines i)).getD []
      | none => []
    else []) ++ specFrom ss j (i + 1) rs

/-- the number of files the runs from index `i` on need -/
def widthFrom (ss : Int × Int) : Nat → List (Option (List S)) → Nat
  | _, [] => 0
  | i, r :: rs =>
    max (if inRange ss i then (match r with | some sets => sets.length | none => 0) else 0) (widthFrom ss (i + 1) rs)

theorem runTestsFrom_get (ss : Int × Int) : ∀ (runs : List (Option (List S))) (i : Nat) (fs : List (List (Line S))) (j : Nat),
    (runTestsFrom ss i runs fs)[j]?.getD [] = fs[j]?.getD [] ++ specFrom ss j i runs
  | [], i, fs, j => (List.append_nil _).symm
  | r :: rs, i, fs, j => by
    unfold runTestsFrom specFrom
    cases inRange ss i with
    | false => exact (runTestsFrom_get ss rs (i + 1) fs j).trans (congrArg _ (List.nil_append _).symm)
    | true =>
      cases r with
      | none => exact (runTestsFrom_get ss rs (i + 1) fs j).trans (congrArg _ (List.nil_append _).symm)
      | some sets =>
        refine (runTestsFrom_get ss rs (i + 1) _ j).trans ?_
        rw [writeRunFrom_get (runLines i) sets 0 fs (Nat.zero_le _) j, List.append_assoc]
        rfl

theorem runTestsFrom_length (ss : Int × Int) : ∀ (runs : List (Option (List S))) (i : Nat) (fs : List (List (Line S))),
    (runTestsFrom ss i runs fs).length = max fs.length (widthFrom ss i runs)
  | [], i, fs => (Nat.max_eq_left (Nat.zero_le _)).symm
  | r :: rs, i, fs => by
    unfold runTestsFrom widthFrom
    cases inRange ss i with
    | false => exact (runTestsFrom_length ss rs (i + 1) fs).trans (congrArg _ (Nat.zero_max _).symm)
    | true =>
      cases r with
      | none => exact (runTestsFrom_length ss rs (i + 1) fs).trans (congrArg _ (Nat.zero_max _).symm)
      | some sets =>
        refine (runTestsFrom_length ss rs (i + 1) _).trans ?_
        rw [writeRunFrom_length (runLines i) sets 0 fs (Nat.zero_le _), Nat.zero_add, Nat.max_assoc]
        rfl

end files
end C19

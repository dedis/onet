import OnetVerif.Model.C12
import OnetVerif.Gen.C12Nary
import OnetVerif.Proofs.GenRt
/-! Helper lemmas for `C12.c12_gen_WithRoot_eq` (Props/C12Gen.lean): the regenerated `Roster.GenerateNaryTreeWithRoot`
(`Gen/C12Nary.lean`) against the hand model `C12.genNaryKeys`.  Core Lean only. -/
namespace C12.NaryGen
open C12

/-- the roster of the translation over these keys (no nil entry; a server's id is its key) -/
def roster (keys : List Nat) : Gen.C12Nary.Roster := { List := keys.map fun k => some { Public := k } }

/-- the state function of one iteration, read off the model -/
def step (N rootIdx n : Nat) (s : List Nat × List Nat × Nodes) (i : Int) : Option (List Nat × List Nat × Nodes) :=
  match naryStep N rootIdx n { nodes := s.2.2, parents := s.1, children := s.2.1 } i.toNat with
  | none => none
  | some s' => some (s'.parents, s'.children, s'.nodes)

theorem set_last (h : Nodes) (x : Nat) (q : Nat) :
    (h ++ [(x, 0)]).set h.length (((h ++ [(x, 0)]).getD h.length (0, 0)).1, q) = h ++ [(x, q)] := by
  simp [List.getD]

set_option linter.unusedVariables false

/-- one iteration of the generated loop body is the model's `naryStep` (run on the goal the main theorem leaves after
`Gen.Rt.loop_step`: the generated text sits in the goal, so the proof is a script, not a lemma about a copy) -/
macro "nary_step_tac" keys:ident N:ident r:term:max i:ident p:ident c:ident h:ident hne:ident hi1:ident imodlemma:term:max : tactic => `(tactic| (
  have hn : 0 < ($keys).length := by cases $keys:ident <;> simp_all
  have hlen : Gen.Rt.len (roster $keys).List = (($keys).length : Int) := by simp [Gen.Rt.len, roster]
  rw [hlen, $imodlemma (by omega) hn]
  simp only []
  have hlt : (($i).toNat + $r) % ($keys).length < ($keys).length := Nat.mod_lt _ hn
  have hidx : Gen.Rt.idx (roster $keys).List (((($i).toNat + $r) % ($keys).length : Nat) : Int) = some (some { Public := ($keys)[(($i).toNat + $r) % ($keys).length] }) := by
    rw [idx_nat]
    simp [roster, hlt]
  rw [hidx]
  simp only [Int.toNat_natCast, set_last, idx_zero, len_eq_zero]
  unfold step naryStep
  cases $p:ident with
  | nil => simp
  | cons p0 prest =>
    simp only [List.head?_cons, slice_tail]
    by_cases hN : subtreeCount $h p0 = $N
    · simp only [hN, Int.ofNat_eq_natCast, beq_self_eq_true, if_true]
      cases prest with
      | nil =>
        simp
        cases $c:ident <;> simp
      | cons a b => simp
    · have h2 : ¬ (((subtreeCount $h p0 : Nat) : Int) = (($N : Nat) : Int)) := by omega
      simp [h2, hN]))

def ofOutcome : Outcome Nodes → Option (Outcome Nodes)
  | .panic => none
  | o => some o

theorem upto_range' (n : Nat) : Gen.Rt.upto 1 (n : Int) = (List.range' 1 (n - 1)).map Int.ofNat := by
  have h : ((n : Int) - 1).toNat = n - 1 := Int.toNat_sub n 1
  simp [Gen.Rt.upto, h, List.range'_eq_map_range, List.map_map, Function.comp_def]

theorem foldlM_step (N r n : Nat) (xs : List Nat) (p c : List Nat) (h : Nodes) :
    List.foldlM (step N r n) (p, c, h) (xs.map Int.ofNat) =
      (naryLoop N r n xs { nodes := h, parents := p, children := c }).map fun s => (s.parents, s.children, s.nodes) := by
  induction xs generalizing p c h with
  | nil => simp [naryLoop]
  | cons x xs ih =>
    simp only [List.map_cons, List.foldlM_cons, naryLoop]
    cases hs : naryStep N r n { nodes := h, parents := p, children := c } x with
    | none => simp [step, hs]
    | some s' => simp [step, hs, ih]

theorem search_eq (keys : List Nat) (k : Nat) :
    Gen.C12Nary.Roster_searchByKey (roster keys) k =
      some (match search keys k with | some i => ((i : Int), some { Public := k }) | none => (-1, none)) := by
  unfold Gen.C12Nary.Roster_searchByKey Gen.Rt.rangeReturn Gen.Rt.enum
  rw [roster, Gen.Rt.findSome?_enumFrom _ (· == k) (fun i e => some (i, some e)) _ (fun _ _ => rfl), search,
    List.findIdx?_eq_fst_find?_zipIdx]
  cases h : keys.zipIdx.find? fun t => t.1 == k with
  | none => rfl
  | some t =>
    -- the key found is `k`
    rw [← beq_iff_eq.mp (List.find?_some h :)]
    rfl

theorem withRoot_some (keys : List Nat) (N k : Nat) :
    (Gen.C12Nary.Roster_GenerateNaryTreeWithRoot (roster keys) (Int.ofNat N) (some { Public := k }) []).map (·.1) =
      ofOutcome (genNary N (search keys k) keys.length) := by
  unfold Gen.C12Nary.Roster_GenerateNaryTreeWithRoot
  simp only [Option.isNone_some, Bool.not_false, if_true, search_eq]
  cases hs : search keys k with
  | none => simp only [Int.reduceNeg, Int.reduceLT, decide_true, if_true, Option.map_some, ofOutcome, genNary]
  | some r =>
    have hn : 0 < keys.length := by
      cases keys with
      | nil => cases hs
      | cons _ _ => exact Nat.succ_pos _
    have hlen : Gen.Rt.len (roster keys).List = (keys.length : Int) := by
      rw [Gen.Rt.len, roster, List.length_map]; rfl
    simp only [Int.not_lt.mpr (Int.natCast_nonneg r), decide_false, Bool.false_eq_true, if_false]
    rw [Gen.Rt.loop_step (step N r keys.length) none]
    · rw [hlen, upto_range', foldlM_step]
      simp only [genNary, List.nil_append, List.length_nil, Int.toNat_natCast]
      cases naryLoop N r keys.length (List.range' 1 (keys.length - 1)) { nodes := [(r, 0)], parents := [0], children := [] } <;> rfl
    · -- one iteration of the generated loop body is the model's `naryStep`
      intro s i hi
      obtain ⟨p, c, h⟩ := s
      have hi1 : 1 ≤ i := by
        obtain ⟨j, _, rfl⟩ := List.mem_map.mp hi
        exact Int.le_add_of_nonneg_right (Int.natCast_nonneg j)
      dsimp only
      rw [hlen, Gen.Rt.imod_nat i r keys.length (Int.le_trans (by decide) hi1) hn]
      dsimp only
      have hlt : (i.toNat + r) % keys.length < keys.length := Nat.mod_lt _ hn
      have hidx : Gen.Rt.idx (roster keys).List (((i.toNat + r) % keys.length : Nat) : Int) =
          some (some { Public := keys[(i.toNat + r) % keys.length] }) := by
        rw [Gen.Rt.idx_nat]
        simp only [roster, List.length_map, hlt, getElem?_pos, List.getElem_map]
      rw [hidx]
      simp only [Int.toNat_natCast, set_last, Gen.Rt.idx_zero, Gen.Rt.len_eq_zero]
      unfold step naryStep
      cases p with
      | nil => simp only [List.head?_nil]
      | cons p0 prest =>
        simp only [List.head?_cons, Gen.Rt.slice_tail]
        by_cases hN : subtreeCount h p0 = N
        · simp only [hN, Int.ofNat_eq_natCast, beq_self_eq_true, if_true]
          cases prest with
          | nil =>
            simp only [List.isEmpty_nil, if_true, List.nil_append]
            cases c with
            | nil => simp only [List.head?_nil]
            | cons _ _ => simp only [List.head?_cons]
          | cons a b => simp only [List.isEmpty_cons, Bool.false_eq_true, if_false, List.head?_cons]
        · have h2 : ¬ (((subtreeCount h p0 : Nat) : Int) = ((N : Nat) : Int)) := fun e => hN (Int.natCast_inj.mp e)
          simp only [Int.ofNat_eq_natCast, beq_iff_eq, h2, hN, if_false, List.isEmpty_cons, Bool.false_eq_true,
            List.head?_cons]

theorem search_head (a : Nat) (rest : List Nat) : search (a :: rest) a = some 0 := by
  simp [search, List.findIdx?_cons]

/-- `nil` takes the first server, which is what asking for the first server's key finds: `withRoot_some` -/
theorem withRoot_nil (keys : List Nat) (N : Nat) (hne : keys ≠ []) :
    (Gen.C12Nary.Roster_GenerateNaryTreeWithRoot (roster keys) (Int.ofNat N) none []).map (·.1) =
      ofOutcome (genNary N (some 0) keys.length) := by
  cases keys with
  | nil => exact absurd rfl hne
  | cons a rest =>
    rw [← search_head a rest, ← withRoot_some]
    congr 1
    unfold Gen.C12Nary.Roster_GenerateNaryTreeWithRoot
    simp only [Option.isNone_none, Option.isNone_some, Bool.not_true, Bool.not_false, if_true, Bool.false_eq_true,
      if_false, search_eq, search_head]
    rfl

end C12.NaryGen

import OnetVerif.Model.C05Reg
import OnetVerif.Proofs.C05Inst
/-! The registration model of C05 (`Model/C05Reg.lean`): what `register` does, and what the steps leave alone or only
let grow. -/
namespace C05
namespace Reg

theorem run_skips : Sched.Skips step run := ⟨fun _ => rfl, fun s a as => by rw [run]; cases step s a <;> rfl⟩

theorem register_fst (s : St) : (register s).1 = { s with bound := s.bound || !s.core.closing } := by
  obtain ⟨core, pcs, bound⟩ := s
  unfold register
  cases bound <;> cases hc : core.closing <;> rfl

theorem register_refused {s : St} (h : s.bound = true ∨ s.core.closing = true) :
    (register s).1 = s ∧ (register s).2 ≠ .ok := by
  unfold register
  split
  · exact ⟨rfl, fun h => nomatch h⟩
  · rcases h with hb | hc
    · rw [if_pos hb]; exact ⟨rfl, fun h => nomatch h⟩
    · exact absurd hc ‹_›

theorem step_frame {s s' : St} {a : Act} (hs : step s a = some s') :
    s'.pcs.length = s.pcs.length ∧ (s.bound = true → s'.bound = true) ∧
      (s.core.closing = true → s'.core.closing = true) := by
  cases a with
  | accept m =>
    obtain ⟨t, ht, rfl⟩ := Option.map_eq_some_iff.mp hs
    exact ⟨rfl, id, closing_mono ht⟩
  | close => cases hs; exact ⟨rfl, id, fun _ => rfl⟩
  | register =>
    cases hs
    rw [register_fst]
    exact ⟨rfl, fun h => (congrArg (· || !s.core.closing) h).trans (Bool.true_or _), id⟩
  | reader k =>
    simp only [step] at hs
    split at hs
    · cases hs
    · split at hs <;> cases hs
      have hcl := closing_mono ‹C05.step _ _ = some _›
      exact ⟨List.length_set, id, hcl⟩

theorem run_pcs_length (as : List Act) (s : St) : (run s as).pcs.length = s.pcs.length :=
  run_skips.inv (P := fun t => t.pcs.length = s.pcs.length) (fun _ _ _ h hs => (step_frame hs).1.trans h) as s rfl

theorem run_bound (as : List Act) (s : St) (hb : s.bound = true) : (run s as).bound = true :=
  run_skips.inv (P := fun s => s.bound = true) (fun _ _ _ h hs => (step_frame hs).2.1 h) as s hb

theorem view_run {s : St} {p : RPc} (hp : s.pcs = [p]) (as : List Act) :
    view (run s as) = runT { s.core with pc := p } (erase as) := by
  induction as generalizing s p with
  | nil => rw [run_skips.nil, view, hp]; rfl
  | cons a as ih =>
    rw [run_skips.cons]
    cases a with
    | accept m =>
      -- the hand-over ignores `pc` and is total: both steps are `some`, the `getD`s go
      rw [erase, runT_skips.cons, C05.step_accept_pc]
      show view (run (((C05.step s.core (.accept m)).map _).getD s) as) = _
      rw [C05.step_accept_getD]
      exact ih hp
    -- `close` sets two flags whatever `pc` is: both sides reduce to the same state, no rewriting needed
    | close => exact ih hp
    | register =>
      have hr := register_fst s
      rw [erase, ← show (register s).1.core = s.core by rw [hr]]
      exact ih ((congrArg St.pcs hr).trans hp)
    | reader k =>
      cases k with
      | zero =>
        rw [erase, runT_skips.cons]
        simp only [step, hp, List.getElem?_cons_zero]
        cases C05.step { s.core with pc := p } .reader with
        | none => exact ih hp
        | some t => exact ih rfl
      | succ k =>
        simp only [step, hp, List.getElem?_cons_succ, List.getElem?_nil]
        exact ih hp

end Reg
end C05

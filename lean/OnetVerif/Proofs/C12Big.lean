import OnetVerif.Model.C12
import OnetVerif.Proofs.Lists
/-! Property C12 — the loop nest of `GenerateBigNaryTree` (`genBig`), proved once: `genBig_run` carries any invariant `I`
of (loop state, servers placed so far) that choosing and placing one child keeps (`PickInv`).  The theorems about the big
tree are its instances at `StOK`; a further clause starts with an `I` and `PickInv c I`.  Core Lean only. -/
namespace C12

/-- level `k` holds `min (N^k) remaining` nodes -/
def levelSizesPow (N : Nat) : (fuel k rem : Nat) → List Nat
  | 0, _, _ => []
  | fuel + 1, k, rem => if rem = 0 then [] else
    min (N ^ k) rem :: levelSizesPow N fuel (k + 1) (rem - min (N ^ k) rem)

/-- what `c12_big_*` say about the levels below a level `prev` -/
def LevelsOK (N : Nat) : (prev : Level) → List Level → Prop
  | _, [] => True
  | prev, l :: ls => (∀ x ∈ l, x.2 < prev.length) ∧ (∀ p, (l.map (·.2)).count p ≤ N) ∧ LevelsOK N l ls

/-- all servers placed on the nodes of these levels, in creation order -/
def membersOf (lv : List Level) : List Nat := lv.flatten.map (·.1)

theorem membersOf_concat (levels : List Level) (nl : Level) :
    membersOf (levels ++ [nl]) = membersOf levels ++ nl.map (·.1) := by
  simp only [membersOf, List.flatten_append, List.flatten_cons, List.flatten_nil, List.append_nil, List.map_append]

theorem share_le {L i : Nat} (rem : Nat) (hi : i + 1 ≤ L) : rem * (i + 1) / L ≤ rem :=
  Nat.div_le_of_le_mul (Nat.mul_comm L rem ▸ Nat.mul_le_mul_left rem hi)

theorem share_full {N L i t rem : Nat} (hL : L = i + 1 + t) (h : N * (t + 1) ≤ rem) : N ≤ rem * (i + 1) / L := by
  rw [Nat.le_div_iff_mul_le (by rw [hL]; exact Nat.add_pos_left (Nat.succ_pos i) t)]
  calc N * L ≤ N * ((t + 1) * (i + 1)) := Nat.mul_le_mul_left N (by
        rw [hL, Nat.add_mul, Nat.one_mul, Nat.add_comm (t * (i + 1))]
        exact Nat.add_le_add_left (Nat.le_mul_of_pos_right t (Nat.succ_pos i)) _)
    _ = N * (t + 1) * (i + 1) := (Nat.mul_assoc _ _ _).symm
    _ ≤ rem * (i + 1) := Nat.mul_le_mul_right _ h

theorem share_rest {N L i t rem : Nat} (hL : L = i + 1 + t) (h : rem ≤ N * t + N) : rem - N * t ≤ rem * (i + 1) / L := by
  rw [Nat.le_div_iff_mul_le (by rw [hL]; exact Nat.add_pos_left (Nat.succ_pos i) t)]
  rcases Nat.le_total rem (N * t) with h0 | h0
  · rw [Nat.sub_eq_zero_of_le h0, Nat.zero_mul]; exact Nat.zero_le _
  · obtain ⟨d, rfl⟩ := Nat.exists_eq_add_of_le h0
    have hd : d ≤ N := Nat.le_of_add_le_add_left h
    rw [Nat.add_sub_cancel_left, hL, Nat.mul_add, Nat.add_mul (N * t), Nat.add_comm (N * t * (i + 1))]
    exact Nat.add_le_add_left (Nat.le_trans (Nat.mul_le_mul_right t hd) (Nat.le_mul_of_pos_right _ (Nat.succ_pos i))) _

/-- parent `i` and the `t` parents after it get `N` nodes each, or all that is left -/
theorem share_split {N L i t rem : Nat} (hL : L = i + 1 + t) :
    min N (rem * (i + 1) / L) + min (N * t) (rem - min N (rem * (i + 1) / L)) = min (N * t + N) rem := by
  have hle : rem * (i + 1) / L ≤ rem := share_le rem (by rw [hL]; exact Nat.le_add_right _ t)
  rcases Nat.le_total (N * t + N) rem with h | h
  · rw [Nat.min_eq_left (share_full hL h), Nat.min_eq_left h, Nat.min_eq_left (Nat.le_sub_of_add_le h), Nat.add_comm]
  · have hk : rem - N * t ≤ min N (rem * (i + 1) / L) :=
      Nat.le_min.mpr ⟨Nat.sub_le_iff_le_add'.mpr h, share_rest hL h⟩
    rw [Nat.min_eq_right h, Nat.min_eq_right (Nat.sub_le_iff_le_add'.mpr (Nat.sub_le_iff_le_add.mp hk)),
      Nat.add_sub_cancel' (Nat.le_trans (Nat.min_le_right _ _) hle)]

theorem childCount_le (c : BigCfg) {L i : Nat} (total : Nat) (hi : i + 1 ≤ L) :
    childCount c L i total ≤ c.nodes - total :=
  Nat.le_trans (Nat.min_le_right _ _) (share_le _ hi)

section pick
variable (c : BigCfg) (used : List Bool) (ph first : Nat)

theorem pl_stop (fuel ro ch : Nat) (ns : Bool)
    (h : ((ns && ch == ph && decide (c.ilLen > 1)) || (c.useAll && used.getD ro false)) = false) :
    pickLoop c used ph first (fuel + 1) ro ch ns = some ro := by
  simp only [pickLoop, h, Bool.false_eq_true, if_false]

theorem pl_go (fuel ro ch : Nat) (ns : Bool)
    (h : ((ns && ch == ph && decide (c.ilLen > 1)) || (c.useAll && used.getD ro false)) = true) :
    pickLoop c used ph first (fuel + 1) ro ch ns =
      if (c.useAll && used.getD ((ro + 1) % c.ilLen) false) = true then
        pickLoop c used ph first fuel ((ro + 1) % c.ilLen) ch (if (ro + 1) % c.ilLen == first then false else ns)
      else if ((ro + 1) % c.ilLen == first) = true then some ((ro + 1) % c.ilLen)
      else pickLoop c used ph first fuel ((ro + 1) % c.ilLen) (c.hosts.getD ((ro + 1) % c.ilLen) 0) ns := by
  simp only [pickLoop, h, if_true]

/-- the cases of `pickLoop.induct`, here and below: fuel out, `continue`, `break`, next server, stop -/
theorem pickLoop_sound : ∀ (fuel ro ch : Nat) (ns : Bool) (r : Nat), ro < c.ilLen →
    pickLoop c used ph first fuel ro ch ns = some r →
    r < c.ilLen ∧ (c.useAll = true → used.getD r false = false) := by
  intro fuel ro ch ns r hro h
  have hn : 0 < c.ilLen := Nat.zero_lt_of_lt hro
  have hfree : ∀ x, ¬ (c.useAll && used.getD x false) = true → c.useAll = true → used.getD x false = false :=
    fun x hx hU => by rw [hU, Bool.true_and] at hx; exact eq_false_of_ne_true hx
  fun_induction pickLoop c used ph first fuel ro ch ns with
  | case1 => cases h
  | case2 f ro ch ns hc ro' hu ih => exact ih (Nat.mod_lt _ hn) h
  | case3 f ro ch ns hc ro' hu he => exact Option.some.inj h ▸ ⟨Nat.mod_lt _ hn, hfree _ hu⟩
  | case4 f ro ch ns hc ro' hu he ih => exact ih (Nat.mod_lt _ hn) h
  | case5 f ro ch ns hc => exact Option.some.inj h ▸ ⟨hro, hfree _ fun hu => hc (by rw [hu, Bool.or_true])⟩

/-- phase 2, same-host avoidance given up: the loop stops at the latest at the unused server `j` steps ahead -/
theorem pl_phase2 (hn : 0 < c.ilLen) :
    ∀ fuel j ro ch, (c.useAll = true → used.getD ((ro + j) % c.ilLen) false = false) → ro < c.ilLen → j + 1 ≤ fuel →
      ∃ r, pickLoop c used ph first fuel ro ch false = some r := by
  intro fuel j ro ch hu hro hf
  -- a turn that goes on stands on a used server: the unused one is `j' + 1` steps ahead
  have hgo : ∀ ro ch j, ro < c.ilLen → (c.useAll = true → used.getD ((ro + j) % c.ilLen) false = false) →
      ((false && ch == ph && decide (c.ilLen > 1)) || (c.useAll && used.getD ro false)) = true →
      ∃ j', j = j' + 1 ∧ (c.useAll = true → used.getD (((ro + 1) % c.ilLen + j') % c.ilLen) false = false) := by
    intro ro ch j hro hu hc
    cases j with
    | zero =>
      rw [Nat.add_zero, Nat.mod_eq_of_lt hro] at hu
      rw [Bool.false_and, Bool.false_and, Bool.false_or, Bool.and_eq_true] at hc
      exact absurd ((hu hc.1).symm.trans hc.2) Bool.false_ne_true
    | succ j => exact ⟨j, rfl, by rw [Nat.mod_add_mod, Nat.add_assoc, Nat.add_comm 1 j]; exact hu⟩
  generalize hns : false = ns
  fun_induction pickLoop c used ph first fuel ro ch ns generalizing j with
  | case1 => exact absurd hf (Nat.not_succ_le_zero j)
  | case3 => exact ⟨_, rfl⟩
  | case5 => exact ⟨_, rfl⟩
  | case2 f ro ch ns hc ro' hused ih =>
    -- `continue`: `notSameHost` is false whichever way its test goes
    subst hns
    obtain ⟨j', rfl, hu'⟩ := hgo ro ch j hro hu hc
    exact ih j' hu' (Nat.mod_lt _ hn) (Nat.le_of_succ_le_succ hf) (ite_self _).symm
  | case4 f ro ch ns hc ro' hused he ih =>
    subst hns
    obtain ⟨j', rfl, hu'⟩ := hgo ro ch j hro hu hc
    exact ih j' hu' (Nat.mod_lt _ hn) (Nat.le_of_succ_le_succ hf) rfl

/-- phase 1: back at `roIndexFirst`, `k + 1` steps ahead, the loop breaks or (that server used) enters phase 2 -/
theorem pl_phase1 (hn : 0 < c.ilLen) (hex : c.useAll = true → ∃ u, u < c.ilLen ∧ used.getD u false = false) :
    ∀ fuel k ro ch, ro < c.ilLen → first = (ro + (k + 1)) % c.ilLen → k + 1 + c.ilLen + 1 ≤ fuel →
      ∃ r, pickLoop c used ph first fuel ro ch true = some r := by
  intro fuel k ro ch hro hfirst hf
  -- not yet back at the start after a step: the start is at least one more step ahead
  have hadv : ∀ ro k, first = (ro + (k + 1)) % c.ilLen → ¬ ((ro + 1) % c.ilLen == first) = true →
      ∃ k', k = k' + 1 ∧ first = ((ro + 1) % c.ilLen + (k' + 1)) % c.ilLen := by
    intro ro k hfirst hne
    cases k with
    | zero => exact absurd (beq_iff_eq.mpr hfirst.symm) hne
    | succ k => exact ⟨k, rfl, by rw [Nat.mod_add_mod, Nat.add_assoc, Nat.add_comm 1 (k + 1)]; exact hfirst⟩
  generalize hns : true = ns
  fun_induction pickLoop c used ph first fuel ro ch ns generalizing k with
  | case1 => exact absurd hf (Nat.not_succ_le_zero _)
  | case3 => exact ⟨_, rfl⟩
  | case5 => exact ⟨_, rfl⟩
  | case2 f ro ch ns hc ro' hused ih =>
    subst hns
    have hro' : ro' < c.ilLen := Nat.mod_lt _ hn
    have hf' : k + 1 + c.ilLen ≤ f := Nat.le_of_succ_le_succ hf
    split
    · -- back at the start on a used server: some unused `u` is less than a round ahead
      obtain ⟨u, hu, huu⟩ := hex (Bool.and_eq_true_iff.mp hused).1
      refine pl_phase2 c used ph first hn f ((u + (c.ilLen - ro')) % c.ilLen) _ ch ?_ hro' ?_
      · intro _
        rw [Nat.add_mod_mod, ← Nat.add_assoc, Nat.add_comm _ u, Nat.add_assoc,
          Nat.add_sub_cancel' (Nat.le_of_lt hro'), Nat.add_mod_right, Nat.mod_eq_of_lt hu]
        exact huu
      · exact Nat.le_trans (Nat.succ_le_of_lt (Nat.mod_lt _ hn)) (Nat.le_trans (Nat.le_add_left _ _) hf')
    · next hne =>
      obtain ⟨k', rfl, hfirst'⟩ := hadv ro k hfirst hne
      have := ih k' hro' hfirst' (by rw [Nat.add_right_comm _ 1] at hf'; exact hf') (if_neg hne).symm
      rwa [if_neg hne] at this
  | case4 f ro ch ns hc ro' hused hne ih =>
    subst hns
    obtain ⟨k', rfl, hfirst'⟩ := hadv ro k hfirst hne
    have hf' : k' + 1 + 1 + c.ilLen ≤ f := Nat.le_of_succ_le_succ hf
    exact ih k' (Nat.mod_lt _ hn) hfirst' (by rw [Nat.add_right_comm _ 1] at hf'; exact hf') rfl

end pick

def BigSt.place (c : BigCfg) (st : BigSt) (r : Nat) : BigSt :=
  { used := st.used.set r true, roIndex := (r + 1) % c.ilLen, total := st.total + 1 }

/-- `M`: the servers on the nodes made so far, `pm` the parent's -/
def PickInv (c : BigCfg) (I : BigSt → List Nat → Prop) : Prop :=
  ∀ st M pm, I st M → st.total < c.nodes → pm ∈ M →
    ∃ r, pick c st (c.hosts.getD pm 0) = some r ∧ I (st.place c r) (M ++ [r])

section nest
variable {c : BigCfg} {I : BigSt → List Nat → Prop} (hI : PickInv c I)
include hI

theorem addChildren_run (pIdx pm : Nat) :
    ∀ k st acc M, I st M → pm ∈ M → st.total + k ≤ c.nodes →
      ∃ st' new, addChildren c pIdx pm k st acc = some (st', acc ++ new.map (·, pIdx)) ∧ new.length = k ∧
        st'.total = st.total + k ∧ I st' (M ++ new) := by
  intro k
  induction k with
  | zero => intro st acc M h _ _; exact ⟨st, [], by rw [List.map_nil, List.append_nil]; rfl, rfl, rfl, by rwa [List.append_nil]⟩
  | succ k ih =>
    intro st acc M h hpm htot
    obtain ⟨r, hr, hI'⟩ := hI st M pm h (Nat.lt_of_lt_of_le (Nat.lt_add_of_pos_right (Nat.succ_pos k)) htot) hpm
    obtain ⟨st', new, hs, hlen, ht, hI''⟩ := ih (st.place c r) (acc ++ [(r, pIdx)]) (M ++ [r]) hI'
      (List.mem_append_left _ hpm) (by rw [BigSt.place, Nat.add_right_comm]; exact htot)
    refine ⟨st', r :: new, ?_, congrArg Nat.succ hlen, by rw [ht, BigSt.place, Nat.add_right_comm]; rfl, ?_⟩
    · rw [addChildren, hr, List.map_cons, List.append_cons]; exact hs
    · rwa [List.append_cons]

theorem addLevel_run (L : Nat) :
    ∀ parents i st acc M, I st M → (∀ x ∈ parents, x.1 ∈ M) → i + parents.length = L → st.total ≤ c.nodes →
      ∃ st' new, addLevel c L parents i st acc = some (st', acc ++ new) ∧
        (∀ x ∈ new, i ≤ x.2 ∧ x.2 < L) ∧ (∀ p, (new.map (·.2)).count p ≤ c.N) ∧
        new.length = min (c.N * parents.length) (c.nodes - st.total) ∧
        st'.total = st.total + new.length ∧ I st' (M ++ new.map (·.1)) := by
  intro parents
  induction parents with
  | nil =>
    intro i st acc M h _ _ _
    exact ⟨st, [], by rw [List.append_nil]; rfl, fun _ hx => absurd hx List.not_mem_nil, fun _ => Nat.zero_le _,
      by rw [List.length_nil, Nat.mul_zero, Nat.zero_min], rfl, by rwa [List.map_nil, List.append_nil]⟩
  | cons p rest ih =>
    intro i st acc M h hpar hiL htot
    obtain ⟨m, x⟩ := p
    have hiL' : i + 1 + rest.length = L := by rw [← hiL, List.length_cons, Nat.add_assoc, Nat.add_comm 1]
    have hcc := childCount_le c st.total (Nat.le.intro hiL' : i + 1 ≤ L)
    obtain ⟨st1, new1, h1, hlen1, ht1, hI1⟩ := addChildren_run hI i m (childCount c L i st.total) st acc M h
      (hpar (m, x) List.mem_cons_self) (Nat.add_le_of_le_sub' htot hcc)
    obtain ⟨st2, new2, h2, hr2, hc2, hl2, ht2, hI2⟩ := ih (i + 1) st1 (acc ++ new1.map (·, i)) (M ++ new1) hI1
      (fun y hy => List.mem_append_left _ (hpar y (List.mem_cons_of_mem _ hy))) hiL'
      (by rw [ht1]; exact Nat.add_le_of_le_sub' htot hcc)
    refine ⟨st2, new1.map (·, i) ++ new2, ?_, ?_, ?_, ?_, ?_, ?_⟩
    · rw [addLevel, h1, ← List.append_assoc]; exact h2
    · intro y hy
      rcases List.mem_append.mp hy with hy | hy
      · obtain ⟨_, _, rfl⟩ := List.mem_map.mp hy
        exact ⟨Nat.le_refl i, Nat.le.intro hiL'⟩
      · exact ⟨Nat.le_of_succ_le (hr2 y hy).1, (hr2 y hy).2⟩
    · intro p
      rw [List.map_append, List.map_map, List.count_append]
      show (new1.map fun _ => i).count p + _ ≤ _
      rw [List.map_const', List.count_replicate]
      split
      · next hp =>
        -- the later parents have larger indices
        obtain rfl : i = p := beq_iff_eq.mp hp
        rw [List.count_eq_zero.mpr fun hm =>
          let ⟨y, hy, e⟩ := List.mem_map.mp hm
          Nat.not_succ_le_self i (e ▸ (hr2 y hy).1), hlen1]
        exact Nat.min_le_left _ _
      · rw [Nat.zero_add]; exact hc2 p
    · rw [List.length_append, List.length_map, hlen1, hl2, ht1, Nat.sub_add_eq, List.length_cons, Nat.mul_succ]
      exact share_split hiL'.symm
    · rw [ht2, ht1, List.length_append, List.length_map, hlen1, Nat.add_assoc]
    · rw [List.map_append, List.map_map, ← List.append_assoc]
      exact (List.map_id' new1 ▸ hI2 : _)

/-- `cur` is level `k` of the tree; as long as nodes are left to make it is full (`N^k` nodes) -/
theorem bigLoop_run (hN : 1 ≤ c.N) :
    ∀ fuel k levels cur st, I st (membersOf levels) → (∀ x ∈ cur, x.1 ∈ membersOf levels) → st.total ≤ c.nodes →
      (st.total < c.nodes → cur.length = c.N ^ k) → c.nodes - st.total ≤ fuel →
      ∃ more st', bigLoop c fuel levels cur st = .tree (levels ++ more) ∧
        more.map List.length = levelSizesPow c.N fuel (k + 1) (c.nodes - st.total) ∧ LevelsOK c.N cur more ∧
        st.total + (more.map List.length).sum = c.nodes ∧ I st' (membersOf (levels ++ more)) ∧ st'.total = c.nodes := by
  intro fuel
  induction fuel with
  | zero =>
    intro k levels cur st h _ htot _ hf
    have he : st.total = c.nodes := Nat.le_antisymm htot (Nat.le_of_sub_eq_zero (Nat.le_zero.mp hf))
    exact ⟨[], st, by rw [bigLoop, if_neg (he ▸ Nat.lt_irrefl _), List.append_nil], rfl, trivial, he,
      by rwa [List.append_nil], he⟩
  | succ fuel ih =>
    intro k levels cur st h hcur htot hk hf
    by_cases hlt : st.total < c.nodes
    · obtain ⟨st1, nl, h1, hr, hc, hnl, ht1, hI1⟩ := addLevel_run hI cur.length cur 0 st [] _ h hcur (Nat.zero_add _) htot
      rw [List.nil_append] at h1
      rw [hk hlt, ← Nat.pow_succ'] at hnl
      have hpos : 1 ≤ nl.length :=
        hnl ▸ Nat.le_min.mpr ⟨Nat.pow_pos hN, Nat.sub_pos_of_lt hlt⟩
      have hle : nl.length ≤ c.nodes - st.total := hnl ▸ Nat.min_le_right _ _
      have hrem : c.nodes - st1.total = c.nodes - st.total - nl.length := by rw [ht1, Nat.sub_add_eq]
      obtain ⟨more, st', ho, hs, hok, hsum, hI', ht'⟩ := ih (k + 1) (levels ++ [nl]) nl st1
        (by rw [membersOf_concat]; exact hI1)
        (fun x hx => by rw [membersOf_concat]; exact List.mem_append_right _ (List.mem_map_of_mem hx))
        (by rw [ht1]; exact Nat.add_le_of_le_sub' htot hle)
        (fun hlt1 => (Nat.le_total _ _).elim (fun hfull => hnl.trans (Nat.min_eq_left hfull)) fun hrest => by
          -- a level that is not full used up what was left
          rw [ht1, hnl, Nat.min_eq_right hrest, Nat.add_sub_cancel' htot] at hlt1
          exact absurd hlt1 (Nat.lt_irrefl _))
        (by rw [hrem]; exact Nat.le_of_lt_succ (Nat.lt_of_lt_of_le (Nat.sub_lt_self hpos hle) hf))
      rw [List.append_assoc] at ho hI'
      refine ⟨nl :: more, st', by rw [bigLoop, if_pos hlt, h1]; exact ho, ?_, ⟨fun x hx => (hr x hx).2, hc, hok⟩, ?_, hI', ht'⟩
      · rw [List.map_cons, levelSizesPow, if_neg (Nat.sub_ne_zero_of_lt hlt), hs, hrem, hnl]
      · rw [List.map_cons, List.sum_cons, ← Nat.add_assoc, ← ht1]; exact hsum
    · have he : st.total = c.nodes := Nat.le_antisymm htot (Nat.le_of_not_lt hlt)
      exact ⟨[], st, by rw [bigLoop, if_neg hlt, List.append_nil],
        by rw [levelSizesPow, if_pos (he ▸ Nat.sub_self _)]; rfl, trivial, he, by rwa [List.append_nil], he⟩

theorem genBig_run (hN : 1 ≤ c.N) (hil : 0 < c.ilLen) (hnodes : 1 ≤ c.nodes)
    (h0 : I { used := (List.replicate c.ilLen false).set 0 true, roIndex := 1 % c.ilLen, total := 1 } [0]) :
    ∃ more st', genBig c = .tree ([(0, 0)] :: more) ∧
      more.map List.length = levelSizesPow c.N c.nodes 1 (c.nodes - 1) ∧ LevelsOK c.N [(0, 0)] more ∧
      1 + (more.map List.length).sum = c.nodes ∧ I st' (membersOf ([(0, 0)] :: more)) ∧ st'.total = c.nodes := by
  obtain ⟨more, st', ho, hs, hok, hsum, hI', ht'⟩ := bigLoop_run hI hN c.nodes 0 [[(0, 0)]] [(0, 0)] _ h0
    (fun x hx => by rw [List.mem_singleton.mp hx]; exact List.mem_singleton_self 0) hnodes (fun _ => rfl) (Nat.sub_le _ _)
  exact ⟨more, st', by rw [genBig, if_neg (Nat.ne_of_gt hil)]; exact ho, hs, hok, hsum, hI', ht'⟩

end nest

/-- what the loops keep true about `used`, `roIndex`, `totalNodes`; `M` are the servers of all
nodes created so far -/
structure StOK (c : BigCfg) (st : BigSt) (M : List Nat) : Prop where
  usedLen : st.used.length = c.ilLen
  roLt : st.roIndex < c.ilLen
  inRange : ∀ r ∈ M, r < c.ilLen
  useAll : c.useAll = true → st.used.count true = st.total ∧ M.Nodup ∧ ∀ r, r ∈ M ↔ st.used.getD r false = true

theorem StOK.place {c : BigCfg} {st : BigSt} {M : List Nat} {r : Nat} (h : StOK c st M) (hr : r < c.ilLen)
    (hfree : c.useAll = true → st.used.getD r false = false) : StOK c (st.place c r) (M ++ [r]) := by
  have hr' : r < st.used.length := h.usedLen ▸ hr
  refine { usedLen := by rw [BigSt.place, List.length_set]; exact h.usedLen,
           roLt := Nat.mod_lt _ (Nat.zero_lt_of_lt hr), inRange := fun x hx => ?_, useAll := fun hU => ?_ }
  · rcases List.mem_append.mp hx with hx | hx
    · exact h.inRange x hx
    · rw [List.mem_singleton.mp hx]; exact hr
  · obtain ⟨a1, a2, a3⟩ := h.useAll hU
    have hnew : r ∉ M := fun hm => Bool.false_ne_true ((hfree hU).symm.trans ((a3 r).mp hm))
    refine ⟨by rw [BigSt.place, List.count_set_true _ _ hr' (hfree hU), a1], ?_, ?_⟩
    · exact List.nodup_append.mpr ⟨a2, List.nodup_cons.mpr ⟨List.not_mem_nil, List.nodup_nil⟩, fun a ha b hb e =>
        hnew (List.mem_singleton.mp hb ▸ e ▸ ha)⟩
    · intro x
      rw [BigSt.place, List.getD_set_true _ hr', List.mem_append, List.mem_singleton, a3 x, Or.comm]

/-- in use-all mode an unused server exists: fewer than `nodes = ilLen` are used -/
theorem pick_some {c : BigCfg} {st : BigSt} {M : List Nat} (ph : Nat) (hst : StOK c st M) (htot : st.total < c.nodes) :
    ∃ r, pick c st ph = some r ∧ r < c.ilLen ∧ (c.useAll = true → st.used.getD r false = false) := by
  have h1 := hst.usedLen
  have h2 := hst.roLt
  have hn : 0 < c.ilLen := Nat.zero_lt_of_lt h2
  obtain ⟨k, hk⟩ := Nat.exists_eq_succ_of_ne_zero (Nat.ne_of_gt hn)
  obtain ⟨r, hr⟩ := pl_phase1 c st.used ph st.roIndex hn
    (fun hU => by
      obtain ⟨u, hu, hv⟩ := List.exists_unused st.used (by
        rw [(hst.useAll hU).1, h1, eq_of_beq (show (c.ilLen == c.nodes) = true from hU)]; exact htot)
      exact ⟨u, h1 ▸ hu, hv⟩)
    (2 * c.ilLen + 3) k st.roIndex (c.hosts.getD st.roIndex 0) h2
    (by rw [← Nat.succ_eq_add_one, ← hk, Nat.add_mod_right, Nat.mod_eq_of_lt h2])
    (by rw [← Nat.succ_eq_add_one k, ← hk, Nat.two_mul]; exact Nat.add_le_add_left (by decide) _)
  exact ⟨r, hr, pickLoop_sound c st.used ph st.roIndex _ _ _ _ r h2 hr⟩

theorem stOK_pickInv (c : BigCfg) : PickInv c (StOK c) := fun _ _ pm h htot _ =>
  let ⟨r, hr, hlt, hfree⟩ := pick_some (c.hosts.getD pm 0) h htot
  ⟨r, hr, h.place hlt hfree⟩

theorem stOK_init (c : BigCfg) (hil : 0 < c.ilLen) :
    StOK c { used := (List.replicate c.ilLen false).set 0 true, roIndex := 1 % c.ilLen, total := 1 } [0] := by
  have h : StOK c { used := List.replicate c.ilLen false, roIndex := 0, total := 0 } [] :=
    { usedLen := List.length_replicate, roLt := hil, inRange := fun _ hr => absurd hr List.not_mem_nil,
      useAll := fun _ => ⟨List.count_replicate .., List.nodup_nil, fun r => by
        rw [List.getD_eq_getElem?_getD, List.getElem?_replicate]
        split <;> simp⟩ }
  exact h.place hil fun _ => by rw [List.getD_eq_getElem?_getD, List.getElem?_replicate, if_pos hil]; rfl

/-- the host-avoidance loop never skips a server: asked for the next child of a parent that sits on
an earlier roster position, it hands out the server `roIndex` points at -/
def PickSeq (c : BigCfg) : Prop :=
  ∀ (st : BigSt) (pm r : Nat), pm < st.roIndex → st.roIndex < c.ilLen →
    pick c st (c.hosts.getD pm 0) = some r → r = st.roIndex

/-- all servers on one host: the loop walks once round the roster and comes back to where it started -/
theorem pickSeq_one_host (c : BigCfg) (hU : c.useAll = false) (hsame : ∀ i j, i < c.ilLen → j < c.ilLen →
    c.hosts.getD i 0 = c.hosts.getD j 0) : PickSeq c := by
  intro st pm r hpm hro hp
  have hn : 0 < c.ilLen := Nat.zero_lt_of_lt hro
  have hpm' : pm < c.ilLen := Nat.lt_trans hpm hro
  have h1 : decide (c.ilLen > 1) = true := decide_eq_true (Nat.lt_of_le_of_lt (Nat.succ_le_of_lt (Nat.zero_lt_of_lt hpm)) hro)
  have key : ∀ fuel ro ch ns, ns = true → ch = c.hosts.getD pm 0 →
      pickLoop c st.used (c.hosts.getD pm 0) st.roIndex fuel ro ch ns = some r → r = st.roIndex := by
    intro fuel ro ch ns hns hch h
    fun_induction pickLoop c st.used (c.hosts.getD pm 0) st.roIndex fuel ro ch ns with
    | case1 => cases h
    | case2 f ro ch ns hc ro' hused => rw [hU] at hused; cases hused
    | case3 f ro ch ns hc ro' hused he => exact Option.some.inj h ▸ beq_iff_eq.mp he
    | case4 f ro ch ns hc ro' hused he ih => exact ih hns (hsame _ pm (Nat.mod_lt _ hn) hpm') h
    | case5 f ro ch ns hc =>
      -- the candidate sits on the parent's host: the loop does not stop here
      exact absurd (by rw [hns, hch, h1, beq_self_eq_true]; rfl) hc
  exact key _ _ _ _ rfl (hsame _ pm hro hpm') hp

/-- every server on a host of its own: the server `roIndex` points at is never on the parent's host -/
theorem pickSeq_distinct_hosts (c : BigCfg) (hU : c.useAll = false) (hd : c.hosts.Nodup) : PickSeq c := by
  intro st pm r hpm hro hp
  have hne : (c.hosts.getD st.roIndex 0 == c.hosts.getD pm 0) = false :=
    beq_false_of_ne fun e => Nat.ne_of_gt hpm (List.nodup_getD_inj 0 c.hosts hd _ _ hro (Nat.lt_trans hpm hro) e)
  rw [pick, pl_stop c st.used _ st.roIndex _ _ _ true (by rw [hU, hne]; rfl)] at hp
  exact (Option.some.inj hp).symm

theorem seq_pickInv {c : BigCfg} (hP : PickSeq c) (hlt : c.nodes < c.ilLen) :
    PickInv c fun st M => StOK c st M ∧ st.roIndex = st.total ∧ M = List.range st.total := by
  intro st M pm ⟨h, hro, hM⟩ htot hpm
  obtain ⟨r, hr, h'⟩ := stOK_pickInv c st M pm h htot hpm
  obtain rfl : r = st.roIndex := hP st pm r (by rw [hro]; exact List.mem_range.mp (hM ▸ hpm)) h.roLt hr
  refine ⟨_, hr, h', ?_, ?_⟩
  · rw [BigSt.place, hro]; exact Nat.mod_eq_of_lt (Nat.lt_of_le_of_lt (Nat.succ_le_of_lt htot) hlt)
  · rw [BigSt.place, hM, hro, List.range_succ]

end C12

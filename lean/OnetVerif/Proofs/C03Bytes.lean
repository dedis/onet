import OnetVerif.Model.C03
/-! Property C03 — what `Proofs/C03Wire.lean`, `C03Frame.lean` and `C03Send.lean` share: base-256 digits of any width (the
frame header and `le64` are instances) and `wire` on `::` and `++`. -/
namespace C03

namespace Wire

def leBytes : Nat → Nat → List Nat
  | 0, _ => []
  | w + 1, x => x % 256 :: leBytes w (x / 256)

theorem unle_leBytes (w x : Nat) : unle (leBytes w x) = x % 256 ^ w := by
  induction w generalizing x with
  | zero => rw [Nat.pow_zero, Nat.mod_one]; rfl
  | succ w ih =>
    show x % 256 + 256 * unle (leBytes w (x / 256)) = _
    rw [ih, Nat.pow_succ', Nat.mod_mul]

end Wire

theorem wire_cons (b : List Nat) (l : List (List Nat)) : wire (b :: l) = encFrame b ++ wire l := rfl

theorem wire_append (l₁ l₂ : List (List Nat)) : wire (l₁ ++ l₂) = wire l₁ ++ wire l₂ := by
  simp [wire]

end C03

import OnetVerif.Model.C19Core
import Mathlib.Order.Defs.LinearOrder
import Mathlib.Order.Basic

set_option linter.unusedSectionVars false

/-! C19 helper lemmas about result sets (`Stats`): the key-ordered association list read as a map (`keys`, `storeAt`),
what a sequence of `Update`s stores where, read-outs, buckets.  Measure names are elements of an arbitrary linear order
(Go: strings under `sort.Strings`); the number type is arbitrary (`Float` included). -/
namespace C19

section keys
variable {κ α : Type} [LinearOrder κ] [Num α]

/-- measure names ordered by the linear order (Go: byte-wise string comparison) -/
instance linKeyOrd : KeyOrd κ := ⟨fun a b => decide (a < b)⟩

@[simp] theorem keyord_lt (a b : κ) : (KeyOrd.lt a b : Bool) = decide (a < b) := rfl

def keysOf (l : List (κ × Value α)) : List κ := l.map (·.1)

/-- the values stored under a name (none if the name is unknown) -/
def lookupStore (l : List (κ × Value α)) (k : κ) : List α :=
  match l.find? (·.1 = k) with
  | some kv => kv.2.store
  | none => []

/-- the measure names a `Stats` knows, in the order `Stats.Collect` writes them -/
def Stats.keys (s : Stats κ α) : List κ := keysOf s.vals
def Stats.storeAt (s : Stats κ α) (k : κ) : List α := lookupStore s.vals k

/-- `keys` strictly increasing (the representation invariant `sort.Strings` maintains) -/
def SortedKeys (l : List (κ × Value α)) : Prop := (keysOf l).Pairwise (· < ·)

omit [Num α] in
theorem lookup_nil (k : κ) : lookupStore ([] : List (κ × Value α)) k = [] := rfl

omit [Num α] in
theorem lookup_cons (c : κ) (v : Value α) (l : List (κ × Value α)) (k : κ) :
    lookupStore ((c, v) :: l) k = if k = c then v.store else lookupStore l k := by
  unfold lookupStore
  rw [List.find?_cons]
  by_cases h : k = c
  · rw [if_pos h, show decide ((c, v).1 = k) = true from decide_eq_true h.symm]
  · rw [if_neg h, show decide ((c, v).1 = k) = false from decide_eq_false fun e => h e.symm]

omit [Num α] in
theorem keysOf_cons (c : κ) (v : Value α) (l : List (κ × Value α)) : keysOf ((c, v) :: l) = c :: keysOf l := rfl

omit [Num α] in
theorem sortedKeys_cons {c : κ} {v : Value α} {l : List (κ × Value α)} :
    SortedKeys ((c, v) :: l) ↔ (∀ y ∈ keysOf l, c < y) ∧ SortedKeys l := List.pairwise_cons

omit [Num α] in
theorem lookup_absent (l : List (κ × Value α)) (k : κ) (h : k ∉ keysOf l) : lookupStore l k = [] := by
  induction l with
  | nil => rfl
  | cons kv l ih =>
    obtain ⟨c, v⟩ := kv
    rw [keysOf_cons, List.mem_cons, not_or] at h
    rw [lookup_cons, if_neg h.1, ih h.2]

theorem upsert_cons_self (k : κ) (x : α) (v : Value α) (l : List (κ × Value α)) :
    upsert k x ((k, v) :: l) = (k, v.put x) :: l := by
  rw [upsert, if_pos rfl]

theorem upsert_cons_lt {k c : κ} (h : k < c) (x : α) (v : Value α) (l : List (κ × Value α)) :
    upsert k x ((c, v) :: l) = (k, (Value.new : Value α).put x) :: (c, v) :: l := by
  rw [upsert, if_neg (ne_of_lt h), keyord_lt, decide_eq_true h, if_pos rfl]

theorem upsert_cons_gt {k c : κ} (h : c < k) (x : α) (v : Value α) (l : List (κ × Value α)) :
    upsert k x ((c, v) :: l) = (c, v) :: upsert k x l := by
  rw [upsert, if_neg (ne_of_gt h), keyord_lt, decide_eq_false (lt_asymm h), if_neg Bool.false_ne_true]

theorem mem_upsert (k : κ) (x : α) (l : List (κ × Value α)) (k' : κ) :
    k' ∈ keysOf (upsert k x l) ↔ k' = k ∨ k' ∈ keysOf l := by
  induction l with
  | nil => exact List.mem_cons
  | cons kv l ih =>
    obtain ⟨c, v⟩ := kv
    rcases lt_trichotomy k c with h | rfl | h
    · rw [upsert_cons_lt h, keysOf_cons, List.mem_cons]
    · rw [upsert_cons_self, keysOf_cons, keysOf_cons, List.mem_cons, or_self_left]
    · rw [upsert_cons_gt h, keysOf_cons, keysOf_cons, List.mem_cons, List.mem_cons, ih, or_left_comm]

theorem sorted_upsert (k : κ) (x : α) (l : List (κ × Value α)) (h : SortedKeys l) :
    SortedKeys (upsert k x l) := by
  induction l with
  | nil => exact List.pairwise_singleton _ _
  | cons kv l ih =>
    obtain ⟨c, v⟩ := kv
    obtain ⟨hc, hl⟩ := sortedKeys_cons.mp h
    rcases lt_trichotomy k c with h1 | rfl | h1
    · rw [upsert_cons_lt h1]
      refine sortedKeys_cons.mpr ⟨fun y hy => ?_, h⟩
      rcases List.mem_cons.mp hy with rfl | hy
      · exact h1
      · exact lt_trans h1 (hc y hy)
    · rw [upsert_cons_self]
      exact h
    · rw [upsert_cons_gt h1]
      refine sortedKeys_cons.mpr ⟨fun y hy => ?_, ih hl⟩
      rcases (mem_upsert k x l y).mp hy with rfl | hy
      · exact h1
      · exact hc y hy

theorem lookup_upsert (k : κ) (x : α) (l : List (κ × Value α)) (h : SortedKeys l) (k' : κ) :
    lookupStore (upsert k x l) k' = if k' = k then lookupStore l k ++ [x] else lookupStore l k' := by
  induction l with
  | nil => exact lookup_cons k _ [] k'
  | cons kv l ih =>
    obtain ⟨c, v⟩ := kv
    obtain ⟨hc, hl⟩ := sortedKeys_cons.mp h
    rcases lt_trichotomy k c with h1 | rfl | h1
    · -- `k` is new: it is below every key of the list
      have habs : k ∉ keysOf ((c, v) :: l) := fun hm => by
        rcases List.mem_cons.mp hm with e | hm
        · exact ne_of_lt h1 e
        · exact lt_asymm h1 (hc k hm)
      rw [upsert_cons_lt h1, lookup_cons, lookup_absent _ k habs]
      rfl
    · rw [upsert_cons_self, lookup_cons, lookup_cons, lookup_cons, if_pos rfl]
      split <;> rfl
    · rw [upsert_cons_gt h1, lookup_cons, lookup_cons, lookup_cons, ih hl, if_neg (ne_of_gt h1)]
      by_cases e : k' = c
      · rw [if_pos e, if_neg (e ▸ ne_of_lt h1), if_pos e]
      · rw [if_neg e, if_neg e]

/-- `Update` applied to a list of (name, value) pairs in arrival order -/
def Stats.updates (s : Stats κ α) (ms : List (κ × α)) : Stats κ α :=
  ms.foldl (fun s m => s.update m.1 m.2) s

/-- the values of name `k` in an arrival sequence, in arrival order -/
def storeOf (k : κ) (ms : List (κ × α)) : List α := (ms.filter (·.1 = k)).map (·.2)

theorem updates_cons (s : Stats κ α) (m : κ × α) (ms : List (κ × α)) :
    s.updates (m :: ms) = (s.update m.1 m.2).updates ms := rfl

omit [Num α] in
theorem storeOf_cons (k : κ) (m : κ × α) (ms : List (κ × α)) :
    storeOf k (m :: ms) = if k = m.1 then m.2 :: storeOf k ms else storeOf k ms := by
  unfold storeOf
  rw [List.filter_cons]
  by_cases e : k = m.1
  · rw [if_pos e, if_pos (decide_eq_true e.symm), List.map_cons]
  · rw [if_neg e, if_neg fun h => e (of_decide_eq_true h).symm]

theorem updates_static (s : Stats κ α) (ms : List (κ × α)) : (s.updates ms).static = s.static := by
  induction ms generalizing s with
  | nil => rfl
  | cons m ms ih => rw [updates_cons, ih]; rfl

theorem sorted_updates (s : Stats κ α) (ms : List (κ × α)) (h : SortedKeys s.vals) :
    SortedKeys (s.updates ms).vals := by
  induction ms generalizing s with
  | nil => exact h
  | cons m ms ih => exact ih _ (sorted_upsert m.1 m.2 s.vals h)

theorem mem_keys_updates (s : Stats κ α) (ms : List (κ × α)) (k : κ) :
    k ∈ (s.updates ms).keys ↔ k ∈ s.keys ∨ k ∈ ms.map (·.1) := by
  induction ms generalizing s with
  | nil => exact (or_iff_left List.not_mem_nil).symm
  | cons m ms ih =>
    rw [updates_cons, ih, List.map_cons, List.mem_cons]
    exact (or_congr_left (mem_upsert m.1 m.2 s.vals k)).trans (or_assoc.trans or_left_comm)

/-- **what is stored where**: after any arrival sequence a name holds exactly the values that
arrived under that name, in arrival order, after what it held before -/
theorem storeAt_updates (s : Stats κ α) (ms : List (κ × α)) (h : SortedKeys s.vals) (k : κ) :
    (s.updates ms).storeAt k = s.storeAt k ++ storeOf k ms := by
  induction ms generalizing s with
  | nil => exact (List.append_nil _).symm
  | cons m ms ih =>
    rw [updates_cons, ih _ (sorted_upsert m.1 m.2 s.vals h), storeOf_cons]
    show lookupStore (upsert m.1 m.2 s.vals) k ++ _ = lookupStore s.vals k ++ _
    rw [lookup_upsert m.1 m.2 s.vals h]
    split
    · next e => rw [e, List.append_assoc]; rfl
    · rfl

omit [Num α] in
theorem sorted_ext : ∀ (l₁ l₂ : List κ), l₁.Pairwise (· < ·) → l₂.Pairwise (· < ·) →
    (∀ k, k ∈ l₁ ↔ k ∈ l₂) → l₁ = l₂ :=
  fun _ _ h₁ h₂ h =>
    List.Perm.eq_of_pairwise (fun _ _ _ _ hab hba => absurd hba (lt_asymm hab)) h₁ h₂
      ((List.perm_ext_iff_of_nodup (h₁.imp ne_of_lt) (h₂.imp ne_of_lt)).mpr h)

omit [Num α] in
theorem lookup_of_mem (l : List (κ × Value α)) (h : SortedKeys l) (kv : κ × Value α) (hm : kv ∈ l) :
    lookupStore l kv.1 = kv.2.store := by
  induction l with
  | nil => cases hm
  | cons a l ih =>
    obtain ⟨c, v⟩ := a
    obtain ⟨hc, hl⟩ := sortedKeys_cons.mp h
    rw [lookup_cons]
    rcases List.mem_cons.mp hm with rfl | hm'
    · exact if_pos rfl
    · rw [if_neg (ne_of_gt (hc kv.1 (List.mem_map_of_mem hm'))), ih hl hm']

omit [Num α] in
theorem lookup_map (l : List (κ × Value α)) (f : κ → Value α) (k : κ) :
    lookupStore (l.map fun kv => (kv.1, f kv.1)) k = if k ∈ keysOf l then (f k).store else [] := by
  induction l with
  | nil => rfl
  | cons a l ih =>
    obtain ⟨c, v⟩ := a
    rw [List.map_cons, lookup_cons, ih, keysOf_cons]
    by_cases h : k = c
    · rw [if_pos h, if_pos (List.mem_cons.mpr (.inl h)), h]
    · rw [if_neg h]
      simp only [List.mem_cons, h, false_or]

end keys

section generic
variable {κ α : Type} [Num α]

/-! ### `Collect` only reads the store (any number type, `Float` included) -/

theorem step_store (t : Value α) (x : α) : (t.step x).store = t.store := by
  unfold Value.step
  exact (apply_ite Value.store _ _ _).trans (ite_self _)

theorem step_n (t : Value α) (x : α) : (t.step x).n = t.n + 1 := by
  unfold Value.step
  exact (apply_ite Value.n _ _ _).trans (ite_self _)

theorem foldl_step_store (xs : List α) (t : Value α) : (xs.foldl Value.step t).store = t.store := by
  induction xs generalizing t with
  | nil => rfl
  | cons x xs ih => rw [List.foldl_cons, ih, step_store]

theorem collect_store (t : Value α) : t.collect.store = t.store := foldl_step_store _ _

theorem collect_congr (t u : Value α) (h : t.store = u.store) : t.collect = u.collect := by
  unfold Value.collect Value.reset
  rw [h]

theorem collect_collect (t : Value α) : t.collect.collect = t.collect :=
  collect_congr _ _ (collect_store t)

variable [KeyOrd κ] [DecidableEq κ]

theorem stats_collect_collect (s : Stats κ α) : s.collect.collect = s.collect := by
  simp only [Stats.collect, List.map_map, Function.comp_def, collect_collect]

theorem collect_readout (s : Stats κ α) (r : Readout) : (s.readout r).collect = s.collect := by
  cases r
  case header => rfl
  all_goals exact stats_collect_collect s

theorem readout_collect (s : Stats κ α) (r : Readout) : s.collect.readout r = s.collect := by
  cases r
  case header => rfl
  all_goals exact stats_collect_collect s

def Stats.readouts (s : Stats κ α) (rs : List Readout) : Stats κ α := rs.foldl Stats.readout s

theorem collect_readouts (s : Stats κ α) (rs : List Readout) : (s.readouts rs).collect = s.collect := by
  induction rs generalizing s with
  | nil => rfl
  | cons r rs ih => exact (ih _).trans (collect_readout s r)

theorem readouts_of_collected (s : Stats κ α) (rs : List Readout) : (s.collect.readouts rs) = s.collect := by
  induction rs with
  | nil => rfl
  | cons r rs ih => rw [Stats.readouts, List.foldl_cons, readout_collect]; exact ih

theorem rulesMatch_iff (rr : List Rule) (h : Int) :
    rulesMatch rr h = true ↔ 0 ≤ h ∧ ∃ r ∈ rr, r.low ≤ h ∧ h < r.high := by
  unfold rulesMatch
  by_cases hn : h < 0
  · rw [if_pos hn]
    exact ⟨fun e => (nomatch e), fun e => absurd e.1 (Int.not_le.mpr hn)⟩
  · rw [if_neg hn, List.any_eq_true]
    simp only [Rule.matches, Bool.and_eq_true, decide_eq_true_eq]
    exact ⟨fun ⟨r, hr, h12⟩ => ⟨Int.not_lt.mp hn, r, hr, h12⟩, fun ⟨_, r, hr, h12⟩ => ⟨r, hr, h12⟩⟩

/-- feeding an arrival sequence to the buckets -/
def BucketStats.feed (bs : BucketStats κ α) (ms : List (Measure κ α)) : BucketStats κ α :=
  ms.foldl BucketStats.update bs

/-- the fold `Stats.updates`, over measures instead of (name, value) pairs (`feed_eq_updates`) -/
def Stats.feed (s : Stats κ α) (ms : List (Measure κ α)) : Stats κ α :=
  ms.foldl (fun s m => s.update m.name m.val) s

theorem buckets_feed (bs : BucketStats κ α) (ms : List (Measure κ α)) :
    bs.feed ms = bs.map fun b =>
      { b with stats := b.stats.feed (ms.filter fun m => rulesMatch b.rules m.host) } := by
  induction ms generalizing bs with
  | nil => exact (List.map_id' bs).symm
  | cons m ms ih =>
    rw [BucketStats.feed, List.foldl_cons]
    refine (ih _).trans ?_
    rw [BucketStats.update, List.map_map]
    refine List.map_congr_left fun b _ => ?_
    rw [Function.comp_apply, List.filter_cons]
    cases rulesMatch b.rules m.host <;> rfl

theorem value_map (l : List (κ × Value α)) (f : κ × Value α → Value α) (k : κ) :
    ((l.map fun kv => (kv.1, f kv)).find? (·.1 = k)).map (·.2) = (l.find? (·.1 = k)).map f := by
  rw [List.find?_map, Option.map_map]
  rfl

end generic

theorem feed_eq_updates {κ α : Type} [LinearOrder κ] [Num α] (s : Stats κ α) (ms : List (Measure κ α)) :
    s.feed ms = s.updates (ms.map fun m => (m.name, m.val)) := by
  simp [Stats.feed, Stats.updates, List.foldl_map]

end C19

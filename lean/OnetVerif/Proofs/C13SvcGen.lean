import OnetVerif.Model.C13
import OnetVerif.Gen.C13Svc
import OnetVerif.Proofs.GenRt
/-! The service factory's look-ups as regenerated from `service.go` (`Gen/C13Svc.lean`, written by `harness/cmd/go2lean` on every
check run) against the hand model of `Model/C13.lean` (`svcLookupId`, `svcLookupName`, `svcLookupSuite`, `svcUnregister`).
Each look-up is a `range` loop that returns at the first hit, that is `find?` (`Gen.Rt.rangeReturn_first`).  Core Lean only. -/
namespace C13.SvcGen
open C13

/-- a translated entry read as the model's -/
def entryOf (e : Gen.C13Svc.serviceEntry) : SvcEntry := { name := e.name, suite := e.suite, id := e.serviceID }

/-- the translated factory read as the model's registry -/
def regOf (s : Gen.C13Svc.serviceFactory) : List SvcEntry := s.constructors.map entryOf

private theorem beq_comm_bytes (a b : Bytes) : (a == b) = (b == a) := BEq.comm

theorem rangeReturn_regOf {β : Type} (p : Gen.C13Svc.serviceEntry → Bool) (g : Gen.C13Svc.serviceEntry → β)
    (q : SvcEntry → Bool) (f : SvcEntry → β) (hp : ∀ c, p c = q (entryOf c)) (hg : ∀ c, g c = f (entryOf c))
    (s : Gen.C13Svc.serviceFactory) :
    Gen.Rt.rangeReturn s.constructors (fun c => if p c then some (g c) else none) = ((regOf s).find? q).map f := by
  rw [Gen.Rt.rangeReturn_first, regOf, List.find?_map, Option.map_map, funext hp, funext hg]
  rfl

/-- `serviceFactory.ServiceID` = `svcLookupId` -/
theorem ServiceID_eq (s : Gen.C13Svc.serviceFactory) (name : Bytes) :
    Gen.C13Svc.serviceFactory_ServiceID s name = svcLookupId (regOf s) name := by
  rw [svcLookupId, Gen.C13Svc.serviceFactory_ServiceID, rangeReturn_regOf (fun c => name == c.name) (·.serviceID)
    (fun e => e.name == name) (·.id) (fun _ => beq_comm_bytes ..) (fun _ => rfl)]
  cases (regOf s).find? _ <;> rfl

/-- `serviceFactory.Name` = `svcLookupName` -/
theorem Name_eq (s : Gen.C13Svc.serviceFactory) (id : Bytes) :
    Gen.C13Svc.serviceFactory_Name s id = svcLookupName (regOf s) id := by
  rw [svcLookupName, Gen.C13Svc.serviceFactory_Name, rangeReturn_regOf (fun c => Gen.C13Svc.ServiceID_Equal id c.serviceID)
    (·.name) (fun e => idEqual id e.id) (·.name) (fun _ => rfl) (fun _ => rfl)]
  cases (regOf s).find? _ <;> rfl

/-- `serviceFactory.SuiteByID`: the suite of the first entry with that id; Go's nil for "no entry" and for "an entry registered
with the default suite" alike -/
theorem SuiteByID_eq (s : Gen.C13Svc.serviceFactory) (id : Bytes) :
    Gen.C13Svc.serviceFactory_SuiteByID s id = (svcLookupSuite (regOf s) id).getD none := by
  rw [svcLookupSuite, Gen.C13Svc.serviceFactory_SuiteByID, rangeReturn_regOf (fun c => idEqual id c.serviceID)
    (·.suite) (fun e => id == e.id) (·.suite) (fun _ => rfl) (fun _ => rfl)]
  cases (regOf s).find? _ <;> rfl

/-- `serviceFactory.Suite`: the suite of the first entry with that name, Go's nil when there is none -/
theorem Suite_eq (s : Gen.C13Svc.serviceFactory) (name : Bytes) :
    Gen.C13Svc.serviceFactory_Suite s name = (((regOf s).find? fun e => e.name == name).map (·.suite)).getD none := by
  rw [Gen.C13Svc.serviceFactory_Suite, rangeReturn_regOf (fun c => name == c.name) (·.suite)
    (fun e => e.name == name) (·.suite) (fun _ => beq_comm_bytes ..) (fun _ => rfl)]
  cases (regOf s).find? _ <;> rfl

/-- `RegisteredServiceNames` / `registeredServiceIDs`: the names / ids in registration order -/
theorem names_ids_eq (s : Gen.C13Svc.serviceFactory) :
    Gen.C13Svc.serviceFactory_RegisteredServiceNames s = (regOf s).map (·.name) ∧
    Gen.C13Svc.serviceFactory_registeredServiceIDs s = (regOf s).map (·.id) := by
  have field : ∀ (g : Gen.C13Svc.serviceEntry → Bytes) (f : SvcEntry → Bytes), (∀ c, g c = f (entryOf c)) →
      s.constructors.foldl (fun acc c => acc ++ [g c]) [] = (regOf s).map f := fun g f hg => by
    rw [List.foldl_append_eq_append (f := fun c => [g c]), List.nil_append, ← List.flatMap_def, ← List.map_eq_flatMap, regOf,
      List.map_map, funext hg]
    rfl
  exact ⟨field _ _ fun _ => rfl, field _ _ fun _ => rfl⟩

/-- `Unregister`'s search loop (with `break`): the position of the first entry with that name, else the start value -/
theorem Unregister_index_eq (s : Gen.C13Svc.serviceFactory) (name : Bytes) (i0 : Int) :
    Gen.C13Svc.Unregister_index s name i0 = (((regOf s).findIdx? (fun e => e.name == name)).map Int.ofNat).getD i0 := by
  rw [Gen.C13Svc.Unregister_index, regOf, List.findIdx?_map]
  dsimp only
  rw [Gen.Rt.loop_first_index (fun c : Gen.C13Svc.serviceEntry => c.name == name)]
  rfl

/-- the removal by two slice expressions and `append` = `eraseIdx`, for a position inside the list (no slice panic) -/
theorem Unregister_rest_eq (s : Gen.C13Svc.serviceFactory) (i : Nat) (h : i < s.constructors.length) :
    Gen.C13Svc.Unregister_rest s (i : Int) = some (s.constructors.eraseIdx i) := by
  have hlen : Gen.Rt.len s.constructors = (s.constructors.length : Int) := rfl
  rw [Gen.C13Svc.Unregister_rest, hlen, Gen.Rt.slice_eq s.constructors 0 i (Int.le_refl 0) (Int.natCast_nonneg i) (Int.ofNat_le.mpr (Nat.le_of_lt h)),
    Gen.Rt.slice_eq s.constructors (i + 1) _ (Int.le_add_one (Int.natCast_nonneg i)) (Int.add_one_le_iff.mpr (Int.ofNat_lt.mpr h))
      (Int.le_refl _)]
  simp only [Int.toNat_natCast, Int.toNat_natCast_add_one, Int.toNat_zero, List.drop_zero, List.take_length,
    List.eraseIdx_eq_take_drop_succ]

/-- **`serviceFactory.Unregister` as its three regenerated pieces** (search loop, the not-found test, the removal) is the model's
`svcUnregister`: an error exactly when no entry has the name, otherwise the first such entry is removed — never a slice panic -/
theorem Unregister_eq (s : Gen.C13Svc.serviceFactory) (name : Bytes) :
    (let i := Gen.C13Svc.Unregister_index s name (-1)
     if Gen.C13Svc.Unregister_notFound i then some none
     else (Gen.C13Svc.Unregister_rest s i).map fun l => some (l.map entryOf)) =
    some (svcUnregister (regOf s) name) := by
  rw [Unregister_index_eq, svcUnregister]
  cases hf : (regOf s).findIdx? (fun e => e.name == name) with
  | none => rfl
  | some i =>
    have hi : i < s.constructors.length := by
      rw [← List.length_map (f := entryOf)]
      exact (List.findIdx?_eq_some_iff_getElem.mp hf).1
    have hneg : Gen.C13Svc.Unregister_notFound (i : Int) = false := by
      rw [Gen.C13Svc.Unregister_notFound, decide_eq_false (Int.not_lt.mpr (Int.natCast_nonneg i))]; rfl
    simp only [Option.map_some, Option.getD_some, Int.ofNat_eq_natCast, hneg, Unregister_rest_eq s i hi, regOf, List.eraseIdx_eq_take_drop_succ, List.map_append, List.map_take,
      List.map_drop, Bool.false_eq_true, if_false]
end C13.SvcGen

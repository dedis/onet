import OnetVerif.Proofs.C18Lemmas
import OnetVerif.Proofs.C18Toml
/-! Property C18: the write/read round trip over the emitted *text* — assembling the structure-level
lemmas (`C18Lemmas`) and the text-level ones (`C18Toml`).  Core-only. -/
namespace C18

/-- every registered service has a name the writer quotes faithfully (no backslash, no line break) -/
def RegKeysOK (reg : List (Str × Suite)) : Prop := ∀ e ∈ reg, Toml.KeyOK e.1

/-- no key of these identities is among the texts kyber is said to reject -/
def NotBad (bad : List Str) (g : List ServerId) : Prop :=
  ∀ si ∈ g, hexEncode si.pub ∉ bad ∧ ∀ sid ∈ si.services, hexEncode sid.pub ∉ bad

def convSvc (c : SvcCfg) : Toml.TSvc := { name := c.name, suite := c.suite, pub := c.pub.s, priv := c.priv }

theorem written_text {S : Suite} {reg : List (Str × Suite)} {bad : List Str} (hkeys : RegKeysOK reg) {si : ServerId}
    (hg : GroupId S reg si) (hnd : (si.services.map (·.name)).Nodup)
    (hb : hexEncode si.pub ∉ bad ∧ ∀ sid ∈ si.services, hexEncode sid.pub ∉ bad) :
    serverTomlOf bad (Toml.normServer (tserverOf (written S si))) = written S si ∧
    ∀ l, (tserverOf (written S si)).services = some l →
      ((l.map (·.name)).Nodup ∧ ∀ e ∈ l, e.priv = []) ∧ ∀ e ∈ l, Toml.KeyOK e.name := by
  have hnotbad : ∀ {x : Str}, x ∉ bad → keyOf bad x = { s := x, ok := true } := fun h => by
    rw [keyOf, List.contains_eq_mem, decide_eq_false h]
    rfl
  have htsvc : (tserverOf (written S si)).services = some (si.services.map fun sid => convSvc (entryOf sid)) :=
    congrArg some (List.map_map ..)
  -- the entries are in the byte order of their names already
  have hsorted : Toml.sortSvcs (si.services.map fun sid => convSvc (entryOf sid)) = si.services.map fun sid => convSvc (entryOf sid) :=
    List.mergeSort_of_pairwise (List.pairwise_map.mpr (hg.sorted.imp fun hab => hab))
  have hback : (si.services.map fun sid => convSvc (entryOf sid)).map (svcCfgOf bad) = si.services.map entryOf := by
    rw [List.map_map]
    exact List.map_congr_left fun sid hs => congrArg (SvcCfg.mk _ _ · _) (hnotbad (hb.2 sid hs))
  constructor
  · simp only [serverTomlOf, Toml.normServer, htsvc, Option.map_some, Option.getD_some, hsorted, hback]
    simp only [tserverOf, written, hnotbad hb.1, hg.ptype, BEq.rfl]
  · intro l hl
    cases htsvc.symm.trans hl
    refine ⟨⟨?_, fun e he => ?_⟩, fun e he => ?_⟩
    · rw [List.map_map]
      exact hnd
    · obtain ⟨sid, -, rfl⟩ := List.mem_map.mp he
      rfl
    · obtain ⟨sid, hs, rfl⟩ := List.mem_map.mp he
      obtain ⟨S', hS', -⟩ := hg.svcs sid hs
      obtain ⟨e', he', hen, -⟩ := regSuite_mem hS'
      exact show Toml.KeyOK sid.name from hen ▸ hkeys e' he'

/-- all servers: the structure `Group.Toml` builds goes through the text unchanged -/
theorem written_group_text {S : Suite} {reg : List (Str × Suite)} {bad : List Str} (hkeys : RegKeysOK reg) {g : List ServerId}
    (hg : ∀ si ∈ g, GroupId S reg si ∧ (si.services.map (·.name)).Nodup) (hnb : NotBad bad g) :
    (((g.map (written S)).map tserverOf).map Toml.normServer).map (serverTomlOf bad) = g.map (written S) ∧
    Toml.GroupTextOK ((g.map (written S)).map tserverOf) := by
  have ht := fun si hsi => written_text hkeys (hg si hsi).1 (hg si hsi).2 (hnb si hsi)
  constructor
  · simp only [List.map_map]
    exact List.map_congr_left fun si hsi => (ht si hsi).1
  · rw [List.map_map]
    constructor
    · intro x hx lx hlx
      obtain ⟨si, hsi, rfl⟩ := List.mem_map.mp hx
      exact ((ht si hsi).2 lx hlx).1
    · intro x hx lx hlx
      obtain ⟨si, hsi, rfl⟩ := List.mem_map.mp hx
      exact ((ht si hsi).2 lx hlx).2

end C18

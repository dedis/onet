import OnetVerif.Model.C02
/-! Lemmas about the functions of the C02 model, and the definitions the statements of `Props/C02.lean` use (`Sound`,
`msgOf`, `accept`, `released`).  Core-only. -/
namespace C02

theorem search_some {nodes : List Node} {id : Nat} {n : Node} (h : search nodes id = some n) :
    n ∈ nodes ∧ n.id = id := by
  have := List.mem_filter.mp (List.mem_of_getLast? h)
  exact ⟨this.1, eq_of_beq this.2⟩

theorem search_eq_none_iff {nodes : List Node} {id : Nat} :
    search nodes id = none ↔ ∀ n ∈ nodes, n.id ≠ id := by
  simp only [search, List.getLast?_filter, List.find?_eq_none, List.mem_reverse, beq_iff_eq, ne_eq]

/-- the accepted-sender predicate of the statement -/
def Sound (nodes : List Node) (x : Node × Msg) : Prop :=
  x.1 ∈ nodes ∧ x.1.id = x.2.sender ∧ ∀ p, x.2.peer = some p → x.1.server = p

theorem verify_eq_some_iff {nodes : List Node} {m : Msg} {n : Node} :
    verify nodes m = some n ↔ search nodes m.sender = some n ∧ ∀ p, m.peer = some p → n.server = p := by
  unfold verify
  cases search nodes m.sender with
  | none => simp
  | some n' =>
    cases m.peer with
    | none => simp
    | some p =>
      simp only [Option.ite_none_right_eq_some, Option.some.injEq, forall_eq', and_comm]
      exact and_congr_left fun e => e ▸ Iff.rfl

theorem verify_some {nodes : List Node} {m : Msg} {n : Node} (h : verify nodes m = some n) :
    Sound nodes (n, m) :=
  have ⟨hs, hp⟩ := verify_eq_some_iff.mp h
  ⟨(search_some hs).1, (search_some hs).2, hp⟩

theorem deliverPlain_sound (nodes : List Node) (b : List Msg) :
    (∀ x ∈ deliverPlain nodes b, Sound nodes x) ∧ (deliverPlain nodes b).map Prod.snd <+: b := by
  induction b with
  | nil => exact ⟨List.forall_mem_nil _, List.prefix_rfl⟩
  | cons m b ih =>
    unfold deliverPlain
    cases hv : verify nodes m with
    | none => exact ⟨List.forall_mem_nil _, List.nil_prefix⟩
    | some n => exact ⟨List.forall_mem_cons.mpr ⟨verify_some hv, ih.1⟩, (List.prefix_cons_inj m).mpr ih.2⟩

theorem deliverBatch_cons (nodes : List Node) (m : Msg) (b : List Msg) :
    deliverBatch nodes (m :: b) =
      (verify nodes m).bind fun n => (deliverBatch nodes b).map fun r => (n, m) :: r := by
  rw [deliverBatch]
  cases verify nodes m with
  | none => rfl
  | some n => cases deliverBatch nodes b <;> rfl

theorem deliverBatch_eq_some {nodes : List Node} {b : List Msg} {xs : List (Node × Msg)}
    (h : deliverBatch nodes b = some xs) : xs = deliverPlain nodes b ∧ xs.map Prod.snd = b := by
  induction b generalizing xs with
  | nil => cases h; exact ⟨rfl, rfl⟩
  | cons m b ih =>
    rw [deliverBatch_cons, Option.bind_eq_some_iff] at h
    obtain ⟨n, hv, h⟩ := h
    obtain ⟨r, hr, rfl⟩ := Option.map_eq_some_iff.mp h
    rw [deliverPlain, hv]
    exact ⟨congrArg _ (ih hr).1, congrArg _ (ih hr).2⟩

theorem deliverBatch_eq_none_iff {nodes : List Node} {b : List Msg} :
    deliverBatch nodes b = none ↔ ∃ m ∈ b, verify nodes m = none := by
  induction b with
  | nil => exact ⟨nofun, nofun⟩
  | cons m b ih =>
    rw [deliverBatch_cons]
    cases hv : verify nodes m with
    | none => exact iff_of_true rfl ⟨m, List.mem_cons_self, hv⟩
    | some n =>
      simp only [Option.bind_some, Option.map_eq_none_iff, ih, List.mem_cons, exists_eq_or_imp, hv, reduceCtorEq,
        false_or]

theorem dispatch_subset (i : Inst) (ty : Nat) (b : List Msg) :
    ∀ d ∈ dispatch i ty b, ∀ x ∈ d, x ∈ deliverPlain i.nodes b := by
  intro d hd x hx
  unfold dispatch at hd
  split at hd
  · exact (deliverBatch_eq_some (Option.mem_toList.mp hd)).1 ▸ hx
  · obtain ⟨y, hy, rfl⟩ := List.mem_map.mp hd
    exact List.mem_singleton.mp hx ▸ hy

/-- what `aggregate` releases for a type whose flag is not set is the single message itself -/
theorem aggregate_plain (i : Inst) (q : Queues) (m : Msg) (h : i.agg m.ty = false) :
    aggregate i q m = (q, some [m]) := by
  simp [aggregate, h]

theorem aggregate_provenance (i : Inst) (q : Queues) (m : Msg) :
    (∀ t, ∀ x ∈ (aggregate i q m).1 t, x = m ∨ x ∈ q t) ∧
    (∀ b, (aggregate i q m).2 = some b → ∀ x ∈ b, x = m ∨ x ∈ q m.ty) := by
  have hq : ∀ x ∈ q m.ty ++ [m], x = m ∨ x ∈ q m.ty := fun x hx =>
    (List.mem_append.mp hx).symm.imp_left List.mem_singleton.mp
  fun_cases aggregate i q m
  · exact ⟨fun t x hx => .inr hx, fun b hb x hx => by cases hb; exact .inl (List.mem_singleton.mp hx)⟩
  · refine ⟨fun t x hx => ?_, fun b hb => by cases hb; exact hq⟩
    dsimp only at hx
    split at hx
    · cases hx
    · exact .inr hx
  · refine ⟨fun t x hx => ?_, nofun⟩
    dsimp only at hx
    split at hx
    · next e => exact e ▸ hq x hx
    · exact .inr hx

/-- the protocol message the instance sees for an envelope -/
def msgOf (w : Wire) : Option Msg := w.sender.map fun s => { ty := w.ty, sender := s, peer := w.peer, val := w.val }

/-- what `aggregate` releases over a list of accepted-for-aggregation messages, with the type each batch was
released for; the final queues -/
def released (i : Inst) (q : Queues) : List Msg → Queues × List (Nat × List Msg)
  | [] => (q, [])
  | m :: l =>
    let r := aggregate i q m
    let r' := released i r.1 l
    (r'.1, (r.2.toList.map fun b => (m.ty, b)) ++ r'.2)

theorem released_provenance (i : Inst) (q : Queues) (l : List Msg) :
    ∀ p ∈ (released i q l).2, ∀ x ∈ p.2, x ∈ l ∨ ∃ t, x ∈ q t := by
  induction l generalizing q with
  | nil => exact List.forall_mem_nil _
  | cons m l ih =>
    have hp := aggregate_provenance i q m
    have hm : ∀ {x}, x = m → x ∈ m :: l := fun e => e ▸ List.mem_cons_self
    intro p hp' x hx
    rcases List.mem_append.mp hp' with hp' | hp'
    · obtain ⟨b, hb, rfl⟩ := List.mem_map.mp hp'
      exact (hp.2 b (Option.mem_toList.mp hb) x hx).imp hm fun h => ⟨_, h⟩
    · rcases ih _ p hp' x hx with h | ⟨t, h⟩
      · exact .inl (List.mem_cons_of_mem m h)
      · exact (hp.1 t x h).imp hm fun h => ⟨t, h⟩

/-- the judgement on one envelope: the element the handler would get, if any -/
def accept (nodes : List Node) (w : Wire) : Option (Node × Msg) :=
  match msgOf w with
  | none => none
  | some m => (verify nodes m).map fun n => (n, m)

theorem receive_plain (i : Inst) (q : Queues) (w : Wire) (h : i.agg w.ty = false) :
    receive i q w = (q, (accept i.nodes w).toList.map fun x => [x]) := by
  unfold receive accept msgOf
  cases w.sender with
  | none => rfl
  | some s =>
    simp only [Option.map_some, aggregate_plain i q ⟨w.ty, s, w.peer, w.val⟩ h, dispatch, h, deliverPlain]
    cases verify i.nodes ⟨w.ty, s, w.peer, w.val⟩ <;> rfl

theorem opStep_out (i : Inst) (s : St) (o : Op) : ∃ ws, (opStep i s o).2 = run i s.q ws := by
  obtain ⟨q, parked⟩ := s
  cases o with
  | msg w =>
    cases parked with
    | some _ => exact ⟨[], rfl⟩
    | none => exact ⟨[w], (List.append_nil _).symm⟩
  | treeArrives =>
    cases parked with
    | some ws => exact ⟨ws, rfl⟩
    | none => exact ⟨[], rfl⟩
  | rereg => exact ⟨[], rfl⟩

theorem opRun_parked (i : Inst) (q : Queues) (pre ws : List Wire) :
    opRun i { q := q, parked := some pre } (ws.map Op.msg ++ [.treeArrives]) = run i q (pre ++ ws) := by
  induction ws generalizing pre with
  -- the flush alone: the left side unfolds to `run i q pre ++ []`
  | nil => exact (List.append_nil _).trans (congrArg (run i q) (List.append_nil pre).symm)
  | cons w ws ih =>
    -- parking `w` hands nothing over; the rest runs with `pre ++ [w]` parked
    exact (ih (pre ++ [w])).trans (congrArg (run i q) (List.append_assoc ..))

theorem instOf_nodes {s : Store} {tid : Nat} {nodes : List Node} (hget : s.get tid = some nodes)
    (par : Option Nat) (k : Nat) (agg : Nat → Bool) : (instOf s tid par k agg).nodes = nodes := by
  rw [instOf, hget]; rfl

end C02

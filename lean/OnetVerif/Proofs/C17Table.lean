import OnetVerif.Model.C17Table
import OnetVerif.Proofs.Lists
/-! The valid-peer table and the sequential router around it (`Model/C17Table.lean`): what `lookup` and `VP.get` find after
`VP.set`, and what one `step` of the router does.  Core only. -/
namespace C17

theorem lookup_set (vp : VP) (id id' : SetId) (peers : List Ident) :
    ((vp.set id peers).getD []).lookup id' =
      if id' = id then some (peers.map Ident.getID) else (vp.getD []).lookup id' := by
  show ((id, peers.map Ident.getID) :: (vp.getD []).filter (fun e => e.1 != id)).lookup id' = _
  rw [List.lookup_cons]
  cases h : id' == id
  · have hne : id' ≠ id := ne_of_beq_false h
    rw [if_neg hne]
    exact (List.lookup_filter_ne _ id id').trans (if_neg hne)
  · rw [if_pos (beq_iff_eq.mp h)]

theorem get_after_set (vp : VP) (id id' : SetId) (peers : List Ident) :
    (vp.set id peers).get id' =
      if id' = id then some (peers.map Ident.getID) else some ((vp.get id').getD []) := by
  show some ((((vp.set id peers).getD []).lookup id').getD []) = _
  rw [lookup_set]
  split
  · rfl
  · cases vp <;> rfl

theorem step_offer_obs (s : State) (p : Ident) (m : Nat) :
    (step s (.offer p m)).2 = if s.vp.isValid p then .dispatched p m else .refused := by
  simp only [step]; split <;> rfl

theorem step_offer_fst (s : State) (p : Ident) (m : Nat) :
    (step s (.offer p m)).1 =
      if s.vp.isValid p then { s with conns := s.conns ++ [{ peer := p, origin := .offered s.vp }] } else s := by
  simp only [step]; split <;> rfl

theorem step_msg (s : State) (k : Key) (m : Nat) :
    step s (.msg k m) =
      (s, match s.conns.find? (fun c => c.peer.key == k) with
          | some c => .dispatched c.peer m
          | none => .noConn) := by
  simp only [step]
  cases s.conns.find? (fun c => c.peer.key == k) <;> rfl

theorem step_msg_dispatched {s : State} {k : Key} {m m' : Nat} {q : Ident}
    (h : (step s (.msg k m)).2 = .dispatched q m') : ∃ c ∈ s.conns, c.peer = q ∧ q.key = k := by
  rw [step_msg] at h
  split at h
  · rename_i c hf
    cases h
    exact ⟨c, List.mem_of_find?_eq_some hf, rfl, beq_iff_eq.mp (List.find?_some (p := fun c : Conn => c.peer.key == k) hf)⟩
  · cases h

theorem step_conns {s : State} {op : Op} {c : Conn} (h : c ∈ (step s op).1.conns) :
    (c ∈ s.conns ∧ op ≠ .drop c.peer.key) ∨
    (∃ m, op = .offer c.peer m ∧ s.vp.isValid c.peer = true ∧ c.origin = .offered s.vp) ∨
    (op = .dial c.peer ∧ c.origin = .dialled) := by
  cases op with
  | setPeers id ps => exact .inl ⟨h, fun e => nomatch e⟩
  | getPeers id => exact .inl ⟨h, fun e => nomatch e⟩
  | msg k m => rw [step_msg] at h; exact .inl ⟨h, fun e => nomatch e⟩
  | offer p m =>
    rw [step_offer_fst] at h
    by_cases hv : s.vp.isValid p = true
    · rw [if_pos hv] at h
      rcases List.mem_append.mp h with h | h
      · exact .inl ⟨h, fun e => nomatch e⟩
      · cases List.mem_singleton.mp h
        exact .inr (.inl ⟨m, rfl, hv, rfl⟩)
    · rw [if_neg hv] at h
      exact .inl ⟨h, fun e => nomatch e⟩
  | dial p =>
    rcases List.mem_append.mp h with h | h
    · exact .inl ⟨h, fun e => nomatch e⟩
    · cases List.mem_singleton.mp h
      exact .inr (.inr ⟨rfl, rfl⟩)
  | drop k =>
    obtain ⟨h1, h2⟩ := List.mem_filter.mp h
    refine .inl ⟨h1, fun e => ?_⟩
    cases e
    exact bne_iff_ne.mp h2 rfl

theorem run_obs_length (s : State) (ops : List Op) : (run s ops).2.length = ops.length := by
  induction ops generalizing s with
  | nil => rfl
  | cons op l ih => exact congrArg Nat.succ (ih _)

end C17

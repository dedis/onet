import OnetVerif.Proofs.C20Lemmas
import OnetVerif.Proofs.Lists
/-! The private IPv4 ranges of `Address.Public`: the textual patterns of the regular expression against the numeric
ranges (`privateRe_num`, for `c20_public_ipv4`).  A field is the numeral `fmtNat v` of its value and so are the patterns;
`fmtNat` is injective, so text and value determine each other.  Core-only. -/
namespace C20

/-- a dotted pattern against a dotted string: the first fields must be equal -/
theorem isPrefixOf_field {p q o tl : Str} (hp : 46 ∉ p) (ho : 46 ∉ o) :
    (p ++ 46 :: q).isPrefixOf (o ++ 46 :: tl) = true ↔ o = p ∧ q.isPrefixOf tl = true := by
  rw [List.isPrefixOf_iff_prefix, List.isPrefixOf_iff_prefix]
  constructor
  · rintro ⟨t, h⟩
    rw [List.append_assoc, List.cons_append] at h
    obtain ⟨e1, e2⟩ := List.append_cons_inj_of_not_mem hp ho h
    exact ⟨e1.symm, t, e2⟩
  · rintro ⟨rfl, t, rfl⟩
    exact ⟨t, by rw [List.append_assoc, List.cons_append]⟩

theorem field_num_iff (v x : Nat) (q rest : Str) :
    (fmtNat x ++ 46 :: q).isPrefixOf (fmtNat v ++ 46 :: rest) = true ↔ v = x ∧ q.isPrefixOf rest = true :=
  (isPrefixOf_field (fmtNat_nodot x) (fmtNat_nodot v)).trans (and_congr_left' fmtNat_inj)

theorem isPrefixOf_nodot {p : Str} (hp : 46 ∉ p) (o tl : Str) :
    p.isPrefixOf (o ++ 46 :: tl) = p.isPrefixOf o := by
  induction p generalizing o with
  | nil => rfl
  | cons c p ih =>
    have hc : c ≠ 46 := fun e => hp (e ▸ List.mem_cons_self ..)
    cases o with
    | nil => simp [List.isPrefixOf, hc]
    | cons x r => simp only [List.cons_append, List.isPrefixOf, ih fun m => hp (List.mem_cons_of_mem _ m)]

theorem isPrefixOf_num_false (v : Nat) {c : Nat} (p tl : Str) (hc : isDigit c = false) (hd : 46 ∉ c :: p) :
    (c :: p).isPrefixOf (fmtNat v ++ 46 :: tl) = false := by
  rw [isPrefixOf_nodot hd, Bool.eq_false_iff]
  intro hp
  have := fmtNat_digits v c ((List.isPrefixOf_iff_prefix.mp hp).subset (List.mem_cons_self ..))
  rw [hc] at this
  cases this

theorem prefixRangeDot_iff {pre s : Str} {lo hi : Nat} :
    prefixRangeDot pre lo hi s = true ↔ ∃ c, (lo ≤ c ∧ c ≤ hi) ∧ (pre ++ [c, 46]).isPrefixOf s = true := by
  unfold prefixRangeDot
  rw [Bool.and_eq_true, List.isPrefixOf_iff_prefix]
  constructor
  · rintro ⟨⟨t, rfl⟩, h⟩
    rw [List.drop_left] at h
    match t, h with
    | c :: d :: t, h =>
      simp only [Bool.and_eq_true, decide_eq_true_eq] at h
      obtain ⟨hc, rfl⟩ := h
      exact ⟨c, hc, List.isPrefixOf_iff_prefix.mpr ⟨t, List.append_assoc ..⟩⟩
  · rintro ⟨c, hc, h⟩
    obtain ⟨t, rfl⟩ := List.isPrefixOf_iff_prefix.mp h
    refine ⟨⟨[c, 46] ++ t, (List.append_assoc ..).symm⟩, ?_⟩
    rw [List.append_assoc, List.drop_left]
    simp [hc]

/-- `^x\.y[lo-hi]\.` on two decimal fields -/
theorem prefixRangeDot_num (x y lo hi v1 v2 : Nat) (tl : Str) (hy : 1 ≤ y := by decide) (hy' : y < 10 := by decide)
    (hhi : hi < 10 := by decide) :
    prefixRangeDot (fmtNat x ++ 46 :: [y + 48]) (lo + 48) (hi + 48) (fmtNat v1 ++ 46 :: (fmtNat v2 ++ 46 :: tl)) = true ↔
      v1 = x ∧ y * 10 + lo ≤ v2 ∧ v2 ≤ y * 10 + hi := by
  -- with the byte `z + 48` in the range position the pattern is `x.` followed by the numeral of `y z` and a dot
  have pat : ∀ z, z < 10 → (((fmtNat x ++ 46 :: [y + 48]) ++ [z + 48, 46]).isPrefixOf (fmtNat v1 ++ 46 :: (fmtNat v2 ++ 46 :: tl)) = true ↔
      v1 = x ∧ v2 = y * 10 + z) := fun z hz => by
    have e : (fmtNat x ++ 46 :: [y + 48]) ++ [z + 48, 46] = fmtNat x ++ 46 :: (fmtNat (y * 10 + z) ++ 46 :: []) := by
      rw [fmtNat_snoc hy hz, fmtNat_digit hy', List.append_assoc]; rfl
    rw [e, field_num_iff, field_num_iff]
    exact and_congr_right' (and_iff_left rfl)
  rw [prefixRangeDot_iff]
  constructor
  · rintro ⟨c, ⟨h1, h2⟩, h⟩
    obtain ⟨z, rfl⟩ := Nat.exists_eq_add_of_le' (Nat.le_trans (Nat.le_add_left 48 lo) h1)
    have h1 := Nat.le_of_add_le_add_right h1
    have h2 := Nat.le_of_add_le_add_right h2
    obtain ⟨e1, e2⟩ := (pat z (Nat.lt_of_le_of_lt h2 hhi)).mp h
    exact ⟨e1, e2 ▸ Nat.add_le_add_left h1 _, e2 ▸ Nat.add_le_add_left h2 _⟩
  · rintro ⟨e1, h1, h2⟩
    obtain ⟨z, rfl⟩ := Nat.exists_eq_add_of_le (Nat.le_trans (Nat.le_add_right _ lo) h1)
    have h1 := Nat.le_of_add_le_add_left h1
    have h2 := Nat.le_of_add_le_add_left h2
    exact ⟨z + 48, ⟨Nat.add_le_add_right h1 _, Nat.add_le_add_right h2 _⟩, (pat z (Nat.lt_of_le_of_lt h2 hhi)).mpr ⟨e1, rfl⟩⟩

/-- the private IPv4 ranges: 127/8, 10/8, 172.16/12, 192.168/16, 169.254/16 -/
def private4 (v1 v2 : Nat) : Prop :=
  v1 = 127 ∨ v1 = 10 ∨ (v1 = 172 ∧ 16 ≤ v2 ∧ v2 ≤ 31) ∨ (v1 = 192 ∧ v2 = 168) ∨ (v1 = 169 ∧ v2 = 254)

theorem privateRe_num (v1 v2 : Nat) (h2 : v2 < 1000) (tl : Str) :
    privateRe (fmtNat v1 ++ 46 :: (fmtNat v2 ++ 46 :: tl)) = true ↔ private4 v1 v2 := by
  have e127 : ([49, 50, 55, 46] : Str).isPrefixOf _ = true ↔ v1 = 127 ∧ _ := field_num_iff v1 127 [] (fmtNat v2 ++ 46 :: tl)
  have e10 : ([49, 48, 46] : Str).isPrefixOf _ = true ↔ v1 = 10 ∧ _ := field_num_iff v1 10 [] (fmtNat v2 ++ 46 :: tl)
  have e192 : ([49, 57, 50, 46, 49, 54, 56, 46] : Str).isPrefixOf _ = true ↔ v1 = 192 ∧ _ :=
    field_num_iff v1 192 [49, 54, 56, 46] (fmtNat v2 ++ 46 :: tl)
  have e168 : ([49, 54, 56, 46] : Str).isPrefixOf _ = true ↔ v2 = 168 ∧ _ := field_num_iff v2 168 [] tl
  have e169 : ([49, 54, 57, 46, 50, 53, 52] : Str).isPrefixOf _ = true ↔ v1 = 169 ∧ _ :=
    field_num_iff v1 169 [50, 53, 52] (fmtNat v2 ++ 46 :: tl)
  -- `^169\.254` has no dot at its end, but a number below 1000 has no fourth digit
  have e254 : ([50, 53, 52] : Str).isPrefixOf (fmtNat v2 ++ 46 :: tl) = true ↔ v2 = 254 := by
    have hl : (fmtNat v2).length ≤ 3 := by
      rw [fmtNat, List.length_map, Nat.length_toDigits_le_iff (by decide) (by decide)]; exact h2
    rw [isPrefixOf_nodot (by decide), List.isPrefixOf_iff_prefix, ← fmtNat_inj (a := v2)]
    exact ⟨fun hp => (hp.eq_of_length_le hl).symm, fun e => e ▸ List.prefix_refl _⟩
  have r1 : prefixRangeDot [49, 55, 50, 46, 49] 54 57 _ = true ↔ _ := prefixRangeDot_num 172 1 6 9 v1 v2 tl
  have r2 : prefixRangeDot [49, 55, 50, 46, 50] 48 57 _ = true ↔ _ := prefixRangeDot_num 172 2 0 9 v1 v2 tl
  have r3 : prefixRangeDot [49, 55, 50, 46, 51] 48 49 _ = true ↔ _ := prefixRangeDot_num 172 3 0 1 v1 v2 tl
  -- 16..19, 20..29 and 30..31 are 16..31
  have range : (v1 = 172 ∧ 1 * 10 + 6 ≤ v2 ∧ v2 ≤ 1 * 10 + 9) ∨ (v1 = 172 ∧ 2 * 10 + 0 ≤ v2 ∧ v2 ≤ 2 * 10 + 9) ∨
      (v1 = 172 ∧ 3 * 10 + 0 ≤ v2 ∧ v2 ≤ 3 * 10 + 1) ↔ v1 = 172 ∧ 16 ≤ v2 ∧ v2 ≤ 31 := by
    rw [← and_or_left, ← and_or_left]; exact and_congr_right' (by omega)
  have b1 := isPrefixOf_num_false v1 (c := 91) [58, 58, 49, 93] (fmtNat v2 ++ 46 :: tl) rfl (by decide)
  have b2 := isPrefixOf_num_false v1 (c := 91) [102, 100] (fmtNat v2 ++ 46 :: tl) rfl (by decide)
  unfold privateRe private4
  rw [b1, b2, ← range]
  simp only [Bool.or_eq_true, Bool.false_and, Bool.or_false, e127, e10, e192, e168, e169, e254, r1, r2, r3,
    List.isPrefixOf_nil_left, and_true, or_assoc]

theorem privateRe_quad (o1 o2 tl : Str) (h1 : Octet o1) (h2 : Octet o2) :
    privateRe (o1 ++ 46 :: (o2 ++ 46 :: tl)) = true ↔ private4 (decVal o1) (decVal o2) := by
  have := privateRe_num (decVal o1) (decVal o2) (Nat.lt_of_le_of_lt h2.2.1 (by decide)) tl
  rwa [fmtNat_decVal h1.1 h1.2.2, fmtNat_decVal h2.1 h2.2.2] at this

end C20

import OnetVerif.Model.C17Accept
import OnetVerif.Proofs.Sched
import OnetVerif.Proofs.Lists
/-! The accept-path transition system of C17 (`Model/C17Accept.lean`): one lemma per goroutine function (`Moves`) carries
the invariant — every phase beyond the validity test goes back to a `check` act of the schedule — and the measure.  Core only. -/

namespace C17
namespace Acc

theorem run_append (s : State) (l₁ l₂ : List Act) : run s (l₁ ++ l₂) = run (run s l₁) l₂ :=
  List.foldl_append ..

theorem run_snoc (s : State) (acts : List Act) (a : Act) : run s (acts ++ [a]) = step (run s acts) a :=
  run_append s acts [a]

theorem run_cons (s : State) (a : Act) (l : List Act) : run s (a :: l) = run (step s a) l := rfl

theorem upd_vp (s : State) (c : Nat) (f : Conn → Conn) : (upd s c f).vp = s.vp := by
  unfold upd; split <;> rfl

theorem upd_closed (s : State) (c : Nat) (f : Conn → Conn) : (upd s c f).closed = s.closed := by
  unfold upd; split <;> rfl

theorem upd_log (s : State) (c : Nat) (f : Conn → Conn) : (upd s c f).log = s.log := by
  unfold upd; split <;> rfl

theorem upd_conns_length (s : State) (c : Nat) (f : Conn → Conn) : (upd s c f).conns.length = s.conns.length := by
  unfold upd; split
  · rfl
  · exact List.length_set

theorem upd_get (s : State) (c c' : Nat) (f : Conn → Conn) :
    (upd s c f).conns[c']? = if c' = c then (s.conns[c]?).map f else s.conns[c']? := by
  unfold upd
  cases hc : s.conns[c]? with
  | none =>
    show s.conns[c']? = _
    split
    · rename_i e; rw [e, hc]; rfl
    · rfl
  | some cn =>
    show (s.conns.set c (f cn))[c']? = _
    rw [List.getElem?_set']
    split
    · rename_i e; rw [if_pos e.symm, ← e, hc]; rfl
    · rename_i e; rw [if_neg (Ne.symm e)]

theorem upd_get_ne {c c' : Nat} (s : State) (f : Conn → Conn) (h : c ≠ c') :
    (upd s c f).conns[c']? = s.conns[c']? := by
  rw [upd_get, if_neg (Ne.symm h)]

theorem upd_snoc (vp : VP) (l : List Conn) (cn : Conn) (b : Bool) (lg : List (Nat × Ident × Nat)) (f : Conn → Conn) :
    upd ⟨vp, l ++ [cn], b, lg⟩ l.length f = ⟨vp, l ++ [f cn], b, lg⟩ := by
  unfold upd
  rw [List.getElem?_concat_length]
  show State.mk vp ((l ++ [cn]).set l.length (f cn)) b lg = _
  rw [List.set_append_right _ _ (Nat.le_refl _), Nat.sub_self]; rfl

theorem step_recv (s : State) (c : Nat) :
    step s (.recv c) = { upd s c fun cn => (recvConn s.closed cn).1 with
      log := match (s.conns[c]?).bind fun cn => (recvConn s.closed cn).2 with
        | some (p, m) => s.log ++ [(c, p, m)]
        | none => s.log } := by
  simp only [step, upd]
  cases s.conns[c]? <;> rfl

theorem step_recv_conns (s : State) (c : Nat) :
    (step s (.recv c)).conns = (upd s c fun cn => (recvConn s.closed cn).1).conns := by
  rw [step_recv]

theorem step_vp (s : State) (a : Act) :
    (step s a).vp = match a with | .setPeers id ps => s.vp.set id ps | _ => s.vp := by
  cases a with
  | recv c => rw [step_recv]; exact upd_vp ..
  | setPeers id ps => rfl
  | connect => rfl
  | stop => rfl
  | _ => exact upd_vp ..

theorem step_closed (s : State) (a : Act) :
    (step s a).closed = match a with | .stop => true | _ => s.closed := by
  cases a with
  | recv c => rw [step_recv]; exact upd_closed ..
  | setPeers id ps => rfl
  | connect => rfl
  | stop => rfl
  | _ => exact upd_closed ..

theorem step_other (s : State) (a : Act) (c' : Nat)
    (hne : match a with
      | .peerSend c _ | .peerClose c | .recvId c | .check c | .register c | .launch c | .recv c => c ≠ c'
      | _ => True) :
    ∀ cn, s.conns[c']? = some cn → (step s a).conns[c']? = some cn := by
  intro cn h
  cases a with
  | setPeers id peers => exact h
  | stop => exact h
  | connect => exact (List.getElem?_append_left (List.getElem?_eq_some_iff.mp h).1).trans h
  | recv c => rw [step_recv_conns]; exact (upd_get_ne s _ hne).trans h
  | _ => exact (upd_get_ne s _ hne).trans h

theorem step_log (s : State) (a : Act) :
    (step s a).log = s.log ∨ ∃ c cn p m, a = .recv c ∧ s.conns[c]? = some cn ∧
      (recvConn s.closed cn).2 = some (p, m) ∧ (step s a).log = s.log ++ [(c, p, m)] := by
  cases a with
  | recv c =>
    simp only [step]
    split
    · exact .inl rfl
    · rename_i cn hc
      cases hd : (recvConn s.closed cn).2 with
      | none => exact .inl rfl
      | some e => exact .inr ⟨c, cn, e.1, e.2, rfl, hc, hd, rfl⟩
  | setPeers id ps => exact .inl rfl
  | connect => exact .inl rfl
  | stop => exact .inl rfl
  | _ => exact .inl (upd_log ..)

theorem step_closed_of_closed {s : State} (h : s.closed = true) (a : Act) : (step s a).closed = true := by
  rw [step_closed]; split
  · rfl
  · exact h

/-- the validity test of connection `c` as a moment of the schedule: identity `p`, answer `b` -/
def TestedAt (acts : List Act) (c : Nat) (p : Ident) (b : Bool) : Prop :=
  ∃ pre post, acts = pre ++ .check c :: post ∧ (run {} pre).vp.isValid p = b ∧
    phaseOf (run {} pre) c = some (.gotId p)

theorem TestedAt.snoc {acts : List Act} {c : Nat} {p : Ident} {b : Bool} (h : TestedAt acts c p b) (a : Act) :
    TestedAt (acts ++ [a]) c p b := by
  obtain ⟨pre, post, he, h1, h2⟩ := h
  exact ⟨pre, post ++ [a], by rw [he, List.append_assoc, List.cons_append], h1, h2⟩

def PhaseOK (acts : List Act) (c : Nat) : Phase → Prop
  | .checked p _ | .registered p _ | .running p _ => TestedAt acts c p true
  | .closed .refused => ∃ p, TestedAt acts c p false
  | _ => True

theorem PhaseOK.snoc {acts : List Act} {c : Nat} {ph : Phase} (h : PhaseOK acts c ph) (a : Act) :
    PhaseOK (acts ++ [a]) c ph := by
  cases ph with
  | checked p v => exact TestedAt.snoc h a
  | registered p v => exact TestedAt.snoc h a
  | running p v => exact TestedAt.snoc h a
  | closed w =>
    cases w with
    | refused => exact h.imp fun _ hp => hp.snoc a
    | _ => trivial
  | _ => trivial

/-! Each goroutine function does nothing — then it was not due, `idle` says why — or brings its connection nearer to rest,
and `adv` says where to.  One lemma of this shape per function carries the invariant, progress and what holds at rest. -/

def Moves (cn cn' : Conn) (idle adv : Prop) : Prop :=
  (cn' = cn ∧ idle) ∨ (cn'.measure < cn.measure ∧ adv)

/-- the move claims nothing about the test that was not claimed before -/
def Keeps (ph ph' : Phase) : Prop := ∀ acts c, PhaseOK acts c ph → PhaseOK acts c ph'

theorem Moves.ok {cn cn' : Conn} {idle adv : Prop} (h : Moves cn cn' idle adv) (hk : adv → Keeps cn.phase cn'.phase)
    {acts : List Act} {c : Nat} (hok : PhaseOK acts c cn.phase) : PhaseOK acts c cn'.phase :=
  h.elim (fun hi => hi.1 ▸ hok) fun ha => hk ha.2 acts c hok

/-! `Conn.measure` is `k + inbox.length + (0 or 1)`, `k` the phases still to go, and `0` once closed: it drops in three ways. -/
section
variable {x y : Nat}
private theorem lt_step {a b : Nat} (h : a < b) : a + x + y < b + x + y :=
  Nat.add_lt_add_right (Nat.add_lt_add_right h x) y
private theorem lt_read {a : Nat} : a + x + y < a + (x + 1) + y :=
  Nat.add_lt_add_right (Nat.add_lt_add_left (Nat.lt_succ_self x) a) y
private theorem pos_open {a : Nat} : 0 < a + 1 + x + y :=
  Nat.lt_of_lt_of_le (Nat.succ_pos a) (Nat.le_trans (Nat.le_add_right _ x) (Nat.le_add_right _ y))
end

theorem recvIdConn_moves (cn : Conn) :
    Moves cn (recvIdConn cn) (cn.phase = .waitId → cn.inbox = [] ∧ cn.peerOpen = true)
      (Keeps cn.phase (recvIdConn cn).phase) := by
  obtain ⟨ph, inbox, po⟩ := cn
  cases ph with
  | waitId =>
    cases inbox with
    | cons w rest =>
      cases w with
      | ident p => exact .inr ⟨Nat.lt_trans (lt_step (Nat.lt_succ_self 4)) lt_read, fun _ _ _ => trivial⟩
      | msg m => exact .inr ⟨pos_open, fun _ _ _ => trivial⟩
    | nil =>
      cases po with
      | true => exact .inl ⟨rfl, fun _ => ⟨rfl, rfl⟩⟩
      | false => exact .inr ⟨pos_open, fun _ _ _ => trivial⟩
  | _ => exact .inl ⟨rfl, fun h => nomatch h⟩

theorem checkConn_moves (vp : VP) (cn : Conn) :
    Moves cn (checkConn vp cn) (∀ p, cn.phase ≠ .gotId p)
      (∃ p, cn.phase = .gotId p ∧ ((vp.isValid p = true ∧ (checkConn vp cn).phase = .checked p vp) ∨
        (vp.isValid p = false ∧ (checkConn vp cn).phase = .closed .refused))) := by
  obtain ⟨ph, inbox, po⟩ := cn
  cases ph with
  | gotId p =>
    have e : checkConn vp ⟨.gotId p, inbox, po⟩ =
        if vp.isValid p then ⟨.checked p vp, inbox, po⟩ else ⟨.closed .refused, inbox, po⟩ := rfl
    rw [e]
    cases hv : vp.isValid p with
    | true => exact .inr ⟨lt_step (Nat.lt_succ_self 3), p, rfl, .inl ⟨hv, rfl⟩⟩
    | false => exact .inr ⟨pos_open, p, rfl, .inr ⟨hv, rfl⟩⟩
  | _ => exact .inl ⟨rfl, fun _ h => nomatch h⟩

theorem registerConn_moves (b : Bool) (cn : Conn) :
    Moves cn (registerConn b cn) (∀ p v, cn.phase ≠ .checked p v) (Keeps cn.phase (registerConn b cn).phase) := by
  obtain ⟨ph, inbox, po⟩ := cn
  cases ph with
  | checked p v =>
    cases b with
    | true => exact .inr ⟨pos_open, fun _ _ _ => trivial⟩
    | false => exact .inr ⟨lt_step (Nat.lt_succ_self 2), fun _ _ h => h⟩
  | _ => exact .inl ⟨rfl, fun _ _ h => nomatch h⟩

theorem launchConn_moves (b : Bool) (cn : Conn) :
    Moves cn (launchConn b cn) (∀ p v, cn.phase ≠ .registered p v) (Keeps cn.phase (launchConn b cn).phase) := by
  obtain ⟨ph, inbox, po⟩ := cn
  cases ph with
  | registered p v =>
    cases b with
    | true => exact .inr ⟨pos_open, fun _ _ _ => trivial⟩
    | false => exact .inr ⟨lt_step (Nat.lt_succ_self 1), fun _ _ h => h⟩
  | _ => exact .inl ⟨rfl, fun _ _ h => nomatch h⟩

theorem recvConn_moves (b : Bool) (cn : Conn) :
    Moves cn (recvConn b cn).1
      ((recvConn b cn).2 = none ∧ ∀ p v, cn.phase = .running p v → b = false ∧ cn.inbox = [] ∧ cn.peerOpen = true)
      (Keeps cn.phase (recvConn b cn).1.phase ∧
        ∀ p m, (recvConn b cn).2 = some (p, m) → b = false ∧ ∃ v, cn.phase = .running p v) := by
  obtain ⟨ph, inbox, po⟩ := cn
  cases ph with
  | running q v =>
    cases b with
    | true => exact .inr ⟨pos_open, fun _ _ _ => trivial, fun _ _ h => nomatch h⟩
    | false =>
      cases inbox with
      | cons w rest =>
        cases w with
        | ident _ => exact .inr ⟨lt_read, fun _ _ h => h, fun _ _ h => nomatch h⟩
        | msg _ => exact .inr ⟨lt_read, fun _ _ h => h, fun _ _ h => by cases h; exact ⟨rfl, v, rfl⟩⟩
      | nil =>
        cases po with
        | true => exact .inl ⟨rfl, rfl, fun _ _ _ => ⟨rfl, rfl, rfl⟩⟩
        | false => exact .inr ⟨pos_open, fun _ _ _ => trivial, fun _ _ h => nomatch h⟩
  | _ => exact .inl ⟨rfl, rfl, fun _ _ h => nomatch h⟩

theorem recvConn_dispatch {b : Bool} {cn : Conn} {p : Ident} {m : Nat} (h : (recvConn b cn).2 = some (p, m)) :
    b = false ∧ ∃ v, cn.phase = .running p v :=
  (recvConn_moves b cn).elim (fun hi => nomatch hi.2.1.symm.trans h) fun ha => ha.2.2 p m h

theorem step_log_of_closed {s : State} (h : s.closed = true) (a : Act) : (step s a).log = s.log := by
  rcases step_log s a with hs | ⟨c, cn, p, m, _, _, hd, _⟩
  · exact hs
  · exact nomatch (recvConn_dispatch hd).1.symm.trans h

def ConnsOK (acts : List Act) (s : State) : Prop := ∀ c cn, s.conns[c]? = some cn → PhaseOK acts c cn.phase

theorem upd_ok {acts : List Act} {s : State} {c : Nat} {f : Conn → Conn} (h : ConnsOK acts s)
    (hf : ∀ cn, s.conns[c]? = some cn → PhaseOK acts c cn.phase → PhaseOK acts c (f cn).phase) :
    ConnsOK acts (upd s c f) := by
  intro c' cn' hget
  rw [upd_get] at hget
  split at hget
  · rename_i e; subst e
    cases hc : s.conns[c']? with
    | none => rw [hc] at hget; cases hget
    | some cn => rw [hc] at hget; cases hget; exact hf cn hc (h c' cn hc)
  · exact h c' cn' hget

/-- invariant of every schedule: a connection beyond the test passed it at a moment of this very
schedule, a refused one failed it at a moment of this schedule, and the connection of everything in
the dispatch log passed it -/
def Inv (acts : List Act) : Prop :=
  ConnsOK acts (run {} acts) ∧ ∀ e ∈ (run {} acts).log, TestedAt acts e.1 e.2.1 true

theorem inv_snoc (acts : List Act) (a : Act) (h : Inv acts) : Inv (acts ++ [a]) := by
  have hc : ConnsOK (acts ++ [a]) (run {} acts) := fun c cn hcn => (h.1 c cn hcn).snoc a
  have hl : ∀ e ∈ (run {} acts).log, TestedAt (acts ++ [a]) e.1 e.2.1 true := fun e he => (h.2 e he).snoc a
  unfold Inv
  rw [run_snoc]
  constructor
  · cases a with
    | setPeers id ps => exact hc
    | stop => exact hc
    | connect =>
      intro c cn hget
      by_cases hlt : c < (run {} acts).conns.length
      · exact hc c cn ((List.getElem?_append_left hlt).symm.trans hget)
      · have := (List.getElem?_append_right (Nat.le_of_not_lt hlt)).symm.trans hget
        cases List.mem_singleton.mp (List.mem_of_getElem? this); trivial
    | peerSend k w => exact upd_ok hc fun cn _ h => by split <;> exact h
    | peerClose k => exact upd_ok hc fun _ _ h => h
    | recvId k => exact upd_ok hc fun cn _ h => (recvIdConn_moves cn).ok id h
    | check k =>
      -- the verdict is the one of this moment of the schedule
      refine upd_ok hc fun cn hcn h => ?_
      rcases checkConn_moves (run {} acts).vp cn with ⟨e, _⟩ | ⟨_, p, hp, hv⟩
      · rw [e]; exact h
      · have hph : phaseOf (run {} acts) k = some (.gotId p) := by rw [phaseOf, hcn, Option.map_some, hp]
        rcases hv with ⟨hv, e⟩ | ⟨hv, e⟩
        · rw [e]; exact ⟨acts, [], rfl, hv, hph⟩
        · rw [e]; exact ⟨p, acts, [], rfl, hv, hph⟩
    | register k => exact upd_ok hc fun cn _ h => (registerConn_moves _ cn).ok id h
    | launch k => exact upd_ok hc fun cn _ h => (launchConn_moves _ cn).ok id h
    | recv k =>
      intro c cn hget
      rw [step_recv_conns] at hget
      exact upd_ok hc (fun cn _ h => (recvConn_moves _ cn).ok And.left h) c cn hget
  · intro e he
    rcases step_log (run {} acts) a with hs | ⟨c, cn, p, m, _, hcn, hd, hs⟩
    · rw [hs] at he; exact hl e he
    · rw [hs] at he
      rcases List.mem_append.mp he with he | he
      · exact hl e he
      · cases List.mem_singleton.mp he
        obtain ⟨_, v, hv⟩ := recvConn_dispatch hd
        have := hc c cn hcn
        rw [hv] at this; exact this

theorem inv_all (acts : List Act) : Inv acts := by
  induction acts using List.snoc_induction with
  | nil => exact ⟨fun _ _ h => (nomatch h), fun _ h => (nomatch h)⟩
  | snoc l a ih => exact inv_snoc l a ih

/-! ### progress: every effective step of a server goroutine brings its connection nearer to rest -/

theorem upd_lt {s : State} {c : Nat} {f : Conn → Conn} {cn : Conn} (hc : s.conns[c]? = some cn)
    (h : (f cn).measure < cn.measure) : measure (upd s c f) < measure s := by
  unfold upd
  rw [hc]
  exact List.sum_map_set_lt Conn.measure hc h

theorem measure_congr {s t : State} (h : s.conns = t.conns) : measure s = measure t :=
  congrArg (fun l => (l.map Conn.measure).sum) h

theorem upd_measure (s : State) (c : Nat) {f : Conn → Conn} {idle adv : Conn → Prop}
    (hf : ∀ cn, Moves cn (f cn) (idle cn) (adv cn)) :
    upd s c f = s ∨ measure (upd s c f) < measure s := by
  cases hc : s.conns[c]? with
  | none => left; unfold upd; rw [hc]
  | some cn =>
    rcases hf cn with ⟨e, _⟩ | ⟨hlt, _⟩
    · left; unfold upd; rw [hc]; show State.mk _ (s.conns.set c (f cn)) _ _ = s; rw [e, List.set_of_getElem? hc]
    · exact .inr (upd_lt hc hlt)

/-- a loop turn also writes the log, so it is not an `upd` alone: the `idle` clause of `recvConn_moves` says nothing was dispatched -/
theorem recv_measure (s : State) (c : Nat) : step s (.recv c) = s ∨ measure (step s (.recv c)) < measure s := by
  cases hc : s.conns[c]? with
  | none => left; simp only [step, hc]
  | some cn =>
    rcases recvConn_moves s.closed cn with ⟨e1, e2, _⟩ | ⟨hlt, _⟩
    · left; simp only [step, hc, e1, e2, List.set_of_getElem? hc]
    · exact .inr (measure_congr (step_recv_conns s c) ▸ upd_lt hc hlt)

theorem progress_or_rest (s : State) (c : Nat) (cn : Conn) (hc : s.conns[c]? = some cn) :
    (∃ a ∈ internal c, measure (step s a) < measure s) ∨
    (cn.phase = .waitId ∧ cn.inbox = [] ∧ cn.peerOpen = true) ∨
    (∃ p v, cn.phase = .running p v ∧ cn.inbox = [] ∧ cn.peerOpen = true ∧ s.closed = false) ∨
    (∃ w, cn.phase = .closed w) := by
  have due {a : Act} {f : Conn → Conn} {idle adv : Prop} (ha : a ∈ internal c)
      (he : (step s a).conns = (upd s c f).conns) (hm : Moves cn (f cn) idle adv) (hn : ¬ idle) :
      ∃ a ∈ internal c, measure (step s a) < measure s :=
    ⟨a, ha, measure_congr he ▸ upd_lt hc (hm.resolve_left fun h => hn h.2).1⟩
  cases hph : cn.phase with
  | closed w => exact .inr (.inr (.inr ⟨w, rfl⟩))
  | waitId =>
    by_cases h : cn.inbox = [] ∧ cn.peerOpen = true
    · exact .inr (.inl ⟨rfl, h⟩)
    · exact .inl (due (.head _) rfl (recvIdConn_moves cn) fun hi => h (hi hph))
  | gotId p => exact .inl (due (.tail _ (.head _)) rfl (checkConn_moves s.vp cn) fun hi => hi p hph)
  | checked p v =>
    exact .inl (due (.tail _ (.tail _ (.head _))) rfl (registerConn_moves s.closed cn) fun hi => hi p v hph)
  | registered p v =>
    exact .inl (due (.tail _ (.tail _ (.tail _ (.head _)))) rfl (launchConn_moves s.closed cn) fun hi => hi p v hph)
  | running p v =>
    by_cases h : s.closed = false ∧ cn.inbox = [] ∧ cn.peerOpen = true
    · exact .inr (.inr (.inl ⟨p, v, rfl, h.2.1, h.2.2, h.1⟩))
    · exact .inl (due (.tail _ (.tail _ (.tail _ (.tail _ (.head _))))) (step_recv_conns s c)
        (recvConn_moves s.closed cn) fun hi => h (hi.2 p v hph))

end Acc
end C17

import OnetVerif.Gen.Rt
import OnetVerif.Proofs.Lists
/-! The run-time operations of the translator (`Gen/Rt.lean`) in terms of core `List` and `Int` functions: `len`, indexing
and slicing on the inputs where they do not panic, `%` on natural numbers, the `range` loops that search, and a Go
map after a write or a `delete`.  The
equivalence proofs `Props/CxxGen.lean` rewrite with these.  Core only. -/
namespace Gen.Rt

theorem len_eq_zero {α : Type} (xs : List α) : (len xs == 0) = (xs.isEmpty) := by
  cases xs with
  | nil => rfl
  | cons x r => simp [len]; omega

theorem len_beq {α β : Type} (xs : List α) (ys : List β) : (len xs == len ys) = decide (xs.length = ys.length) := by
  rw [Bool.eq_iff_iff]; simp [len]; exact Int.ofNat_inj

theorem len_gt {α : Type} (xs : List α) (n : Nat) : decide (len xs > (n : Int)) = decide (xs.length > n) := by
  simp only [len, Int.ofNat_eq_natCast, gt_iff_lt, Int.ofNat_lt]

theorem len_lt {α : Type} (xs : List α) (n : Nat) : decide (len xs < (n : Int)) = decide (xs.length < n) := by
  simp only [len, Int.ofNat_eq_natCast, Int.ofNat_lt]

theorem idx_zero {α : Type} (l : List α) : idx l 0 = l.head? := by
  cases l <;> simp [idx]

theorem idx_nat {α : Type} (l : List α) (k : Nat) : idx l (k : Int) = l[k]? := by
  have : ¬ ((k : Int) < 0) := by omega
  simp [idx, this]

/-- `s[len(s)-1]` is the last byte; it panics exactly on the empty string -/
theorem idx_last {α : Type} (xs : List α) : idx xs (len xs - 1) = xs.getLast? := by
  cases xs with
  | nil => simp [idx, len]
  | cons c r =>
    have h : ¬ ((len (c :: r)) - 1 < 0) := by simp [len]
    have e : ((len (c :: r)) - 1).toNat = r.length := by simp [len]
    rw [idx, if_neg h, e, List.getLast?_eq_getElem?]
    simp

/-- `xs[lo:hi]` within bounds -/
theorem slice_eq {α : Type} (xs : List α) (lo hi : Int) (h0 : 0 ≤ lo) (h : lo ≤ hi) (h' : hi ≤ xs.length) :
    slice xs lo hi = some ((xs.take hi.toNat).drop lo.toNat) :=
  if_neg (not_or.mpr ⟨Int.not_lt.mpr h0, not_or.mpr ⟨Int.not_lt.mpr h, Int.not_lt.mpr h'⟩⟩)

/-- `xs[:]` -/
theorem slice_full {α : Type} (xs : List α) : slice xs 0 (len xs) = some xs :=
  (slice_eq xs 0 _ (Int.le_refl 0) (Int.natCast_nonneg _) (Int.le_refl _)).trans (congrArg some List.take_length)

theorem slice_tail {α : Type} (a : α) (l : List α) : slice (a :: l) 1 (len (a :: l)) = some l := by
  have h1 : ¬ ((l.length : Int) + 1 < 1) := by omega
  simp [slice, len, h1]

/-- `s[:len(s)-1]` drops the last byte; it panics exactly on the empty string -/
theorem slice_dropLast {α : Type} (xs : List α) (h : xs ≠ []) : slice xs 0 (len xs - 1) = some xs.dropLast := by
  cases xs with
  | nil => exact absurd rfl h
  | cons c r =>
    have h1 : ¬ ((0 : Int) < 0 ∨ len (c :: r) - 1 < 0 ∨ len (c :: r) < len (c :: r) - 1) := by
      simp [len]; omega
    have e : ((len (c :: r)) - 1).toNat = r.length := by simp [len]
    rw [slice, if_neg h1, e]
    simp [List.dropLast_eq_take]

theorem imod_nat (i : Int) (r n : Nat) (hi : 0 ≤ i) (hn : 0 < n) :
    imod (i + (r : Int)) (n : Int) = some (((i.toNat + r) % n : Nat) : Int) := by
  have h1 : 0 ≤ i + (r : Int) := Int.add_nonneg hi (Int.natCast_nonneg r)
  rw [imod, if_neg (Int.natCast_ne_zero.mpr (Nat.ne_of_gt hn)), Int.tmod_eq_emod_of_nonneg h1, Int.natCast_emod,
    Int.natCast_add, Int.toNat_of_nonneg hi]

/-- a `range` loop that returns `g c` for the first element `c` passing a test: `find?` with that test, then `g` -/
theorem rangeReturn_first {α β : Type} (p : α → Bool) (g : α → β) (l : List α) :
    rangeReturn l (fun c => if p c then some (g c) else none) = (l.find? p).map g :=
  List.findSome?_ite p g l

/-- a search loop that returns the constant `c` at the first element satisfying `p` -/
theorem rangeReturn_const {α ρ : Type} (xs : List α) (p : α → Bool) (c : ρ) :
    rangeReturn xs (fun x => if p x = true then some c else none) = if xs.any p then some c else none := by
  induction xs with
  | nil => simp [rangeReturn]
  | cons x r ih =>
    simp only [rangeReturn] at ih
    cases hp : p x <;> simp [rangeReturn, hp, ih]

/-- `for i, e := range l` over a slice of non-nil pointers `mk b`, whose body `f` returns `r i e` at the first `e` that
passes `q`: the first hit of `q` with its position (the count starts at `off`).  `f` is the generated body; what it does on
a nil entry does not matter here. -/
theorem findSome?_enumFrom {β γ ρ : Type} (mk : β → γ) (q : β → Bool) (r : Int → γ → ρ) (f : Int × Option γ → Option ρ)
    (hf : ∀ i b, f (i, some (mk b)) = if q b then some (r i (mk b)) else none) (l : List β) (off : Nat) :
    (enumFrom off (l.map fun b => some (mk b))).findSome? f =
      ((l.zipIdx off).find? fun t => q t.1).map fun t => r (t.2 : Nat) (mk t.1) := by
  induction l generalizing off with
  | nil => rfl
  | cons x l ih =>
    rw [List.map_cons, enumFrom, List.findSome?_cons, hf, List.zipIdx_cons, List.find?_cons]
    cases q x
    · exact ih (off + 1)
    · rfl

/-- a loop that looks for an element and breaks at the first hit -/
theorem loop_any {α ρ : Type} (c : α → Bool) : ∀ (xs : List α) (found : Bool),
    loop (ρ := ρ) xs found (fun found x => if c x then .brk true else .next found) =
      .inr (if xs.any c then true else found) := by
  intro xs
  induction xs with
  | nil => intro found; rfl
  | cons x r ih =>
    intro found
    rw [loop, List.any_cons]
    cases c x
    · exact ih found
    · rfl

/-- a loop that returns `false` at the first element failing the test -/
theorem loop_all {α : Type} (g : α → Bool) : ∀ (xs : List α),
    loop xs () (fun _ x => if (!g x) = true then .ret false else .next ()) =
      if xs.all g then .inr () else .inl false := by
  intro xs
  induction xs with
  | nil => rfl
  | cons x r ih =>
    rw [loop, List.all_cons]
    cases g x
    · rfl
    · exact ih

/-- a counting `range` loop that remembers the index of the first element passing a test and breaks -/
theorem loop_first_index {α : Type} (p : α → Bool) (l : List α) (i0 : Int) :
    loop (ρ := Int) (enum l) i0
        (fun index t => if p t.2 then Step.brk t.1 else Step.next index) =
      Sum.inr (((l.findIdx? p).map Int.ofNat).getD i0) := by
  -- for the induction: the count starts anywhere
  suffices ∀ off : Nat, loop (ρ := Int) (enumFrom off l) i0
      (fun index t => if p t.2 then Step.brk t.1 else Step.next index) =
        Sum.inr (((l.findIdx? p).map fun i => Int.ofNat (off + i)).getD i0) by
    rw [enum, this 0, funext fun i => congrArg Int.ofNat (Nat.zero_add i)]
  intro off
  induction l generalizing off with
  | nil => rfl
  | cons e r ih =>
    rw [enumFrom, loop, List.findIdx?_cons]
    cases p e
    · rw [if_neg Bool.false_ne_true]
      show loop (enumFrom (off + 1) r) i0 _ = _
      rw [ih (off + 1), if_neg Bool.false_ne_true, Option.map_map, funext fun i => congrArg Int.ofNat (Nat.succ_add_eq_add_succ off i)]
      rfl
    · rfl

/-- `m[k] = v` on a map that is not nil is the write without a panic; the lemmas below say what is read after it -/
theorem Map.insert?_eq {κ ν : Type} [BEq κ] (m : Map κ ν) (hm : m.isSome) (k : κ) (v : ν) :
    Map.insert? m k v = some (Map.put m k v) := by
  cases m with
  | none => cases hm
  | some l => rfl

section map
variable {κ ν : Type} [BEq κ] [LawfulBEq κ] [DecidableEq κ]

theorem Map.find_put (m : Map κ ν) (k : κ) (v : ν) (j : κ) :
    Map.find (Map.put m k v) j = if j = k then some v else Map.find m j := by
  show ((k, v) :: m.getD []).lookup j = if j = k then some v else (m.getD []).lookup j
  rw [List.lookup_cons]
  by_cases h : j = k
  · rw [h, beq_self_eq_true, if_pos rfl]
  · rw [beq_false_of_ne h, if_neg h]

theorem Map.find_erase (m : Map κ ν) (k j : κ) :
    Map.find (Map.erase m k) j = if j = k then none else Map.find m j := by
  cases m with
  | none => exact (ite_self _).symm
  | some l => exact List.lookup_filter_ne l k j

theorem Map.get_put (m : Map κ ν) (k : κ) (v : ν) (j : κ) (d : ν) :
    Map.get (Map.put m k v) j d = if j = k then v else Map.get m j d := by
  rw [Map.get, Map.find_put, Map.get]
  split <;> rfl

theorem Map.get_erase (m : Map κ ν) (k j : κ) (d : ν) :
    Map.get (Map.erase m k) j d = if j = k then d else Map.get m j d := by
  rw [Map.get, Map.find_erase, Map.get]
  split <;> rfl

end map

end Gen.Rt

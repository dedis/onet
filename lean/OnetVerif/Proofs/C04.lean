import OnetVerif.Model.C04
/-! What the functions of the C04 model do in one step, and `chunk`: the list function that `run` is on the collected
messages of one type (`proj_run` in `Props/C04.lean`).  Core-only. -/
namespace C04

section
variable {cfg : Cfg} {t : Nat} {q : Queues} {m : Msg} {b : List Msg}

theorem kid_iff : kid cfg t m = true ↔ m.ty = t ∧ bypass cfg m = false := by
  simp [kid]

theorem aggregate_kid (h : kid cfg t m = true) (q : Queues) :
    (aggregate cfg q m).1 t = (if (q t).length + 1 = cfg.nChildren then [] else q t ++ [m]) ∧
    (aggregate cfg q m).2 = if (q t).length + 1 = cfg.nChildren then some (q t ++ [m]) else none := by
  obtain ⟨rfl, hb⟩ := kid_iff.mp h
  by_cases hf : (q m.ty).length + 1 = cfg.nChildren <;> simp [aggregate, hb, hf]

theorem aggregate_other (h : kid cfg t m = false) (q : Queues) :
    (aggregate cfg q m).1 t = q t ∧ (aggregate cfg q m).2.toList.filter (isAggBatch cfg t) = [] := by
  cases hb : bypass cfg m
  · have : t ≠ m.ty := fun e => by rw [kid_iff.mpr ⟨e.symm, hb⟩] at h; cases h
    by_cases hf : (q m.ty).length + 1 = cfg.nChildren <;> simp [aggregate, hb, hf, this, isAggBatch, h]
  · simp [aggregate, hb, isAggBatch, h]

theorem aggregate_releases (h : (aggregate cfg q m).2 = some b) :
    (b = [m] ∧ bypass cfg m = true) ∨
    (b = q m.ty ++ [m] ∧ kid cfg m.ty m = true ∧ (q m.ty).length + 1 = cfg.nChildren) := by
  cases hb : bypass cfg m
  · by_cases hf : (q m.ty).length + 1 = cfg.nChildren <;> simp [aggregate, hb, hf] at h
    exact .inr ⟨h.symm, kid_iff.mpr ⟨rfl, hb⟩, hf⟩
  · simp [aggregate, hb] at h
    exact .inl ⟨h.symm, rfl⟩

theorem released_filter_other {p : List Msg → Bool} (hp : ∀ b, p b = true → ∀ x ∈ b, x.ty = t) (e : m.ty ≠ t) :
    (aggregate cfg q m).2.toList.filter p = [] := by
  cases hb : (aggregate cfg q m).2 with
  | none => rfl
  | some b =>
    refine List.filter_cons_of_neg fun hpb => e (hp b hpb m ?_)
    rcases aggregate_releases hb with ⟨rfl, _⟩ | ⟨rfl, _⟩ <;> simp

theorem isAggBatch_of_kids (hne : b ≠ []) (hb : ∀ m ∈ b, kid cfg t m = true) : isAggBatch cfg t b = true := by
  simpa [isAggBatch, hne] using hb

end

/-- `aggregate` on the messages of one type: `acc` is the queue, a message that makes it exactly `n` long releases it.
An equality, as in the code: a queue already `n` long or longer (a leaf's, `n = 0`) is never released. -/
def chunk {α : Type} (n : Nat) (acc : List α) : List α → List (List α) × List α
  | [] => ([], acc)
  | m :: l =>
    if acc.length + 1 = n then ((acc ++ [m]) :: (chunk n [] l).1, (chunk n [] l).2) else chunk n (acc ++ [m]) l

section
variable {α : Type} {n : Nat} {acc l : List α}

theorem chunk_incomplete (h : n ≤ acc.length ∨ acc.length + l.length < n) : chunk n acc l = ([], acc ++ l) := by
  induction l generalizing acc with
  | nil => rw [chunk, List.append_nil]
  | cons m l ih =>
    rw [List.length_cons] at h
    rw [chunk, if_neg (by omega), ih (by rw [List.length_append, List.length_singleton]; omega), List.append_assoc]; rfl

theorem chunk_round {r : List α} (hne : r ≠ []) (h : acc.length + r.length = n) (l : List α) :
    chunk n acc (r ++ l) = ((acc ++ r) :: (chunk n [] l).1, (chunk n [] l).2) := by
  induction r generalizing acc with
  | nil => exact absurd rfl hne
  | cons m r ih =>
    have hlen : (acc ++ [m]).length = acc.length + 1 := List.length_append
    rw [List.cons_append, chunk]
    cases r with
    | nil => exact if_pos h
    | cons m' r =>
      -- `m` is not the last of the round: the test fails
      rw [if_neg (fun e => by rw [← e] at h; exact absurd (Nat.succ.inj (Nat.add_left_cancel h)) (Nat.succ_ne_zero _)),
        ih (List.cons_ne_nil _ _) (hlen ▸ (Nat.succ_add_eq_add_succ ..).trans h), List.append_assoc]; rfl

theorem chunk_complete (hne : l ≠ []) (h : acc.length + l.length = n) : chunk n acc l = ([acc ++ l], []) := by
  have := chunk_round hne h []
  rwa [List.append_nil] at this

theorem chunk_spec (n : Nat) (acc l : List α) :
    (chunk n acc l).1.flatten ++ (chunk n acc l).2 = acc ++ l ∧
    (∀ b ∈ (chunk n acc l).1, b ≠ [] ∧ b.length = n) ∧
    (acc.length < n → (chunk n acc l).2.length < n) := by
  induction l generalizing acc with
  | nil => exact ⟨(List.append_nil _).symm, nofun, id⟩
  | cons m l ih =>
    have hlen : (acc ++ [m]).length = acc.length + 1 := List.length_append
    rw [chunk]
    split
    next hf =>
      obtain ⟨h1, h2, h3⟩ := ih (acc := [])
      exact ⟨by rw [List.flatten_cons, List.append_assoc, h1, List.append_assoc]; rfl,
        List.forall_mem_cons.mpr ⟨⟨List.append_ne_nil_of_right_ne_nil _ (List.cons_ne_nil _ _), hlen.trans hf⟩, h2⟩,
        fun _ => h3 (hf ▸ Nat.succ_pos _)⟩
    next hf =>
      obtain ⟨h1, h2, h3⟩ := ih (acc := acc ++ [m])
      exact ⟨by rw [h1, List.append_assoc]; rfl, h2, fun h => h3 (hlen ▸ Nat.lt_of_le_of_ne h hf)⟩

theorem chunk_rounds (hn : 1 ≤ n) (rounds : List (List α)) (hr : ∀ r ∈ rounds, r.length = n) :
    chunk n [] rounds.flatten = (rounds, []) := by
  induction rounds with
  | nil => rfl
  | cons r rs ih =>
    obtain ⟨hlen, hr⟩ := List.forall_mem_cons.mp hr
    have hne : r ≠ [] := fun e => by rw [e] at hlen; exact absurd hlen.symm (Nat.ne_of_gt hn)
    rw [List.flatten_cons, chunk_round (acc := []) hne ((Nat.zero_add _).trans hlen), ih hr]; rfl

private theorem length_flatten_const (n : Nat) (L : List (List α)) (h : ∀ b ∈ L, b.length = n) :
    L.flatten.length = n * L.length := by
  induction L with
  | nil => rfl
  | cons b L ih =>
    rw [List.flatten_cons, List.length_append, List.length_cons, h b (List.mem_cons_self ..),
      ih (fun b' hb' => h b' (List.mem_cons_of_mem _ hb')), Nat.mul_succ, Nat.add_comm]

theorem chunk_count (hn : 1 ≤ n) (l : List α) :
    (chunk n [] l).1.length = l.length / n ∧ (chunk n [] l).2.length = l.length % n := by
  obtain ⟨h1, h2, h3⟩ := chunk_spec n [] l
  have hc := congrArg List.length h1
  rw [List.length_append, length_flatten_const n _ (fun b hb => (h2 b hb).2), List.nil_append, Nat.add_comm] at hc
  exact ((Nat.div_mod_unique hn).mpr ⟨hc, h3 hn⟩).imp Eq.symm Eq.symm

end

section
variable {r r' : Reg} {t mt : Nat} {f : Form}

/-- the two accepted argument types for message type `mt` -/
def formTy (f : Form) (mt : Nat) : GoTy :=
  match f with
  | .plain => .strct 2 true mt
  | .slice => .slice (.strct 2 true mt)

theorem checkStruct_eq_ok {g : GoTy} : checkStruct g = .ok mt ↔ g = .strct 2 true mt := by
  cases g with
  | strct n first mt' => by_cases hn : n = 2 <;> cases first <;> simp [checkStruct, hn]
  | _ => simp [checkStruct]

theorem checkStruct_splitForm {g : GoTy} : checkStruct (splitForm g).2 = .ok mt ↔ g = formTy (splitForm g).1 mt := by
  rw [checkStruct_eq_ok]
  cases g <;> simp [splitForm, formTy]

theorem registerChanValue_eq_ok {e : GoTy} {cap : Nat} :
    registerChanValue r e cap = .ok r' ↔ ∃ f mt, e = formTy f mt ∧
      r' = { r with channels := fun t => if t = mt then some (f, cap) else r.channels t,
                    flags := fun t => if t = mt then f == .slice else r.flags t } := by
  constructor
  · intro h
    unfold registerChanValue at h
    cases hc : checkStruct (splitForm e).2 with
    | error _ => rw [hc] at h; cases h
    | ok mt => rw [hc] at h; exact ⟨_, mt, checkStruct_splitForm.mp hc, (Except.ok.inj h).symm⟩
  · rintro ⟨f, mt, rfl, rfl⟩
    cases f <;> rfl

theorem registerHandler_eq_ok {a : Arg} :
    registerHandler r a = .ok r' ↔ ∃ f mt, a = .fn (formTy f mt) [.err] ∧
      r' = { r with handlers := fun t => if t = mt then some f else r.handlers t,
                    flags := fun t => if t = mt then f == .slice else r.flags t } := by
  constructor
  · intro h
    cases a with
    | fn inp outs =>
      by_cases h1 : outs.length ≠ 1
      · rw [registerHandler, if_pos h1] at h; cases h
      by_cases h2 : outs ≠ [.err]
      · rw [registerHandler, if_neg h1, if_pos h2] at h; cases h
      rw [registerHandler, if_neg h1, if_neg h2] at h
      cases hc : checkStruct (splitForm inp).2 with
      | error _ => rw [hc] at h; cases h
      | ok mt =>
        rw [hc] at h
        rw [Decidable.not_not.mp h2, checkStruct_splitForm.mp hc]
        exact ⟨_, mt, rfl, (Except.ok.inj h).symm⟩
    | _ => cases h
  · rintro ⟨f, mt, rfl, rfl⟩
    cases f <;> rfl

/-- a refused call changes nothing, so only the successful calls need preserve `P` -/
theorem regScript_inv {P : Reg → Prop} (gs : List (List RegCall))
    (hcall : ∀ g ∈ gs, ∀ c ∈ g, ∀ r r', P r → regCall r c = .ok r' → P r') (r : Reg) (hr : P r) :
    P (regScript r gs).1 := by
  have many (cs : List RegCall) (hcs : ∀ c ∈ cs, ∀ r r', P r → regCall r c = .ok r' → P r') (r : Reg) (hr : P r) :
      P (regMany r cs).1 := by
    induction cs generalizing r with
    | nil => exact hr
    | cons c cs ih =>
      rw [regMany]
      cases h : regCall r c with
      | error _ => exact hr
      | ok r' => exact ih (fun c' hc' => hcs c' (.tail _ hc')) r' (hcs c (.head _) r r' hr h)
  induction gs generalizing r with
  | nil => exact hr
  | cons g gs ih => exact ih (fun g' hg' => hcall g' (.tail _ hg')) _ (many g (hcall g (.head _)) r hr)

theorem target_handler (h : r.target t = .handler f) : r.channels t = none ∧ r.handlers t = some f := by
  unfold Reg.target at h
  cases hc : r.channels t with
  | some fc => rw [hc] at h; cases h
  | none =>
    rw [hc] at h
    cases hh : r.handlers t with
    | none => rw [hh] at h; cases h
    | some f' => rw [hh] at h; cases h; exact ⟨rfl, rfl⟩

end

section
variable (s : IState) (mt : Nat) (b : List Msg) (m : Msg)

theorem dispatch_cases :
    (∃ f, s.reg.target mt = .handler f ∧ dispatch s mt b =
      (s, if s.reg.flags mt = (f == .slice) then .calls (if s.reg.flags mt then [b] else b.map fun m => [m])
          else .crash)) ∨
    ((∀ f, s.reg.target mt ≠ .handler f) ∧
      (dispatch s mt b = (s, .dropped) ∨
       (∃ items o, dispatch s mt b = ({ s with chans := fun t => if t = mt then items else s.chans t }, o) ∧
         (o = .dropped ∨ ∃ sent, o = .sent sent)) ∨
       dispatch s mt b = ({ s with stuck := some (mt, b) }, .blocked))) := by
  unfold dispatch
  cases s.reg.target mt with
  | none => exact .inr ⟨nofun, .inl rfl⟩
  | handler f => exact .inl ⟨f, rfl, by cases s.reg.flags mt <;> cases f <;> rfl⟩
  | chan f cap =>
    refine .inr ⟨nofun, ?_⟩
    cases s.reg.flags mt <;> cases f
    · refine .inr (.inl ⟨_, _, rfl, ?_⟩)
      cases (sendPlain cap (s.chans mt) b).2.isEmpty
      · exact .inr ⟨_, rfl⟩
      · exact .inl rfl
    · exact .inl rfl
    · exact .inl rfl
    · by_cases hroom : (s.chans mt).length < cap
      · exact .inr (.inl ⟨_, _, if_pos hroom, .inr ⟨_, rfl⟩⟩)
      · exact .inr (.inr (if_neg hroom))

theorem dispatch_frame :
    (dispatch s mt b).1.q = s.q ∧ (dispatch s mt b).1.reg = s.reg ∧ (dispatch s mt b).1.cfg = s.cfg ∧
    ∀ t, t ≠ mt → (dispatch s mt b).1.chans t = s.chans t := by
  rcases dispatch_cases s mt b with ⟨_, _, hcall⟩ | ⟨_, hdrop | ⟨_, _, hput, _⟩ | hblock⟩
  -- a handler was called
  · rw [hcall]; exact ⟨rfl, rfl, rfl, fun _ _ => rfl⟩
  -- the batch was dropped
  · rw [hdrop]; exact ⟨rfl, rfl, rfl, fun _ _ => rfl⟩
  -- put into channel `mt`: the other channels are as before
  · rw [hput]; exact ⟨rfl, rfl, rfl, fun _ h => if_neg h⟩
  -- the reader waits in `Send`
  · rw [hblock]; exact ⟨rfl, rfl, rfl, fun _ _ => rfl⟩

theorem istep_frame :
    (istep s m).1.q = (aggregate s.cfg s.q m).1 ∧ (istep s m).1.reg = s.reg ∧ (istep s m).1.cfg = s.cfg := by
  simp only [istep]
  cases (aggregate s.cfg s.q m).2 with
  | none => exact ⟨rfl, rfl, rfl⟩
  | some b =>
    obtain ⟨h1, h2, h3, _⟩ := dispatch_frame { s with q := (aggregate s.cfg s.q m).1 } m.ty b
    exact ⟨h1, h2, h3⟩

end

theorem sendPlain_room (b : List Msg) (cap : Nat) (buf : List (List Msg)) (h : buf.length + b.length ≤ cap) :
    sendPlain cap buf b = (buf ++ b.map (fun m => [m]), b.map fun m => [m]) := by
  induction b generalizing buf with
  | nil => simp [sendPlain]
  | cons m ms ih =>
    rw [List.length_cons] at h
    rw [sendPlain, if_pos (by omega), ih (buf ++ [[m]]) (by rw [List.length_append, List.length_singleton]; omega)]
    simp

theorem callsOf_append (a b : List Outcome) : callsOf (a ++ b) = callsOf a ++ callsOf b := by
  induction a with
  | nil => rfl
  | cons o a ih => cases o <;> simp only [List.cons_append, callsOf, ih, List.append_assoc]

end C04

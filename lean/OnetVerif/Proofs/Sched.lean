import OnetVerif.Proofs.Lists
/-! Facts shared by the transition-system models.

Most concurrent models have `step : σ → α → Option σ` (`none`: the action is not enabled) and a `run` that skips
disabled actions.  `Sched.Skips step run` says exactly that; an invariant of `step` is then an invariant of `run`
(`Skips.inv`, `Skips.inv_on` for schedules of some actions only), and runs compose (`Skips.append`).  The list lemmas
are the bookkeeping of "thread `i` moves" (`l.set i t'`), "a thread is spawned" (`l ++ [t]`) and "message `j` is
taken" (`l.eraseIdx j`); the thread or message is given as `l[i]? = some t`, which is what a `step` that matches on
`l[i]?` hands the proof.  `Sched.Holds` ties a lock to the one thread of the list that holds it. -/

namespace Sched
variable {σ α : Type}

structure Skips (step : σ → α → Option σ) (run : σ → List α → σ) : Prop where
  nil : ∀ s, run s [] = s
  cons : ∀ s a as, run s (a :: as) = run ((step s a).getD s) as

variable {step : σ → α → Option σ} {run : σ → List α → σ}

theorem Skips.inv (hr : Skips step run) {P : σ → Prop} (hstep : ∀ s s' a, P s → step s a = some s' → P s')
    (as : List α) (s : σ) (h : P s) : P (run s as) := by
  induction as generalizing s with
  | nil => rwa [hr.nil]
  | cons a as ih =>
    rw [hr.cons]
    cases hs : step s a with
    | none => exact ih _ h
    | some s' => exact ih _ (hstep _ _ _ h hs)

theorem Skips.inv_on (hr : Skips step run) {P : σ → Prop} {A : α → Prop}
    (hstep : ∀ s s' a, A a → P s → step s a = some s' → P s')
    (as : List α) (hA : ∀ a ∈ as, A a) (s : σ) (h : P s) : P (run s as) := by
  induction as generalizing s with
  | nil => rwa [hr.nil]
  | cons a as ih =>
    rw [hr.cons]
    have ih := ih fun b hb => hA b (List.mem_cons_of_mem _ hb)
    cases hs : step s a with
    | none => exact ih _ h
    | some s' => exact ih _ (hstep _ _ _ (hA a List.mem_cons_self) h hs)

theorem Skips.append (hr : Skips step run) (as bs : List α) (s : σ) :
    run s (as ++ bs) = run (run s as) bs := by
  induction as generalizing s with
  | nil => rw [List.nil_append, hr.nil]
  | cons a as ih => rw [List.cons_append, hr.cons, hr.cons, ih]

end Sched

namespace List
variable {α : Type}

theorem lt_length_of_getElem? {l : List α} {i : Nat} {a : α} (h : l[i]? = some a) : i < l.length := by
  rcases Nat.lt_or_ge i l.length with h' | h'
  · exact h'
  · simp [List.getElem?_eq_none h'] at h

theorem getElem?_set_self_of_some {l : List α} {i : Nat} {a b : α} (h : l[i]? = some a) : (l.set i b)[i]? = some b :=
  getElem?_set_self (lt_length_of_getElem? h)

theorem getElem?_set_eq {l : List α} {i j : Nat} {a b : α} (h : (l.set i a)[j]? = some b) :
    (i = j ∧ b = a) ∨ (i ≠ j ∧ l[j]? = some b) := by
  rw [List.getElem?_set] at h
  split at h
  · split at h
    · cases h; exact Or.inl ⟨‹_›, rfl⟩
    · cases h
  · exact Or.inr ⟨‹_›, h⟩

theorem get_set_other {cs : List α} {i h : Nat} {a b x : α} (hc : cs[i]? = some a) (hh : cs[h]? = some b)
    (hab : a ≠ b) : (cs.set i x)[h]? = some b := by
  have : i ≠ h := by
    intro e; subst e; rw [hc] at hh; cases hh; exact hab rfl
  rw [List.getElem?_set_ne this]; exact hh

theorem map_fst_set {β : Type} {l : List (α × β)} {i : Nat} {a : α} {b b' : β} (h : l[i]? = some (a, b)) :
    (l.set i (a, b')).map (·.1) = l.map (·.1) := by
  rw [List.map_set]
  exact set_of_getElem? (by rw [List.getElem?_map, h]; rfl)

theorem getElem?_split {l : List α} {i : Nat} {c : α} (h : l[i]? = some c) :
    ∃ pre post, l = pre ++ c :: post ∧ ∀ c', l.set i c' = pre ++ c' :: post := by
  obtain ⟨hi, rfl⟩ := List.getElem?_eq_some_iff.mp h
  refine ⟨l.take i, l.drop (i + 1), ?_, fun c' => ?_⟩
  · rw [← List.drop_eq_getElem_cons hi, List.take_append_drop]
  · rw [List.set_eq_take_append_cons_drop, if_pos hi]

theorem forall_replace {P : α → Prop} {pre post : List α} {c c' : α} (hc' : P c')
    (h : ∀ x ∈ pre ++ c :: post, P x) : ∀ x ∈ pre ++ c' :: post, P x := by
  simp only [List.forall_mem_append, List.forall_mem_cons] at h ⊢
  exact ⟨h.1, hc', h.2.2⟩

/-- replacing the `i`-th element `t` by `t'` moves one unit of `countP p` from `t` to `t'` -/
theorem countP_set' {p : α → Bool} {l : List α} {i : Nat} {t t' : α} (h : l[i]? = some t) :
    (l.set i t').countP p + (if p t then 1 else 0) = l.countP p + (if p t' then 1 else 0) := by
  have hi := lt_length_of_getElem? h
  have ht : l[i] = t := by simpa [List.getElem?_eq_getElem hi] using h
  have := List.boole_getElem_le_countP (p := p) hi
  rw [List.countP_set hi, ht] at *
  omega

theorem count_keep {p : α → Bool} {l : List α} {i : Nat} {t t' : α} (ht : l[i]? = some t) (h : p t' = p t) :
    (l.set i t').countP p = l.countP p := by
  have := countP_set' (p := p) (t' := t') ht
  rw [h] at this
  omega

theorem count_push_keep {p : α → Bool} {t : α} (h : p t = false) (l : List α) : (l ++ [t]).countP p = l.countP p := by
  rw [List.countP_append, List.countP_singleton, h]; rfl

theorem forall_mem_set {P : α → Prop} {l : List α} {i : Nat} {b : α} (h : ∀ x ∈ l, P x) (hb : P b) :
    ∀ x ∈ l.set i b, P x := by
  intro x hx
  rcases mem_or_eq_of_mem_set hx with hx | rfl
  · exact h x hx
  · exact hb

theorem forall_mem_concat {P : α → Prop} {l : List α} {b : α} (h : ∀ x ∈ l, P x) (hb : P b) : ∀ x ∈ l ++ [b], P x :=
  forall_mem_append.mpr ⟨h, forall_mem_singleton.mpr hb⟩

theorem mem_set_of_ne {l : List α} {i : Nat} {x y : α} (hy : l[i]? = some y) (hx : x ∈ l) (hne : x ≠ y) (z : α) :
    x ∈ l.set i z := by
  obtain ⟨j, hj⟩ := List.getElem?_of_mem hx
  refine List.mem_iff_getElem?.mpr ⟨j, ?_⟩
  rw [List.getElem?_set_ne (fun e => ?_), hj]
  rw [e, hj] at hy; exact hne (Option.some.inj hy)

theorem sum_map_set_lt (f : α → Nat) {l : List α} {i : Nat} {a b : α} (h : l[i]? = some a) (hlt : f b < f a) :
    ((l.set i b).map f).sum < (l.map f).sum := by
  induction l generalizing i with
  | nil => cases h
  | cons x xs ih =>
    cases i with
    | zero => cases h; exact Nat.add_lt_add_right hlt _
    | succ n => exact Nat.add_lt_add_left (ih h) _

theorem countP_eraseIdx' {p : α → Bool} {l : List α} {j : Nat} {x : α} (h : l[j]? = some x) :
    (l.eraseIdx j).countP p + (if p x then 1 else 0) = l.countP p := by
  induction l generalizing j with
  | nil => cases h
  | cons y ys ih =>
    cases j with
    | zero => cases h; rw [List.eraseIdx_cons_zero, List.countP_cons]
    | succ j => rw [List.eraseIdx_cons_succ, List.countP_cons, List.countP_cons, ← ih h]; omega

theorem mem_eraseIdx_of_ne {l : List α} {j : Nat} {x y : α} (hy : l[j]? = some y) (hx : x ∈ l) (hne : x ≠ y) :
    x ∈ l.eraseIdx j := by
  obtain ⟨i, hi⟩ := List.getElem?_of_mem hx
  refine List.mem_eraseIdx_iff_getElem?.mpr ⟨i, fun e => ?_, hi⟩
  rw [e, hy] at hi; exact hne (Option.some.inj hi).symm

end List

namespace Sched
variable {α : Type}

/-- `lock` names the one thread that is in a holding state -/
def Holds (holding : α → Bool) (lock : Option Nat) (l : List α) : Prop :=
  ∀ j, lock = some j ↔ ∃ p, l[j]? = some p ∧ holding p = true

namespace Holds
variable {holding : α → Bool} {lock lock' : Option Nat} {l : List α} {j : Nat} {a b : α}

theorem nil : Holds holding none ([] : List α) :=
  fun _ => ⟨nofun, fun ⟨_, h, _⟩ => nomatch h⟩

theorem eq_some (H : Holds holding lock l) (hj : l[j]? = some a) (ha : holding a = true) : lock = some j :=
  (H j).mpr ⟨a, hj, ha⟩

theorem iff (H : Holds holding lock l) (hj : l[j]? = some a) : lock = some j ↔ holding a = true :=
  ⟨fun h => by obtain ⟨p, e, hp⟩ := (H j).mp h; cases hj.symm.trans e; exact hp, H.eq_some hj⟩

theorem concat (H : Holds holding lock l) (ha : holding a = false) : Holds holding lock (l ++ [a]) := by
  intro k
  rw [H k]
  constructor
  · rintro ⟨p, hk, hp⟩
    exact ⟨p, by rw [List.getElem?_append_left (List.lt_length_of_getElem? hk)]; exact hk, hp⟩
  · rintro ⟨p, hk, hp⟩
    rcases Nat.lt_or_ge k l.length with hlt | hge
    · rw [List.getElem?_append_left hlt] at hk; exact ⟨p, hk, hp⟩
    · rw [List.getElem?_append_right hge] at hk
      cases List.mem_singleton.mp (List.mem_of_getElem? hk)
      cases ha.symm.trans hp

theorem move (H : Holds holding lock l) (hj : l[j]? = some a) (hb : lock' = some j ↔ holding b = true)
    (hk : ∀ k, k ≠ j → (lock' = some k ↔ lock = some k)) : Holds holding lock' (l.set j b) := by
  intro k
  by_cases hjk : j = k
  · subst hjk
    rw [List.getElem?_set_self_of_some hj, hb]
    exact ⟨fun h => ⟨b, rfl, h⟩, fun ⟨_, e, h⟩ => by cases e; exact h⟩
  · rw [List.getElem?_set_ne hjk, hk k (Ne.symm hjk)]
    exact H k

theorem set (H : Holds holding lock l) (hj : l[j]? = some a) (hab : holding b = holding a) :
    Holds holding lock (l.set j b) :=
  H.move hj (hab ▸ H.iff hj) fun _ _ => .rfl

theorem acquire (H : Holds holding lock l) (hl : lock = none) (hj : l[j]? = some a) (hb : holding b = true) :
    Holds holding (some j) (l.set j b) :=
  H.move hj ⟨fun _ => hb, fun _ => rfl⟩ fun _ hk =>
    ⟨fun e => absurd (Option.some.inj e).symm hk, fun e => nomatch hl.symm.trans e⟩

theorem release (H : Holds holding lock l) (hj : l[j]? = some a) (ha : holding a = true)
    (hb : holding b = false) : Holds holding none (l.set j b) :=
  H.move hj ⟨nofun, fun h => nomatch hb.symm.trans h⟩ fun _ hk =>
    ⟨nofun, fun e => absurd (Option.some.inj (e.symm.trans (H.eq_some hj ha))) hk⟩

theorem nobody (H : Holds holding lock l) (hl : lock = none) {p : α} (hp : p ∈ l) (hh : holding p = true) : False := by
  obtain ⟨j, hj⟩ := List.getElem?_of_mem hp
  cases hl.symm.trans (H.eq_some hj hh)

theorem mem_set (H : Holds holding lock l) (hl : lock = none ∨ lock = some j) {p : α}
    (hp : p ∈ l.set j b) (hh : holding p = true) : p = b := by
  obtain ⟨k, hk⟩ := List.getElem?_of_mem hp
  by_cases hjk : j = k
  · subst hjk
    rw [List.getElem?_set_self (List.length_set ▸ List.lt_length_of_getElem? hk)] at hk
    exact (Option.some.inj hk).symm
  · rw [List.getElem?_set_ne hjk] at hk
    have hlk := H.eq_some hk hh
    rcases hl with e | e
    · cases e.symm.trans hlk
    · exact absurd (Option.some.inj (e.symm.trans hlk)) hjk

end Holds
end Sched

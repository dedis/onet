import OnetVerif.Model.C12
/-! Property C12 — the loop of `GenerateNaryTreeWithRoot` (`naryLoop`) builds the closed form `naryClosed`: one invariant
`NaryInv` on the single queue `parents ++ children`; and what `descendants`, `subtreeCount`, `search`, `swapAt`, `size`,
`usesList` do on the lists the generators make.  Core Lean only. -/
namespace C12

theorem div_eq_block {N : Nat} (hN : 0 < N) {x c : Nat} : x / N = c ↔ N * c ≤ x ∧ x < N * c + N := by
  rw [Nat.div_eq_iff hN, Nat.mul_comm c N, Nat.le_sub_one_iff_lt (Nat.add_pos_right _ hN)]

theorem min_succ (N d : Nat) : min N (d + 1) = min N d + if d < N then 1 else 0 := by
  split
  · next h => rw [Nat.min_eq_right (Nat.le_of_lt h), Nat.min_eq_right h]
  · next h =>
    rw [Nat.min_eq_left (Nat.le_of_not_lt h), Nat.min_eq_left (Nat.le_succ_of_le (Nat.le_of_not_lt h)), Nat.add_zero]

/-- `naryClosed N rootIdx n` is `closedPrefix N rootIdx n n` -/
def closedPrefix (N rootIdx n m : Nat) : Nodes :=
  (List.range m).map fun i => ((i + rootIdx) % n, (i - 1) / N)

/-- parents of nodes `1 … k` in the closed form -/
def closedParents (N k : Nat) : List Nat := (List.range k).map (· / N)

theorem closedPrefix_succ (N r n m : Nat) :
    closedPrefix N r n (m + 1) = closedPrefix N r n m ++ [((m + r) % n, (m - 1) / N)] := by
  simp only [closedPrefix, List.range_succ, List.map_append, List.map_cons, List.map_nil]

theorem closedPrefix_length (N r n m : Nat) : (closedPrefix N r n m).length = m := by
  simp only [closedPrefix, List.length_map, List.length_range]

theorem closedPrefix_parents (N r n k : Nat) :
    ((closedPrefix N r n (k + 1)).drop 1).map (·.2) = closedParents N k := by
  simp only [closedPrefix, closedParents, List.range_succ_eq_map, List.map_cons, List.drop_succ_cons, List.drop_zero,
    List.map_map]
  rfl

theorem closedParents_succ (N k : Nat) : closedParents N (k + 1) = closedParents N k ++ [k / N] := by
  simp only [closedParents, List.range_succ, List.map_append, List.map_cons, List.map_nil]

theorem closedParents_lt {N k i q : Nat} (h : (closedParents N k)[i]? = some q) : q < 1 + i := by
  simp only [closedParents, List.getElem?_map, Option.map_eq_some_iff] at h
  obtain ⟨a, ha, rfl⟩ := h
  obtain ⟨_, rfl⟩ := List.getElem?_eq_some_iff.mp ha
  rw [List.getElem_range, Nat.add_comm]
  exact Nat.lt_succ_of_le (Nat.div_le_self i N)

theorem count_closedParents {N : Nat} (hN : 0 < N) (c k : Nat) :
    (closedParents N k).count c = min N (k - N * c) := by
  induction k with
  | zero => rw [Nat.zero_sub, Nat.min_zero]; rfl
  | succ k ih =>
    rw [closedParents_succ, List.count_append, ih, List.count_singleton]
    simp only [beq_iff_eq, div_eq_block hN]
    rcases Nat.lt_or_ge k (N * c) with h | h
    · rw [Nat.sub_eq_zero_of_le h, Nat.sub_eq_zero_of_le (Nat.le_of_lt h), if_neg (fun h' => Nat.not_le_of_lt h h'.1),
        Nat.add_zero]
    · obtain ⟨d, rfl⟩ := Nat.exists_eq_add_of_le h
      simp only [Nat.add_sub_cancel_left, Nat.add_assoc, Nat.le_add_right, true_and, Nat.add_lt_add_iff_left]
      exact (min_succ N d).symm

/-- when every recorded parent is at most `p` and precedes its child, the descendants of `p` are
exactly its children -/
private theorem descendants_length (p : Nat) :
    ∀ (ps : List Nat) (j : Nat) (acc : List Nat), (∀ x ∈ acc, p < x) → (∀ q ∈ ps, q ≤ p) →
      (∀ i q, ps[i]? = some q → q < j + i) →
      (descendants p ps j acc).length = acc.length + ps.count p := by
  intro ps
  induction ps with
  | nil => intro j acc _ _ _; rfl
  | cons q rest ih =>
    intro j acc hacc hle hlt
    have hrest : ∀ i q', rest[i]? = some q' → q' < (j + 1) + i := fun i q' h => by
      rw [Nat.add_right_comm]; exact hlt (i + 1) q' h
    have hle' : ∀ q' ∈ rest, q' ≤ p := fun q' h => hle q' (List.mem_cons_of_mem _ h)
    rw [descendants, List.count_cons]
    by_cases hqp : q = p
    · -- a child of `p`: it joins `acc`, and it lies after `p`
      have hacc' : ∀ x ∈ acc ++ [j], p < x := by
        intro x hx
        rcases List.mem_append.mp hx with hx | hx
        · exact hacc x hx
        · rw [List.mem_singleton.mp hx, ← hqp]; exact hlt 0 q rfl
      rw [if_pos (Or.inl hqp), ih (j + 1) (acc ++ [j]) hacc' hle' hrest, List.length_append, if_pos (beq_iff_eq.mpr hqp),
        Nat.add_right_comm]
      rfl
    · -- not a child of `p`, and no descendant either: `q ≤ p` is before everything in `acc`
      have hno : ¬ (q = p ∨ q ∈ acc) := fun h =>
        h.elim hqp fun h => Nat.lt_irrefl _ (Nat.lt_of_lt_of_le (hacc q h) (hle q List.mem_cons_self))
      rw [if_neg hno, ih (j + 1) acc hacc hle' hrest, if_neg (fun h => hqp (beq_iff_eq.mp h)), Nat.add_zero]

theorem subtreeCount_closed {N : Nat} (hN : 0 < N) (r n k : Nat) :
    subtreeCount (closedPrefix N r n (k + 1)) ((k - 1) / N) = k - N * ((k - 1) / N) := by
  unfold subtreeCount
  rw [closedPrefix_parents, descendants_length, count_closedParents hN, Nat.min_eq_right]
  · exact Nat.zero_add _
  · exact Nat.sub_le_iff_le_add'.mpr (Nat.le_of_pred_lt ((div_eq_block hN).mp rfl).2)
  · intro x hx; cases hx
  · intro q hq
    obtain ⟨j, hj, rfl⟩ := List.mem_map.mp hq
    exact Nat.div_le_div_right (Nat.le_sub_one_of_lt (List.mem_range.mp hj))
  · intro i q h
    exact closedParents_lt h

/-- the code's two slices seen as the single queue `parents ++ children`, head `p` -/
theorem naryStep_queue {N r n i p q : Nat} {nodes : Nodes} {parents children Q Q' : List Nat} (hne : parents ≠ [])
    (hQ : parents ++ children = p :: Q) (hq : (if subtreeCount nodes p = N then Q else p :: Q) = q :: Q') :
    ∃ s', naryStep N r n ⟨nodes, parents, children⟩ i = some s' ∧ s'.nodes = nodes ++ [((i + r) % n, q)] ∧
      s'.parents ≠ [] ∧ s'.parents ++ s'.children = q :: Q' ++ [nodes.length] := by
  cases parents with
  | nil => exact absurd rfl hne
  | cons p0 prest =>
    rw [List.cons_append, List.cons.injEq] at hQ
    obtain ⟨rfl, rfl⟩ := hQ
    unfold naryStep
    split at hq
    · next hfull =>
      simp only [hfull, if_true]
      cases prest with
      | nil =>
        rw [List.nil_append] at hq
        subst hq
        exact ⟨_, rfl, rfl, List.cons_ne_nil _ _, rfl⟩
      | cons a b =>
        rw [List.cons_append, List.cons.injEq] at hq
        obtain ⟨rfl, rfl⟩ := hq
        exact ⟨_, rfl, rfl, List.cons_ne_nil _ _, (List.append_assoc _ _ _).symm⟩
    · next hfull =>
      rw [List.cons.injEq] at hq
      obtain ⟨rfl, rfl⟩ := hq
      simp only [hfull, if_false]
      exact ⟨_, rfl, rfl, List.cons_ne_nil _ _, (List.append_assoc _ _ _).symm⟩

/-- the head of the queue when node `k + 1` is made: `(k - 1) / N` gives way to `k / N` exactly when it is full -/
theorem queue_head {N : Nat} (hN : 0 < N) (k : Nat) :
    k / N = if k - N * ((k - 1) / N) = N then (k - 1) / N + 1 else (k - 1) / N := by
  obtain ⟨hlo, hhi⟩ := (div_eq_block hN (x := k - 1)).mp rfl
  generalize (k - 1) / N = c at hlo hhi ⊢
  have hle : N * c ≤ k := Nat.le_trans hlo (Nat.sub_le k 1)
  split
  · next hfull => rw [Nat.eq_add_of_sub_eq hle hfull, Nat.add_mul_div_left _ _ hN, Nat.div_self hN, Nat.add_comm]
  · next hne =>
    exact (div_eq_block hN).mpr ⟨hle, Nat.lt_of_le_of_ne (Nat.le_of_pred_lt hhi)
      fun e => hne (by rw [e, Nat.add_sub_cancel_left])⟩

theorem drop_range_cons {c k : Nat} (h : c ≤ k) :
    (List.range (k + 1)).drop c = c :: (List.range (k + 1)).drop (c + 1) := by
  rw [List.drop_eq_getElem_cons (by rw [List.length_range]; exact Nat.lt_succ_of_le h), List.getElem_range]

/-- after node `k` was added: the queue holds the positions from the parent of node `k` up to `k` -/
def NaryInv (N r n k : Nat) (s : NarySt) : Prop :=
  s.nodes = closedPrefix N r n (k + 1) ∧ s.parents ≠ [] ∧
    s.parents ++ s.children = (List.range (k + 1)).drop ((k - 1) / N)

theorem naryStep_inv {N : Nat} (hN : 0 < N) (r n k : Nat) (s : NarySt) (h : NaryInv N r n k s) :
    ∃ s', naryStep N r n s (k + 1) = some s' ∧ NaryInv N r n (k + 1) s' := by
  obtain ⟨hnodes, hne, hq⟩ := h
  have hc : (k - 1) / N ≤ k := Nat.le_trans (Nat.div_le_self _ _) (Nat.sub_le _ _)
  have hk : k / N ≤ k := Nat.div_le_self _ _
  rw [drop_range_cons hc] at hq
  have hhead : (if subtreeCount s.nodes ((k - 1) / N) = N then (List.range (k + 1)).drop ((k - 1) / N + 1)
      else (k - 1) / N :: (List.range (k + 1)).drop ((k - 1) / N + 1)) =
      k / N :: (List.range (k + 1)).drop (k / N + 1) := by
    rw [hnodes, subtreeCount_closed hN, ← drop_range_cons hc, ← drop_range_cons hk, queue_head hN k]
    split <;> rfl
  obtain ⟨s', hs, hn', hne', hq'⟩ := naryStep_queue (r := r) (n := n) (i := k + 1) hne hq hhead
  refine ⟨s', hs, ?_, hne', ?_⟩
  · rw [hn', hnodes, closedPrefix_succ N r n (k + 1)]
    rfl
  · rw [hq', ← drop_range_cons hk, hnodes, closedPrefix_length, Nat.add_sub_cancel, List.range_succ (n := k + 1),
      List.drop_append_of_le_length (by rw [List.length_range]; exact Nat.le_succ_of_le hk)]

theorem naryLoop_inv {N : Nat} (hN : 0 < N) (r n : Nat) :
    ∀ (m k : Nat) (s : NarySt), NaryInv N r n k s →
      ∃ s', naryLoop N r n (List.range' (k + 1) m) s = some s' ∧ NaryInv N r n (k + m) s' := by
  intro m
  induction m with
  | zero => intro k s h; exact ⟨s, rfl, h⟩
  | succ m ih =>
    intro k s h
    obtain ⟨s1, hs1, h1⟩ := naryStep_inv hN r n k s h
    obtain ⟨s2, hs2, h2⟩ := ih (k + 1) s1 h1
    rw [Nat.add_right_comm] at h2
    refine ⟨s2, ?_, h2⟩
    rw [List.range'_succ, naryLoop, hs1]
    exact hs2

theorem naryClosed_length (N r n : Nat) : (naryClosed N r n).length = n := by
  rw [naryClosed, List.length_map, List.length_range]

theorem naryClosed_parents (N r n : Nat) : ((naryClosed N r n).drop 1).map (·.2) = closedParents N (n - 1) := by
  cases n with
  | zero => rfl
  | succ k => exact closedPrefix_parents N r (k + 1) k

theorem rot_cancel {n r : Nat} (hr : r ≤ n) (x : Nat) : ((x + r) % n + (n - r)) % n = x % n := by
  rw [Nat.mod_add_mod, Nat.add_assoc, Nat.add_sub_cancel' hr, Nat.add_mod_right]

theorem search_none {keys : List Nat} {k : Nat} (h : k ∉ keys) : search keys k = none := by
  unfold search
  rw [List.findIdx?_eq_none_iff]
  intro x hx
  simp only [beq_eq_false_iff_ne]
  intro e; subst e; exact h hx

theorem search_some {keys : List Nat} {k : Nat} (h : k ∈ keys) :
    ∃ r, search keys k = some r ∧ r < keys.length ∧ keys.getD r 0 = k ∧ ∀ j, j < r → keys.getD j 0 ≠ k := by
  unfold search
  cases hs : keys.findIdx? (· == k) with
  | none =>
    rw [List.findIdx?_eq_none_iff] at hs
    have := hs k h
    simp at this
  | some r =>
    rw [List.findIdx?_eq_some_iff_getElem] at hs
    obtain ⟨hr, hk, hbefore⟩ := hs
    refine ⟨r, rfl, hr, ?_, ?_⟩
    · rw [List.getD_eq_getElem?_getD, List.getElem?_eq_getElem hr]
      simpa using hk
    · intro j hj
      have := hbefore j hj
      rw [List.getD_eq_getElem?_getD, List.getElem?_eq_getElem (Nat.lt_trans hj hr)]
      simpa using this

theorem length_swapAt (keys : List Nat) (i j : Nat) : (swapAt keys i j).length = keys.length := by
  rw [swapAt, List.length_set, List.length_set]

theorem getD_swapAt (keys : List Nat) {i j : Nat} (hi : i < keys.length) (hj : j < keys.length) (p : Nat) :
    (swapAt keys i j).getD p 0 = if p = j then keys.getD i 0 else if p = i then keys.getD j 0 else keys.getD p 0 := by
  simp only [swapAt, List.getD_eq_getElem?_getD, List.getElem?_set, List.length_set, hi, hj, if_true, eq_comm (a := p)]
  split
  · rfl
  · split <;> rfl

/-- from the root `Visit` reaches every node: each node's parent is the root or was reached before -/
theorem descendants_root : ∀ (ps : List Nat) (j : Nat) (acc : List Nat), 1 ≤ j →
    (∀ x, 1 ≤ x → x < j → x ∈ acc) → (∀ i q, ps[i]? = some q → q < j + i) →
    (descendants 0 ps j acc).length = acc.length + ps.length := by
  intro ps
  induction ps with
  | nil => intro j acc _ _ _; rfl
  | cons q rest ih =>
    intro j acc hj hacc hlt
    have hq : q < j := hlt 0 q rfl
    have hc : q = 0 ∨ q ∈ acc := (Nat.eq_zero_or_pos q).imp_right fun h => hacc q h hq
    rw [descendants, if_pos hc, ih (j + 1) (acc ++ [j]) (Nat.le_succ_of_le hj), List.length_append, List.length_cons,
      Nat.add_right_comm]
    · rfl
    · intro x hx hxj
      rcases Nat.lt_succ_iff_lt_or_eq.mp hxj with h | h
      · exact List.mem_append_left _ (hacc x hx h)
      · exact List.mem_append_right _ (List.mem_singleton.mpr h)
    · intro i q' h
      rw [Nat.add_right_comm]; exact hlt (i + 1) q' h

theorem size_eq_length (t : Nodes) (hne : t ≠ [])
    (wf : ∀ i q, ((t.drop 1).map (·.2))[i]? = some q → q < 1 + i) : size t = t.length := by
  unfold size subtreeCount
  rw [descendants_root _ 1 [] (Nat.le_refl 1) (fun x hx hx1 => absurd hx (Nat.not_le_of_lt hx1)) wf, List.length_nil,
    Nat.zero_add, List.length_map, List.length_drop, Nat.sub_add_cancel (List.length_pos_iff.mpr hne)]

theorem usesList_of_members {t : Nodes} {n : Nat} (h : ∀ m, m < n → m ∈ t.map (·.1)) : usesList t n = true := by
  unfold usesList
  rw [List.all_eq_true]
  intro m hm
  obtain ⟨x, hx, hxe⟩ := List.mem_map.mp (h m (List.mem_range.mp hm))
  exact List.any_eq_true.mpr ⟨x, hx, beq_iff_eq.mpr hxe⟩

theorem filter_ge_length (c : Nat) : ∀ n, ((List.range n).filter fun p => decide (c ≤ p)).length = n - c := by
  intro n
  induction n with
  | zero => rw [Nat.zero_sub]; rfl
  | succ k ih =>
    rw [List.range_succ, List.filter_append, List.length_append, ih, List.filter_cons, List.filter_nil]
    by_cases h : c ≤ k
    · rw [if_pos (decide_eq_true h), Nat.succ_sub h]; rfl
    · rw [if_neg (fun h' => h (of_decide_eq_true h')), Nat.sub_eq_zero_of_le (Nat.le_of_not_le h),
        Nat.sub_eq_zero_of_le (Nat.lt_of_not_le h)]
      rfl

end C12
